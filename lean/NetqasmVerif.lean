import NetqasmVerif.Model.Basic
import NetqasmVerif.Model.Codec
import NetqasmVerif.Model.Cyc
import NetqasmVerif.Model.Gates
import NetqasmVerif.Model.NvDecomp
import NetqasmVerif.Model.Pauli
import NetqasmVerif.Model.Toolbox
import NetqasmVerif.Props.C10
import NetqasmVerif.Model.QubitMgr
import NetqasmVerif.Lemmas.QubitRun
import NetqasmVerif.Model.Template
import NetqasmVerif.Model.Angle
import NetqasmVerif.Model.Hub
import NetqasmVerif.Props.C15
import NetqasmVerif.Props.C16
import NetqasmVerif.Props.C17
import NetqasmVerif.Model.Transpile
import NetqasmVerif.Props.C08
import NetqasmVerif.Model.Exec
import NetqasmVerif.Model.Epr
import NetqasmVerif.Model.EprReq
import NetqasmVerif.Props.C11
import NetqasmVerif.Props.C12
import NetqasmVerif.Model.Asm
import NetqasmVerif.Model.AsmText
import NetqasmVerif.Model.Sdk
import NetqasmVerif.Props.C12Bridge
import NetqasmVerif.Model.SdkExec
import NetqasmVerif.Model.SdkHost
import NetqasmVerif.Props.QlinkObligations
import NetqasmVerif.Model.QubitExec
import NetqasmVerif.Props.C12Controller
