/-
C12 — Controller matches entanglement responses to requests under any interleaving.

Transition system: `NQ.Epr.step` (Model/Epr.lean); `Reach okf node s` = `s` is reachable from the initial
state by ANY finite sequence of non-raising actions (instruction steps of any live subroutine of any
application — create/recv/qalloc/qfree/array/store/wait —, response deliveries, polls). No bound on the
number of requests, pairs, applications, subroutines or on the length of the schedule.

Environment assumptions appear as hypotheses / as the `none` (raises) outcome of the model:
* `PosReqs s`: every request issued so far asked for ≥ 1 pair (a 0-pair request is never retired by
  `_handle_last_epr_pair`, whose test is `pairs_left == 0` after a decrement);
* the issuing subroutine is live and the result array is long enough when a response is consumed —
  otherwise the handler raises (`step … = none`), so such a schedule is not a run;
* LINK-LAYER ORDER (environment assumption of the *interpretation*): the responses of one queue (remote
  node, purpose, role) arrive in the order of the requests they answer, with fresh physical ids. The
  bookkeeping never reads `sequence_number`; "pair k of a request" is by definition the k-th response it
  consumes, and equals the k-th pair generated for it under link-layer order provided the requests of the
  queue have one type (see the observation `measure_overtakes_deferred_keep` for what happens otherwise).
-/
import NetqasmVerif.Lemmas.EprBook
namespace NQ.C12
open NQ NQ.Epr

/-- (i) Every delivered response is, at every moment, in exactly one place: the pending list or the
consumption history (where each entry names exactly one consuming request), and delivery ids are unique.
`Perm` = equality as multisets. -/
theorem exactly_once {okf : Nat} {node : Int} {s : State} (h : Reach okf node s) :
    (s.pending ++ s.log.map (·.resp)).Perm s.delivered ∧ (s.delivered.map (·.id)).Nodup := by
  obtain ⟨hp, hids⟩ : OnceL s.pending s.log s.delivered s.nextResp := h.book.inv.once
  exact ⟨hp, by rw [hids]; exact List.nodup_range⟩

/-- (i′) counting form: a delivered response occurs exactly once in pending ++ consumed. -/
theorem exactly_once_count {okf : Nat} {node : Int} {s : State} (h : Reach okf node s) (r : Resp)
    (hr : r ∈ s.delivered) : (s.pending ++ s.log.map (·.resp)).count r = 1 := by
  obtain ⟨hp, hnd⟩ := exactly_once h
  rw [hp.count_eq]
  have : s.delivered.Nodup := List.Pairwise.of_map (·.id) (fun a b h hab => h (by rw [hab])) hnd
  rw [this.count, if_pos hr]

/-- (ii)+(iii, indices)+(iv): for every queue `κ` = (remote node, purpose, role) the consumption
history restricted to `κ`, as (request id, pair index) pairs, is exactly the canonical oldest-first
schedule: all pairs `0 … tot-1` in order of every retired request (`fin`, in issue order), followed by
pairs `0 … tot-left-1` of the current head of the queue; the requests still queued are precisely the
issued ones that are not retired, in issue order, each with `1 ≤ left ≤ tot`, and only the head has
consumed anything. Hence a response is only ever consumed by the oldest outstanding request of its key,
the k-th response a request consumes has pair index k, and a request is retired after exactly `tot`
responses and not before. -/
theorem consumed_by_oldest_in_order {okf : Nat} {node : Int} {s : State} (h : Reach okf node s)
    (hpos : PosReqs s) (κ : Key) :
    ∃ fin : List Req,
      issuedFor s κ = fin ++ (getQ s.queues κ).map reset ∧
      doneFor s κ = canon fin ++ headPart (getQ s.queues κ) ∧
      (∀ r ∈ getQ s.queues κ, 1 ≤ r.left ∧ r.left ≤ r.tot ∧ r.key = κ) ∧
      (∀ r ∈ (getQ s.queues κ).tail, r.left = r.tot) :=
  h.book.inv.allQ hpos κ

/-- (ii, step form) the request that consumes a response is the head of the queue selected by the
response's (remote node, purpose, directionality), and the pair index recorded is `tot - left`. -/
theorem consumed_by_head {okf : Nat} {s s' : State} {r : Resp} (h : tryHandle okf s r = .yes s') :
    ∃ hd rest e, getQ s.queues (keyOf s.nodeId r) = hd :: rest ∧ s'.log = s.log ++ [e] ∧ e.resp = r ∧
      e.req = hd.id ∧ e.k = (hd.tot - hd.left).toNat := by
  obtain ⟨hd, rest, e, c⟩ := (tryHandle_yes h).book
  exact ⟨hd, rest, e, c.queue, c.log_eq, c.resp, c.req, c.k⟩

/-- (iv) a consumption removes the head request from its queue exactly when this was its last pair
(`left = 1` before, i.e. with (ii) it has now consumed `tot` responses); otherwise it stays at the head
with `left` decremented once. Nothing else changes in any queue. -/
theorem retired_iff_complete {okf : Nat} {s s' : State} {r : Resp} (h : tryHandle okf s r = .yes s') :
    ∃ hd rest, getQ s.queues (keyOf s.nodeId r) = hd :: rest ∧
      getQ s'.queues (keyOf s.nodeId r) =
        (if hd.left = 1 then rest else { hd with left := hd.left - 1 } :: rest) ∧
      ∀ κ, κ ≠ keyOf s.nodeId r → getQ s'.queues κ = getQ s.queues κ := by
  obtain ⟨hd, rest, e, c⟩ := (tryHandle_yes h).book
  have hqs := c.queues_eq
  simp only [Ctl.Book.ofEpr] at hqs
  refine ⟨hd, rest, c.queue, ?_, ?_⟩
  · rw [hqs, getQ_setQ_same]
    by_cases hl : hd.left = 1
    · simp [hl]
    · have : ¬ hd.left - 1 = 0 := by omega
      simp [hl, this]
  · intro κ hk; rw [hqs, getQ_setQ_ne _ _ _ _ hk]

/-- (iii) the consumption with pair index `k = tot - left` writes the response's fields to entries
`k·okf … k·okf + okf - 1` of the consuming request's result array (array of the application of the
issuing subroutine), and — for a keep response — maps unit-module position `q_array[k]` to the response's
physical qubit, leaving every other position as it was. (v) That position was free before. -/
theorem consume_effect {okf : Nat} {s s' : State} {r : Resp} (h : tryHandle okf s r = .yes s') :
    ∃ (hd : Req) (rest : List Req) (app : Nat) (m m' : AppMem) (arr' : Arr),
      getQ s.queues (keyOf s.nodeId r) = hd :: rest ∧
      getSub s.subs hd.sub = some app ∧ getApp s.apps app = some m ∧ getApp s'.apps app = some m' ∧
      getArr m'.arrays hd.resAddr = some arr' ∧
      (∀ j, j < r.fields.length →
        arr'[(hd.tot - hd.left).toNat * okf + j]? = (r.fields[j]?).map some) ∧
      (r.ty = .M → m'.unit = m.unit) ∧
      (r.ty = .K → ∃ qa qarr v i, hd.qAddr = some qa ∧ getArr m.arrays qa = some qarr ∧
        qarr[(hd.tot - hd.left).toNat]? = some (some v) ∧ (0 ≤ v → i = v.toNat) ∧
        m.unit.getD i none = none ∧ m'.unit.getD i none = some r.phys ∧
        ∀ j, j ≠ i → m'.unit.getD j none = m.unit.getD j none) :=
  (tryHandle_yes h).effect

/-- (v) history form, for every reachable state: every keep response in the consumption history was
mapped to a unit-module position that was free at that moment; measure responses map nothing. -/
theorem keep_only_when_free {okf : Nat} {node : Int} {s : State} (h : Reach okf node s) :
    ∀ e ∈ s.log, (e.resp.ty = .K → e.prev = none ∧ e.vq.isSome) ∧ (e.resp.ty = .M → e.vq = none) :=
  fun e he => (h.book.inv.log e he).2

/-- (v) for EVERY action (instruction, delivery, poll) from EVERY state: a unit-module entry holding a
physical qubit keeps it or is freed; it is never replaced by another qubit. During deliveries and polls
allocated entries do not change at all. -/
theorem unit_never_overwritten {okf : Nat} {s s' : State} {a : Action} (h : step okf s a = some s')
    (app i : Nat) (p : Int) (hp : mapped s app i = some p) :
    mapped s' app i = some p ∨ mapped s' app i = none :=
  step_noOverwrite h app i p hp

/-- Faults at the environment boundary: a `create_epr` / `recv_epr` whose call into the network stack
raised (`get_purpose_id`, or `put` — the request was never accepted by the stack) leaves the WHOLE state
as it was: no queue gains a request, nothing is consumed, no history entry. Issuing a request is atomic
with the stack's acceptance. (The raising subroutine stays registered: `execute_subroutine` does not
reach `_clear_subroutine`.) -/
theorem rejected_issue_unchanged {okf : Nat} {s s' : State} {sub : Nat}
    (h : step okf s (.rejected sub) = some s') : s' = s := by
  simp only [step] at h
  obtain ⟨_, _, _, _, hf⟩ := withApp_some h
  injection hf with hf
  exact hf.symm

/-- consequently every request in a queue of a reachable state was accepted: it is one of the issued
requests (the ghost list only `create` / `recv` extend) — a rejected instruction contributes none. -/
theorem queued_requests_were_issued {okf : Nat} {node : Int} {s : State} (h : Reach okf node s)
    (hpos : PosReqs s) (κ : Key) : ∀ r ∈ getQ s.queues κ, ∃ r0 ∈ s.issued, r0.id = r.id ∧ r0.key = κ := by
  obtain ⟨fin, hiss, _, _, _⟩ := consumed_by_oldest_in_order h hpos κ
  intro r hr
  have : reset r ∈ issuedFor s κ := by
    rw [hiss]; exact List.mem_append_right _ (List.mem_map_of_mem hr)
  simp only [issuedFor, issuedForL, List.mem_filter, decide_eq_true_eq] at this
  exact ⟨reset r, this.1, rfl, this.2⟩

/-- (v) the guard of a keep response is on the VIRTUAL qubit only: whenever the virtual qubit the head
request names for its next pair is allocated, the response is deferred — whatever physical qubit id the
response carries, in particular also when the unit module already maps that virtual qubit to the very same
physical id (a link layer with ONE communication qubit delivers every pair of a sequential request in the
same physical qubit: pair k+1 must wait until the program has freed pair k). -/
theorem busy_virtual_defers {okf : Nat} {s : State} {r : Resp} {hd : Req} {rest : List Req} {app : Nat}
    {m : AppMem} {qa : Int} {qarr : Arr} {v : Int}
    (hq : getQ s.queues (keyOf s.nodeId r) = hd :: rest) (hk : 0 ≤ hd.tot - hd.left)
    (hsub : getSub s.subs hd.sub = some app) (happ : getApp s.apps app = some m) (hK : r.ty = .K)
    (hqa : hd.qAddr = some qa) (harr : getArr m.arrays qa = some qarr)
    (hv : qarr[(hd.tot - hd.left).toNat]? = some (some v)) (hbusy : hasVirtual m v = true) :
    tryHandle okf s r = .no := by
  unfold tryHandle
  simp only [hq, hsub, happ, hK, hqa, harr, hv, hbusy]
  have : ¬ hd.tot - hd.left < 0 := by omega
  simp [this]

/-- non-vacuity, one communication qubit: a sequential receive-keep request for 2 pairs into virtual
qubit 0, both responses carry physical qubit 0. The second response stays pending while the first pair is
allocated (although the unit module already maps virtual 0 to physical 0) and is consumed after `qfree`. -/
theorem one_communication_qubit_defers :
    let acts : List Action :=
      [ .initApp 0 1, .startSub 0 0, .array 0 0 2, .store 0 0 0 (some 0), .store 0 0 1 (some 0), .array 0 1 4,
        .recv 0 7 3 (some 0) 1,
        .deliver .K 7 3 1 0 [10, 11], .deliver .K 7 3 1 0 [20, 21] ]
    ((run 2 (init 0) acts).map fun s => (s.log.map (fun e => e.resp.id), s.pending.map (·.id))) = some ([0], [1]) ∧
    ((run 2 (init 0) (acts ++ [.qfree 0 0, .poll])).map fun s =>
      (s.log.map (fun e => (e.resp.id, e.k, e.prev)), s.pending.map (·.id))) =
      some ([(0, 0, none), (1, 1, none)], []) := by
  decide +kernel

/-- (vi) a wait instruction completes (`waitOk = some true`) only if the awaited entries are defined:
all entries of the slice (wait_all), at least one (wait_any), the entry (wait_single). -/
theorem wait_sound {s : State} {sub : Nat} {addr : Int} {lo hi : Nat} :
    (waitOk s sub .all addr lo hi = some true →
      ∃ app m arr, getSub s.subs sub = some app ∧ getApp s.apps app = some m ∧
        getArr m.arrays addr = some arr ∧
        ∀ i, lo ≤ i → i < hi → i < arr.length → ∃ v, arr[i]? = some (some v)) ∧
    (waitOk s sub .any addr lo hi = some true →
      ∃ app m arr, getSub s.subs sub = some app ∧ getApp s.apps app = some m ∧
        getArr m.arrays addr = some arr ∧ ∃ i v, lo ≤ i ∧ i < hi ∧ arr[i]? = some (some v)) ∧
    (waitOk s sub .single addr lo hi = some true →
      ∃ app m arr v, getSub s.subs sub = some app ∧ getApp s.apps app = some m ∧
        getArr m.arrays addr = some arr ∧ arr[lo]? = some (some v)) := by
  refine ⟨fun h => ?_, fun h => ?_, fun h => ?_⟩
  · unfold waitOk at h
    split at h
    · cases h
    · rename_i app hsub
      split at h
      · cases h
      · rename_i m happ
        cases harr : getArr m.arrays addr with
        | none => rw [harr] at h; simp at h
        | some arr =>
          rw [harr] at h
          simp only [Option.some.injEq] at h
          refine ⟨app, m, arr, hsub, happ, harr, ?_⟩
          intro i h1 h2 h3
          rw [List.all_eq_true] at h
          have hmem : arr[i] ∈ (arr.drop lo).take (hi - lo) := by
            rw [List.mem_iff_getElem?]
            refine ⟨i - lo, ?_⟩
            rw [List.getElem?_take, if_pos (Nat.sub_lt_sub_right h1 h2), List.getElem?_drop,
              Nat.add_sub_cancel' h1]; exact List.getElem?_eq_getElem h3
          have := h _ hmem
          cases hv : arr[i] with
          | none => rw [hv] at this; cases this
          | some v => exact ⟨v, by rw [List.getElem?_eq_getElem h3, hv]⟩
  · unfold waitOk at h
    split at h
    · cases h
    · rename_i app hsub
      split at h
      · cases h
      · rename_i m happ
        cases harr : getArr m.arrays addr with
        | none => rw [harr] at h; simp at h
        | some arr =>
          rw [harr] at h
          simp only [Option.some.injEq] at h
          refine ⟨app, m, arr, hsub, happ, harr, ?_⟩
          rw [List.any_eq_true] at h
          obtain ⟨x, hx, hsome⟩ := h
          rw [List.mem_iff_getElem?] at hx
          obtain ⟨j, hj⟩ := hx
          rw [List.getElem?_take] at hj
          split at hj
          · rw [List.getElem?_drop] at hj
            cases hxv : x with
            | none => rw [hxv] at hsome; cases hsome
            | some v => exact ⟨lo + j, v, Nat.le_add_right _ _, Nat.add_lt_of_lt_sub' ‹_›, by rw [hj, hxv]⟩
          · cases hj
  · unfold waitOk at h
    split at h
    · cases h
    · rename_i app hsub
      split at h
      · cases h
      · rename_i m happ
        cases harr : getArr m.arrays addr with
        | none => rw [harr] at h; simp at h
        | some arr =>
          rw [harr] at h
          simp only at h
          split at h
          · cases h
          · rename_i x hx
            injection h with h
            cases hxv : x with
            | none => rw [hxv] at h; cases h
            | some v => exact ⟨app, m, arr, v, hsub, happ, harr, by rw [hx, hxv]⟩

/-- after a delivery or a poll nothing handleable is left pending: every response still pending has
no outstanding request for its key, or is a keep response whose virtual qubit is still allocated. -/
theorem handlePending_quiescent {okf : Nat} {s s' : State} (h : handlePending okf s = some s') :
    ∀ r ∈ s'.pending,
      getQ s'.queues (keyOf s'.nodeId r) = [] ∨
      (r.ty = .K ∧ ∃ hd rest app m qa qarr v, getQ s'.queues (keyOf s'.nodeId r) = hd :: rest ∧
        getSub s'.subs hd.sub = some app ∧ getApp s'.apps app = some m ∧ hd.qAddr = some qa ∧
        getArr m.arrays qa = some qarr ∧ qarr[(hd.tot - hd.left).toNat]? = some (some v) ∧
        hasVirtual m v = true) :=
  fun r hr => tryHandle_no (handlePending_idle h r hr)

/-- one application (2 qubits), one subroutine: a receive-keep request for 2 pairs on virtual qubits
[0, 1] while the program still holds qubit 0, and a create-measure request for 1 pair. Both keep
responses arrive early (deferred), then the measure response, then the program frees qubit 0 and the
controller polls. -/
def demo : List Action :=
  [ .initApp 0 2, .startSub 0 0,
    .array 0 0 2, .store 0 0 0 (some 0), .store 0 0 1 (some 1),   -- @0 = [0, 1]
    .array 0 1 4,                                                  -- result array (okf = 2)
    .array 0 2 2,                                                  -- result array of the M request
    .qalloc 0 0,
    .deliver .K 7 3 1 100 [10, 11],                                -- before the recv instruction ran
    .recv 0 7 3 (some 0) 1,
    .create 0 7 3 false 1 none 2,
    .deliver .K 7 3 1 101 [20, 21],
    .deliver .M 7 3 0 0 [30, 31],
    .wait 0 .all 1 0 4,
    .qfree 0 0,
    .poll,
    .wait 0 .all 1 0 4 ]

/-- the run succeeds; history = responses 2 (M), 0, 1 consumed by requests 1, 0, 0 with pair indices
0, 0, 1; nothing pending; both queues empty; the result arrays hold the slices; qubits mapped. -/
theorem scenario_nonvacuous :
    ((run 2 (init 0) demo).map fun s => s.log.map (fun e => (e.resp.id, e.req, e.k, e.prev))) =
      some [(2, 1, 0, none), (0, 0, 0, none), (1, 0, 1, none)] ∧
    ((run 2 (init 0) demo).map fun s => (s.pending.length, waitOk s 0 .all 1 0 4)) = some (0, some true) ∧
    ((run 2 (init 0) demo).map fun s => (getQ s.queues ⟨7, 3, false⟩, getQ s.queues ⟨7, 3, true⟩)) =
      some ([], []) ∧
    ((run 2 (init 0) demo).bind fun s => (getApp s.apps 0).bind fun m => getArr m.arrays 1) =
      some [some 10, some 11, some 20, some 21] ∧
    ((run 2 (init 0) demo).bind fun s => (getApp s.apps 0).bind fun m => getArr m.arrays 2) =
      some [some 30, some 31] ∧
    ((run 2 (init 0) demo).bind fun s => (getApp s.apps 0).map fun m => m.unit) =
      some [some 100, some 101] := by
  decide +kernel

/-- the same run is reachable, so the hypotheses of the trace theorems are satisfiable -/
example : ∃ s, Reach 2 0 s ∧ PosReqs s ∧ s.log.length = 3 := by
  have hrun : ∀ (acts : List Action) (s s' : State), Reach 2 0 s → run 2 s acts = some s' → Reach 2 0 s' := by
    intro acts
    induction acts with
    | nil => intro s s' hr h; simp [run] at h; subst h; exact hr
    | cons a as ih =>
      intro s s' hr h
      unfold run at h
      split at h
      · cases h
      · rename_i s1 h1
        exact ih _ _ (.step hr h1) h
  have h : ((run 2 (init 0) demo).map fun s => (decide (∀ r ∈ s.issued, 1 ≤ r.tot), s.log.length)) =
      some (true, 3) := by decide +kernel
  cases hd : run 2 (init 0) demo with
  | none => rw [hd] at h; cases h
  | some s =>
    simp only [hd, Option.map_some, Option.some.injEq, Prod.mk.injEq, decide_eq_true_eq] at h
    exact ⟨s, hrun demo _ _ .init hd, h.1, h.2⟩

/-- while qubit 0 is allocated both keep responses are deferred (wait_all blocks) -/
example : ((run 2 (init 0) (demo.take 14)).map fun s => (s.pending.map (·.id), waitOk s 0 .all 1 0 4)) =
    some ([0, 1], some false) := by decide +kernel

/-- OBSERVATION (kept as an observation, not a violation of (i)–(vi)).
Environment assumption it depends on — LINK-LAYER ORDER: the responses of one queue (remote node,
purpose, role) are delivered in the order of the requests they answer (request 0's pairs first, then
request 1's, …; the link layer serves one (node, purpose) FIFO). Under that assumption, together with
"first handleable response wins", the response consumed by the head request is always one generated
for it whenever all requests of the queue have the same type (all keep responses of a queue wait for the
same virtual qubit, so none can overtake another).
The run below is what happens with requests of DIFFERENT types in one queue: a keep request (2 pairs,
virtual qubit busy) followed by a measure request on the same socket. The first keep response is deferred;
the measure response that answers the SECOND request arrives (in request order!) and is consumed by the
FIRST request, because it is the oldest outstanding one and a measure response needs no qubit. Every
statement (i)–(vi) holds for this run (the oldest request consumed it, slice k of its array was
filled, …); what fails is the identification "k-th response consumed by a request = k-th pair the link
layer generated for that request", which needs the one-type-per-queue side condition in addition to
link-layer order. The SDK issues such mixed sequences only if an application calls `create_keep` /
`recv_keep` with a busy virtual id and then a `*_measure` call on the same socket before the keep pairs
were delivered. -/
theorem measure_overtakes_deferred_keep :
    ((run 2 (init 0)
      [ .initApp 0 1, .startSub 0 0, .array 0 0 2, .store 0 0 0 (some 0), .store 0 0 1 (some 0),
        .array 0 1 4, .array 0 2 2,
        .qalloc 0 0,
        .create 0 7 3 true 2 (some 0) 1,       -- request 0: keep, 2 pairs, result array @1
        .create 0 7 3 false 1 none 2,          -- request 1: measure, result array @2
        .deliver .K 7 3 0 100 [10, 11],        -- deferred: virtual qubit 0 is allocated
        .deliver .M 7 3 0 0 [30, 31] ]).map fun s =>
      (s.log.map (fun e => (e.resp.id, e.req)), s.pending.map (·.id))) = some ([(1, 0)], [0]) := by
  decide +kernel

end NQ.C12
