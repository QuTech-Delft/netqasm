/-
C17 — Printed assembly parses back to the same instruction.

Model: `Model/Text.lean` — the printer (`_pretty_print` of `netqasm/lang/instr/base.py`, operand
`__str__`), and of `netqasm/lang/parsing/text.py` the lexer (`_create_subroutine`,
`_parse_operand`, `_parse_value`, `parse_address`) and the assembler (`_replace_constants`,
`_build_subroutine`).

The property is `parse_print` (any table and symbols satisfying the decidable `rowTextOk` /
`symsOk`: the printed lines parse back to the instructions) with its instances
`vanilla_parse_print`, `nv_parse_print`, `reids_parse_print` for /repo, and `text_binary_text`
(text → binary → text) with `nv_text_binary_text`, `reids_text_binary_text` and, because of the
opcode clash F1, only `vanilla_text_binary_text_partial` for the vanilla flavour.
`parse_print_tokens` is the token-level half on its own; `parse_print_rows` the form for tables
with shadowed rows; `parse_print_after_update` the form for instructions modified in place.
-/
import NetqasmVerif.Lemmas.TextProgram
import NetqasmVerif.Lemmas.TextSourceLine
import NetqasmVerif.Props.TextObligations
import NetqasmVerif.Props.C01
namespace NQ.C17
open NQ NQ.Text

/-- **Token level, any table.** If the rows satisfy the decidable `rowTextOk` (mnemonic ↦ class
through `GenericInstr` and the flavour's name map; every immediate position exempt from constant
replacement) and the operands have the constructors of their slots, assembling the printed tokens
yields exactly the instructions: no `set` is inserted, every mnemonic finds its class. -/
theorem parse_print_tokens (T : Table) (S : Syms) (exc : List (String × Nat)) (generic : List String)
    (hT : T.all (rowTextOk T exc generic) = true) (is : List Instr)
    (h : ∀ i ∈ is, ∃ row, rowOf T i.cls = some row ∧ kindsOk row.shape i.ops = true) :
    assemble T S exc (is.map (toksOf T)) = .ok is :=
  assemble_print T S exc is fun i hi =>
    let ⟨row, hr, hk⟩ := h i hi
    printable_of_rowOk hr (List.all_eq_true.1 hT row (rowOf_some hr).1) hk

theorem parse_print_tokens_one (T : Table) (S : Syms) (exc : List (String × Nat)) (generic : List String)
    (hT : T.all (rowTextOk T exc generic) = true) (i : Instr) (row : Row)
    (hr : rowOf T i.cls = some row) (hk : InRangeOps row.shape i.ops = true) :
    assemble T S exc [printToks row.mn i.ops] = .ok [i] := by
  have := parse_print_tokens T S exc generic hT [i]
    (List.forall_mem_singleton.2 ⟨row, hr, (inRangeOps_kinds_banks hk).1⟩)
  rwa [List.map_cons, List.map_nil, toksOf_of_row hr] at this

theorem vanilla_rows_ok : Gen.vanillaRows.all
    (rowTextOk Gen.vanillaRows Gen.replaceExceptions Gen.genericNames) = true := TextObl.vanilla_rows_ok
theorem nv_rows_ok : Gen.nvRows.all
    (rowTextOk Gen.nvRows Gen.replaceExceptions Gen.genericNames) = true := TextObl.nv_rows_ok
theorem reids_rows_ok : Gen.reidsRows.all
    (rowTextOk Gen.reidsRows Gen.replaceExceptions Gen.genericNames) = true := TextObl.reids_rows_ok

/-- `int(str(v)) = v` through `is_number`/`int`, negative integers included -/
theorem int_str_roundtrip (v : Int) : parseConst (showInt v) = some v := parseConst_showInt v

/-- every operand form: `parse_operand(str(o))` is the token of `o` (`Rn`, integers,
`@a`, `@a[Rn]`, `@a[Rn:Rm]`) -/
theorem operand_roundtrip (S : Syms) (hS : symsOk S = true) (o : Operand)
    (hb : banksOk S.banks.length o = true) : parseOperand S (showOperand S o) = .ok (opTok o) :=
  parseOperand_show (sok_of S hS) o hb

/-- **`parse_print`, character level, any table.** If the symbols satisfy the decidable
`symsOk` and every row the decidable `rowTextOk`, then for every list of instructions of
the table with in-range operands (negative integers, entries, slices with register indices
of every bank) the printed text — one `str(instr)` per line — lexes and assembles back to
exactly these instructions. -/
theorem parse_print (T : Table) (S : Syms) (generic : List String) (exc : List (String × Nat))
    (hS : symsOk S = true) (hT : T.all (rowTextOk T exc generic) = true) (is : List Instr)
    (h : ∀ i ∈ is, ∃ row, rowOf T i.cls = some row ∧ InRangeOps row.shape i.ops = true) :
    parseText T S generic exc (is.map (showLine T S)) = .ok is :=
  parseText_show T S generic exc hS hT is h

theorem syms_ok : symsOk Gen.syms = true := TextObl.syms_ok

/-- the property for the three flavours of /repo, no side condition -/
theorem vanilla_parse_print (is : List Instr)
    (h : ∀ i ∈ is, ∃ row, rowOf Gen.vanillaRows i.cls = some row ∧ InRangeOps row.shape i.ops = true) :
    parseText Gen.vanillaRows Gen.syms Gen.genericNames Gen.replaceExceptions
      (is.map (showLine Gen.vanillaRows Gen.syms)) = .ok is :=
  parse_print _ _ _ _ syms_ok vanilla_rows_ok is h

theorem nv_parse_print (is : List Instr)
    (h : ∀ i ∈ is, ∃ row, rowOf Gen.nvRows i.cls = some row ∧ InRangeOps row.shape i.ops = true) :
    parseText Gen.nvRows Gen.syms Gen.genericNames Gen.replaceExceptions
      (is.map (showLine Gen.nvRows Gen.syms)) = .ok is :=
  parse_print _ _ _ _ syms_ok nv_rows_ok is h

theorem reids_parse_print (is : List Instr)
    (h : ∀ i ∈ is, ∃ row, rowOf Gen.reidsRows i.cls = some row ∧ InRangeOps row.shape i.ops = true) :
    parseText Gen.reidsRows Gen.syms Gen.genericNames Gen.replaceExceptions
      (is.map (showLine Gen.reidsRows Gen.syms)) = .ok is :=
  parse_print _ _ _ _ syms_ok reids_rows_ok is h

theorem inRange_of_encodeInstr {T : Table} {i : Instr} {b : List Nat} (hb : encodeInstr T i = some b) :
    ∃ row, rowOf T i.cls = some row ∧ InRangeOps row.shape i.ops = true := by
  unfold encodeInstr at hb
  split at hb
  · rename_i row hrow
    obtain ⟨body, hbody, _⟩ := encodeRow_some hb
    exact ⟨row, hrow, by rw [← encodeOps_isSome, hbody]; rfl⟩
  · cases hb

theorem inRange_of_encodes (T : Table) : ∀ (is : List Instr) (bs : List Nat),
    encodeInstrs T is = some bs →
    ∀ i ∈ is, ∃ row, rowOf T i.cls = some row ∧ InRangeOps row.shape i.ops = true
  | [], _, _, _, hi => by cases hi
  | j :: js, _, h, i, hi => by
    simp only [encodeInstrs] at h
    split at h
    · rename_i b bs' hb hbs'
      rcases List.mem_cons.1 hi with rfl | hm
      · exact inRange_of_encodeInstr hb
      · exact inRange_of_encodes T js bs' hbs' i hm
    · cases h

/-- **Stability, any table without opcode clash on the instructions used.** Take the text
of a subroutine, parse it, encode it, decode the bytes and print again: the same text
comes out, and it parses to the same instructions again. -/
theorem text_binary_text (T : Table) (S : Syms) (generic : List String) (exc : List (String × Nat))
    (hS : symsOk S = true) (hT : T.all (rowTextOk T exc generic) = true) (s : Sub) (bs : List Nat)
    (henc : encodeSub T s = some bs)
    (hc : ∀ i ∈ s.instrs, ∀ row, rowOf T i.cls = some row →
      ∀ c ∈ opcodeClashes T, c.1 ≠ row.opcode) :
    parseText T S generic exc (s.instrs.map (showLine T S)) = .ok s.instrs ∧
    ∃ s', decodeSub T bs = some s' ∧
      s'.instrs.map (showLine T S) = s.instrs.map (showLine T S) ∧
      parseText T S generic exc (s'.instrs.map (showLine T S)) = .ok s.instrs := by
  have hin : ∀ i ∈ s.instrs, ∃ row, rowOf T i.cls = some row ∧ InRangeOps row.shape i.ops = true := by
    unfold encodeSub at henc
    split at henc
    · split at henc
      · rename_i body hb; exact inRange_of_encodes T _ body hb
      · cases henc
    · cases henc
  have hp := parse_print T S generic exc hS hT s.instrs hin
  exact ⟨hp, s, C01.subroutine_roundtrip T s bs henc hc, rfl, hp⟩

/-- NV and REIDS have no opcode clash (C01): text → binary → text gives the same text for every
subroutine that encodes -/
theorem nv_text_binary_text (s : Sub) (bs : List Nat) (henc : encodeSub Gen.nvRows s = some bs) :
    ∃ s', decodeSub Gen.nvRows bs = some s' ∧
      s'.instrs.map (showLine Gen.nvRows Gen.syms) = s.instrs.map (showLine Gen.nvRows Gen.syms) :=
  let ⟨_, s', h1, h2, _⟩ := text_binary_text _ Gen.syms _ _ syms_ok nv_rows_ok s bs henc
    (fun i _ => clashFree_of_nil C01.nv_unique.1 i.cls)
  ⟨s', h1, h2⟩

theorem reids_text_binary_text (s : Sub) (bs : List Nat) (henc : encodeSub Gen.reidsRows s = some bs) :
    ∃ s', decodeSub Gen.reidsRows bs = some s' ∧
      s'.instrs.map (showLine Gen.reidsRows Gen.syms) = s.instrs.map (showLine Gen.reidsRows Gen.syms) :=
  let ⟨_, s', h1, h2, _⟩ := text_binary_text _ Gen.syms _ _ syms_ok reids_rows_ok s bs henc
    (fun i _ => clashFree_of_nil C01.reids_unique.1 i.cls)
  ⟨s', h1, h2⟩

/-- Vanilla. Full statement: as `nv_text_binary_text` for `Gen.vanillaRows` — false on the
current tree because of the opcode clash F1 of C01 (see the counter-example below; printing
and parsing themselves are unconditional: `vanilla_parse_print`). Proved part: subroutines
avoiding the opcodes of the recorded clashes. -/
theorem vanilla_text_binary_text_partial (s : Sub) (bs : List Nat)
    (henc : encodeSub Gen.vanillaRows s = some bs)
    (hk : ∀ i ∈ s.instrs, ∀ row, rowOf Gen.vanillaRows i.cls = some row →
      ∀ k ∈ Gen.knownOpcodeClashes, k.2.1 ≠ row.opcode) :
    ∃ s', decodeSub Gen.vanillaRows bs = some s' ∧
      s'.instrs.map (showLine Gen.vanillaRows Gen.syms)
        = s.instrs.map (showLine Gen.vanillaRows Gen.syms) :=
  ⟨s, C01.vanilla_roundtrip_partial s bs henc hk, rfl⟩

/-- the counter-example (known finding F1): the text `meas_basis Q1 M2 3 4 5 6` parses,
encodes, and the bytes decode and print as `mov Q1 M2` in the vanilla flavour -/
theorem vanilla_text_binary_text_counterexample :
    let T := Gen.vanillaRows
    (match parseText T Gen.syms Gen.genericNames Gen.replaceExceptions
        ["meas_basis Q1 M2 3 4 5 6".toList] with
      | .ok [i] => ((encodeInstr T i).bind (decodeInstr T)).map
          (fun j => String.ofList (showLine T Gen.syms j))
      | _ => none) = some "mov Q1 M2" := by decide +kernel

/-! ### One lexer for printed lines (C17) and source lines (C03)

What the theorems of this file cover, precisely:
* `parse_print` — whole programs of PRINTED lines (`str(instr)`: mnemonic, registers, integers,
  `@a`, `@a[Rn]`, `@a[Rn:Rm]`), lexed by `parseLine` (split at single spaces) and assembled.
* `source_line_text_roundtrip` (below) — single SOURCE lines `mnemonic op₁ … opₙ` with every
  proto operand form of C03 (`Asm.POperand`: label operands, integer literals as index or slice
  bound, …): `parseLine` reads them back, and the faithful model of `group_by_word`
  (`AsmText.groupByWord`, the tokeniser of C03's model) cuts exactly the same words — so both
  properties rest on one lexer (`tokeniser_bridge`) and one operand parser
  (`Text.parseOperand`; `C03.source_operand_text_roundtrip` is the operand-level instance).
* Not covered by a theorem here (covered by C03's theorems `macros_tokenwise` etc. or by C03's
  differential streams only): label-definition lines `L:`, `instr(args)` argument brackets,
  macro substitution, comments, blank lines, the preamble, templates `{x}`. The model's
  `parseLine` answers `unsupported` on the first three and `parseLines` on comments/preamble;
  the malformed stream of checks/c17.py skips such inputs. -/

/-- on a line without an opening argument bracket, `group_by_word(line, brackets)` is the split
at single spaces of the stripped line that `parseLine` uses -/
theorem tokeniser_bridge (ob cb : Char) (hob : ob ≠ ' ') (line : List Char)
    (h : ob ∉ AsmText.strip line) :
    AsmText.groupByWord ob cb line = some (splitOn ' ' (AsmText.strip line)) :=
  -- `hob` is not needed: `group_by_word` looks for a bracket only inside the word it is cutting
  AsmText.groupByWord_eq_splitOn ob cb line h

theorem src_syms_ok : srcSymsOk Gen.syms = true := TextObl.src_syms_ok

/-- printed lines through C03's tokeniser: mnemonic and printed operands, no argument list -/
theorem printed_line_tokenises (T : Table) (i : Instr) (row : Row)
    (hT : T.all (rowTextOk T Gen.replaceExceptions Gen.genericNames) = true)
    (hr : rowOf T i.cls = some row) (hk : InRangeOps row.shape i.ops = true) (cb : Char) :
    AsmText.groupByWord Gen.syms.argOpen cb (showLine T Gen.syms i)
      = some (row.mn.toList :: i.ops.map (showOperand Gen.syms)) ∧
    AsmText.splitOfBracket Gen.syms.argOpen cb row.mn.toList = some (row.mn.toList, []) := by
  have hS := sok_of Gen.syms syms_ok
  have ⟨_, hg, hne, hmn⟩ :=
    rowFormOk_iff.1 (rowTextOk_iff.1 (List.all_eq_true.1 hT row (rowOf_some hr).1)).2.2
  rw [showLine_of_row hr]
  exact printed_line_groupByWord hS (srcSymsOk_iff.1 src_syms_ok).2.2.2.2 cb
    (generic := Gen.genericNames) ⟨hne, hmn, hg⟩ i.ops ((inRangeOps_kinds_banks hk).2 _ hS.nbanks)

/-- **source lines** (shared with C03): for every `GenericInstr` mnemonic and every list of
source operands (`pOpOk`: existing register banks; label operands that are variable names
and not themselves numbers / register names; no templates), `parseLine` reads the line back as
that command and `group_by_word` cuts the same words. -/
theorem source_line_text_roundtrip (mn : String) (hne : mn.toList ≠ [])
    (hmn : ∀ c ∈ mn.toList, mnCharOk c = true) (hg : Gen.genericNames.contains mn = true)
    (ops : List Asm.POperand) (ho : ∀ o ∈ ops, pOpOk Gen.syms o) (cb : Char) :
    parseLine Gen.syms Gen.genericNames (mn.toList ++ showSrcOps Gen.syms ops)
      = .ok ⟨mn, ops.map tokOfP⟩ ∧
    AsmText.groupByWord Gen.syms.argOpen cb (mn.toList ++ showSrcOps Gen.syms ops)
      = some (mn.toList :: ops.map (showPOp Gen.syms)) :=
  parseLine_source ⟨sok_of Gen.syms syms_ok, src_syms_ok⟩ ⟨hne, hmn, hg⟩ ops ho cb

-- non-vacuity: `store 7 @0[R1:3]`-like source operands and a label operand satisfy `pOpOk`
example : pOpOk Gen.syms (.slice 0 (.reg ⟨0, 1⟩) (.lit 3)) ∧ pOpOk Gen.syms (.lab "LOOP_EXIT") ∧
    Gen.genericNames.contains "beq" = true := by
  refine ⟨by simp only [pOpOk, valOfRI, valOk]; decide, ?_,
    List.contains_iff_mem.2 (List.mem_of_getElem? (i := 11) rfl)⟩
  simp only [pOpOk]; decide +kernel
example : String.ofList ("beq".toList ++ showSrcOps Gen.syms
    [.reg ⟨0, 0⟩, .lit (-1), .lab "LOOP_EXIT", .entry 2 (.lit 5)]) = "beq R0 -1 LOOP_EXIT @2[5]" := by
  decide +kernel

/-! ### Instructions that are modified after they have been printed

The property speaks about *the text printed for an instruction*: whatever happened to the
object before (printed by a logger, operands re-assigned in place, branch re-targeted by the
transpiler), the text printed now must parse to the instruction as it is now. -/

/-- printing (observing) does not change the instruction -/
theorem observe_id (i : Instr) : applyIUpd i .observe = i := rfl

/-- the printed line is a function of the current class and operand values: two histories that
end in the same instruction print the same text (no memo of an earlier print) -/
theorem print_depends_on_current_values (T : Table) (S : Syms) (i₁ i₂ : Instr) (us₁ us₂ : List IUpd)
    (h : applyIUpds i₁ us₁ = applyIUpds i₂ us₂) :
    showLine T S (applyIUpds i₁ us₁) = showLine T S (applyIUpds i₂ us₂) := by rw [h]

theorem applyIUpds_cls (i : Instr) (us : List IUpd) : (applyIUpds i us).cls = i.cls := by
  induction us generalizing i with
  | nil => rfl
  | cons u us ih => exact (ih (applyIUpd i u)).trans (by cases u <;> rfl)

/-- **Sequence form of `parse_print`.** Take any instructions, each with its own history of
prints and in-place operand updates. If the operands they hold *now* are in range, the text
printed now — one line per instruction — parses back to exactly the current instructions. -/
theorem parse_print_after_update (T : Table) (S : Syms) (generic : List String) (exc : List (String × Nat))
    (hS : symsOk S = true) (hT : T.all (rowTextOk T exc generic) = true)
    (hs : List (Instr × List IUpd))
    (h : ∀ p ∈ hs, ∃ row, rowOf T p.1.cls = some row ∧
      InRangeOps row.shape (applyIUpds p.1 p.2).ops = true) :
    parseText T S generic exc (hs.map (fun p => showLine T S (applyIUpds p.1 p.2)))
      = .ok (hs.map (fun p => applyIUpds p.1 p.2)) := by
  have := parse_print T S generic exc hS hT (hs.map (fun p => applyIUpds p.1 p.2)) (by
    intro i hi
    obtain ⟨p, hp, rfl⟩ := List.mem_map.1 hi
    obtain ⟨row, hr, hin⟩ := h p hp
    exact ⟨row, by rw [applyIUpds_cls]; exact hr, hin⟩)
  rwa [List.map_map] at this

-- the sequence of seeded change C17_4 in the model: `jmp 3` is printed, re-targeted to -7 and
-- printed again: the text is `jmp -7` and parses to the current instruction
example : String.ofList (showLine Gen.vanillaRows Gen.syms
    (applyIUpds ⟨"core.JmpInstruction", [.imm 3]⟩ [IUpd.observe, IUpd.setOp 0 (.imm (-7)), IUpd.observe]))
    = "jmp -7" := by decide +kernel

/-! ### Flavours beyond the three stock ones

`Flavour.__init__` fills `id_map` / `name_map` with the core classes and then `update`s them
with the flavour-specific list: the LAST class with a mnemonic (opcode) wins. `nameMap` /
`idMap` (`lastBy`) model exactly that for any table, so every theorem above that is stated for
an arbitrary `T` covers user flavours. When a user flavour appends a class that re-uses a
mnemonic, the shadowed class can no longer be written in text; the statement for such tables
is per instruction: -/

/-- any table, including tables in which some rows are shadowed: the instructions whose own
row satisfies `rowTextOk` (its mnemonic resolves to it — it is the last row with that
mnemonic) print and parse back unchanged -/
theorem parse_print_rows (T : Table) (S : Syms) (generic : List String) (exc : List (String × Nat))
    (hS : symsOk S = true) (is : List Instr)
    (h : ∀ i ∈ is, ∃ row, rowOf T i.cls = some row ∧ rowTextOk T exc generic row = true ∧
      InRangeOps row.shape i.ops = true) :
    parseText T S generic exc (is.map (showLine T S)) = .ok is :=
  parseText_show_rows T S generic exc hS is h

/-- a user flavour `NVFlavour + [MyRotX]` where `MyRotX` re-uses mnemonic `rot_x` and opcode 27:
the text `rot_x Q0 1 2` and the opcode 27 both resolve to the appended class (last wins) -/
theorem custom_flavour_last_wins :
    let T := Gen.nvRows ++ [⟨"user.MyRotX", 27, "rot_x", [.reg, .imm8, .imm8]⟩]
    (nameMap T "rot_x").map (·.cls) = some "user.MyRotX" ∧ (idMap T 27).map (·.cls) = some "user.MyRotX" ∧
    rowTextOk T Gen.replaceExceptions Gen.genericNames ⟨"user.MyRotX", 27, "rot_x", [.reg, .imm8, .imm8]⟩ = true ∧
    (match parseText T Gen.syms Gen.genericNames Gen.replaceExceptions ["rot_x Q0 1 2".toList] with
      | .ok is => is == [⟨"user.MyRotX", [.reg ⟨2, 0⟩, .imm 1, .imm 2]⟩]
      | .error _ => false) = true := by decide +kernel

/-! ### Parser histories

In the model `parseText` is a function of the text (and the flavour table) alone, and its result is
a value: editing a parsed instruction (`applyIUpds`) cannot influence a later parse of the same or
of another text, nor another instruction of the same result.  The real parser must behave the same
(no memo of shared mutable operand objects); the parser-history stream of checks/c17.py ties this
to the code. -/

/-- after any in-place edits `us` of an instruction `i` obtained by parsing `ls`, parsing `ls`
again still gives the unedited result -/
theorem parse_unaffected_by_edits (T : Table) (S : Syms) (generic : List String) (exc : List (String × Nat))
    (ls : List (List Char)) (is : List Instr) (k : Nat) (us : List IUpd)
    (h : parseText T S generic exc ls = .ok is) :
    parseText T S generic exc ls = .ok is ∧
    (∀ i, is[k]? = some i → applyIUpds i us ≠ i →
      parseText T S generic exc ls ≠ .ok (is.set k (applyIUpds i us))) := by
  refine ⟨h, fun i hi hne hc => hne ?_⟩
  have hk : k < is.length := (List.getElem?_eq_some_iff.1 hi).1
  have := congrArg (·[k]?) (Except.ok.inj (h ▸ hc))
  rw [hi, List.getElem?_set_self hk] at this
  exact (Option.some.inj this).symm

example : String.ofList (showLine Gen.nvRows Gen.syms
    ⟨"core.WaitAllInstruction", [.slice (-2147483648) ⟨0, 1⟩ ⟨1, 15⟩]⟩)
    = "wait_all @-2147483648[R1:C15]" := by decide +kernel
example : (match parseText Gen.nvRows Gen.syms Gen.genericNames Gen.replaceExceptions
    ["wait_all @-2147483648[R1:C15]".toList, "crot_x Q0 Q1 255 0".toList, "set M3 -1".toList] with
    | .ok is => is == [⟨"core.WaitAllInstruction", [.slice (-2147483648) ⟨0, 1⟩ ⟨1, 15⟩]⟩,
           ⟨"nv.ControlledRotXInstruction", [.reg ⟨2, 0⟩, .reg ⟨2, 1⟩, .imm 255, .imm 0]⟩,
           ⟨"core.SetInstruction", [.reg ⟨3, 3⟩, .imm (-1)]⟩]
    | .error _ => false) = true := by decide +kernel
-- the hypothesis of `parse_print` is satisfiable for these instructions
example : ∃ row, rowOf Gen.nvRows "core.WaitAllInstruction" = some row ∧
    InRangeOps row.shape [.slice (-2147483648) ⟨0, 1⟩ ⟨1, 15⟩] = true :=
  ⟨_, rowOf_at C01.nv_unique.2.2 23 (r := ⟨"core.WaitAllInstruction", 35, "wait_all", [.slice]⟩) rfl,
    by decide +kernel⟩
-- the exemption table matters: without it a printed immediate would become `set` + register
example : (match assemble Gen.vanillaRows Gen.syms [] [printToks "rot_x" [.reg ⟨2, 0⟩, .imm 3, .imm 4]] with
    | .ok is => is == [⟨"vanilla.RotXInstruction", [.reg ⟨2, 0⟩, .imm 3, .imm 4]⟩]
    | .error _ => false) = false := by decide +kernel

end NQ.C17
