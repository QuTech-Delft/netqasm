/-
C20 — toolbox circuits implement their documented operators.

Full statement: run through the SDK-to-controller pipeline, `toffoli_gate` equals the Toffoli
unitary, `t_inverse` equals T†, `set_qubit_state` prepares cos(θ/2)|0⟩ + e^{iφ} sin(θ/2)|1⟩ within
the angle tolerance, and `parity_meas` returns the parity of the requested signed Pauli string with
the right outcome distribution and post-measurement state.

* `toffoli_eq`, `t_inverse_eq`: exact operator identities in ℤ[ζ₈] about the sequences the
  controller really received (generated by running the toolbox through SDK → bytes → executor).
* `parity_meas_sound`: FOR EVERY NUMBER OF QUBITS and every signed Pauli string, about the model
  `TB.parityMeas` of the circuit construction (tied to the real code by the 168 generated cases,
  `parity_cases_match_model`, and by a differential stream on longer strings): the observable
  measured, pulled back through the circuit, is the requested string (⊗ Z on the fresh ancilla);
  the gates after the measurement are the basis change again, which is an involution; the CNOTs
  only target the ancilla; a leading minus flips the returned bit.
* `set_state`: ring identity over half-angle (cos, sin) pairs.

Trusted (standard, not re-proved): measuring Z after a circuit C is measuring C†ZC before it
(Heisenberg picture), so with the ancilla in |0⟩ (Z = +1) the outcome is the eigenvalue of the
pulled-back string on the data; conjugation by a gate on qubit q acts on the q-th tensor factor
only (locality); ℤ[ζ₈] ↪ ℂ; angle addition for (cos, sin) pairs. Every row of the conjugation
table IS checked against the exact matrices (`conj_tables_ok`).
-/
import Mathlib.Tactic.Ring
import Mathlib.Tactic.LinearCombination
import NetqasmVerif.Lemmas.Pauli
import NetqasmVerif.Lemmas.Gates
import NetqasmVerif.Props.PauliTable
import NetqasmVerif.Props.C20Obligations
namespace NQ.C20
open NQ NQ.TB

/-- the sequence the controller received for `toffoli_gate` is the Toffoli operator up to a scalar -/
theorem toffoli_eq : equivUpToScalar? (circuit 3 Gen.toffoliSeq) (some toffoliMat) = true :=
  Obl.toffoli_ok

/-- the target `toffoliMat` (written as a transposition) is "X on qubit 2 iff qubits 0 and 1 are 1" -/
theorem toffoliMat_is_ccx :
    toffoliMat = permMat 3 (fun j => if qbit 3 0 j && qbit 3 1 j then toggle 3 2 j else j) :=
  Obl.toffoliMat_is_ccx

/-- the sequence the controller received for `t_inverse` is exactly T† -/
theorem t_inverse_eq : circuit 1 Gen.tInverseSeq = some (embed1 1 0 gT.adj) := Obl.t_inverse_ok

/-- T⁸ = 1, hence T⁷ = T⁻¹ = T† -/
theorem t_eighth_power : gT.pow 8 = M2.id2 ∧ gT.pow 7 = gT.adj ∧ M2.mul gT gT.adj = M2.id2 := by
  decide +kernel

/-- every row of `conj1` and of `conjCnot` agrees with the exact matrices -/
theorem conj_tables_ok :
    ([GName.x, .y, .z, .h, .k, .s].all fun g => PauliTable.allP.all fun p => PauliTable.row1Ok g p) = true ∧
    (PauliTable.allP.all fun pc => PauliTable.allP.all fun pt => PauliTable.rowCnotOk pc pt) = true :=
  ⟨PauliTable.conj1_table_ok, PauliTable.conjCnot_table_ok⟩

/-- the recorded behaviour of the real `parity_meas` on all 168 signed strings of length ≤ 3 is the
model's -/
theorem parity_cases_match_model : Gen.parityCases.all Obl.caseOk = true :=
  Obl.parity_cases_match_model

/-- every signed string of length 1, 2, 3 is among the recorded cases -/
theorem parity_cases_cover :
    ((Obl.strings 1 ++ Obl.strings 2 ++ Obl.strings 3).all fun s => [false, true].all fun neg =>
      Gen.parityCases.any fun c => c.1 == s && c.2.1 == neg) = true ∧ Gen.parityCases.length = 168 :=
  Obl.parity_cases_cover

/-- `Z` on the ancilla (index `n`) -/
def zAnc (n : Nat) : PStr := ⟨false, List.replicate n .I ++ [.Z]⟩
/-- `zAt n q` of Model/Pauli, written with `set` because the proofs below rewrite with `set_mid` -/
def zData (n q : Nat) : PStr := ⟨false, (List.replicate n .I).set q .Z⟩

/-- Ancilla branch (two or more non-identity letters), any length: `Z_anc` pulled back through
basis change + CNOT fan-in is `bases ⊗ Z_anc`, with sign `+`. -/
theorem parity_observable_ancilla (bases : List P1) :
    pullback (basisChangeFrom 0 bases ++ cnotsFrom 0 bases.length bases) (zAnc bases.length) =
      some ⟨false, bases ++ [.Z]⟩ := by
  rw [pullback_append]
  have h1 := pullback_cnots bases [] false bases.length (by simp)
  simp only [List.nil_append, List.length_nil] at h1
  unfold zAnc
  rw [h1, Option.bind_some]
  rw [pullback_basisChange_zero bases _ false (by simp [supp]), (flip_supp bases [.Z]).1,
    (flip_supp bases [.Z]).2]
  rfl

/-- Single-letter branch: `Z_q` pulled back through the one flip gate is the requested string. -/
theorem parity_observable_single (bases : List P1) (q : Nat) (h : nonIdFrom 0 bases = [q]) :
    q < bases.length ∧
    pullback (flipGate (bases.getD q .I) q) (zData bases.length q) = some ⟨false, bases⟩ := by
  obtain ⟨m, b, hb, hbs, hget⟩ := nonId_single_zero bases q h
  have hlen : bases.length = q + (m + 1) := by rw [hbs]; simp
  refine ⟨by omega, ?_⟩
  have hz : zData bases.length q = ⟨false, List.replicate q .I ++ .Z :: List.replicate m .I⟩ := by
    unfold zData
    rw [hlen, ← List.replicate_append_replicate, List.replicate_succ]
    have := set_mid (List.replicate q P1.I) P1.I P1.Z (List.replicate m .I)
    simp only [List.length_replicate] at this
    rw [this]
  have hf := pullback_flipGate b .Z false (List.replicate q .I) (List.replicate m .I)
  rw [List.length_replicate] at hf
  have hb' := flip1_supp b
  rw [if_neg hb] at hb'
  rw [hz, hget, hf, hb', hbs]
  rfl

/-- the gates after the measurement undo the basis change: conjugating by the layer twice is the
identity on EVERY signed Pauli string (hence the layer squares to a scalar) -/
theorem basis_change_involutive (bases : List P1) (O : PStr) (h : bases.length ≤ O.ps.length) :
    pullback (basisChangeFrom 0 bases ++ basisChangeFrom 0 bases) O = some O := by
  rw [pullback_append, show O = ⟨O.neg, O.ps⟩ from rfl, pullback_basisChange_zero bases _ _ h, Option.bind_some,
    pullback_basisChange_zero bases _ _ (by rw [flipPs_length]; exact h), (flip_flip bases O.ps).1,
    (flip_flip bases O.ps).2, Bool.xor_assoc, Bool.xor_self, Bool.xor_false]

/-- every CNOT of the fan-in has a data qubit as control and the ancilla as target: the data
qubits are only ever controls (they are not disturbed in the Z basis) -/
theorem cnots_target_ancilla (bases : List P1) (k anc : Nat) (hk : k + bases.length ≤ anc) :
    ∀ g ∈ cnotsFrom k anc bases, ∃ c, g = ⟨.cnot, [c, anc], 0, 0⟩ ∧ k ≤ c ∧ c < anc := by
  intro g hg
  obtain ⟨c, hc, h1, h2⟩ := mem_cnotsFrom bases k anc g hg
  exact ⟨c, hc, h1, by omega⟩

/-- in the single-letter branch the one flip gate the code applies IS the whole basis-change layer -/
theorem single_flip_is_layer (bases : List P1) (q : Nat) (h : nonIdFrom 0 bases = [q]) :
    flipGate (bases.getD q .I) q = basisChangeFrom 0 bases := by
  obtain ⟨m, b, _, hbs, hget⟩ := nonId_single_zero bases q h
  rw [hget]
  conv => rhs; rw [hbs, basisChange_single]
  simp

theorem parityMeas_cases (bases : List P1) :
    (nonIdFrom 0 bases = [] ∧ parityMeas bases = ⟨[], none, false, []⟩) ∨
    (∃ q, nonIdFrom 0 bases = [q] ∧
      parityMeas bases = ⟨flipGate (bases.getD q .I) q, some q, false, flipGate (bases.getD q .I) q⟩) ∨
    parityMeas bases = ⟨basisChangeFrom 0 bases ++ cnotsFrom 0 bases.length bases, some bases.length, true,
      basisChangeFrom 0 bases⟩ := by
  unfold parityMeas
  rcases hni : nonIdFrom 0 bases with _ | ⟨q, _ | ⟨q2, rest⟩⟩
  · exact .inl ⟨rfl, rfl⟩
  · exact .inr (.inl ⟨q, rfl, rfl⟩)
  · exact .inr (.inr rfl)

/-- **parity_meas, all lengths, all signed strings.** With `m = parityMeas bases`:
* no non-identity letter: nothing is measured, the requested observable is the identity string
  (eigenvalue +1 on every state) and 0 is returned (1 with a leading minus);
* one letter at `q`: `q` is measured in place after the flip gate; pulled back, the observable
  is exactly `bases`; the same flip gate follows;
* otherwise an ancilla `n` is allocated, `pre` = basis change ++ CNOT fan-in into the ancilla,
  the ancilla is measured; pulled back, the observable is `bases ⊗ Z_anc`; `post` is the basis
  change again;
* in every branch `post` is the whole basis-change layer, which is an involution
  (`basis_change_involutive`), and the returned bit is flipped exactly when `negative`. -/
theorem parity_meas_sound (bases : List P1) (m : PM) (hm : m = parityMeas bases) :
    (m.post = basisChangeFrom 0 bases) ∧
    (match m.measured with
     | none => bases = List.replicate bases.length .I ∧ m.pre = [] ∧ m.ancilla = false
     | some q =>
       if m.ancilla then
         q = bases.length ∧ m.pre = basisChangeFrom 0 bases ++ cnotsFrom 0 bases.length bases ∧
         pullback m.pre (zAnc bases.length) = some ⟨false, bases ++ [.Z]⟩
       else
         q < bases.length ∧ m.pre = basisChangeFrom 0 bases ∧
         pullback m.pre (zData bases.length q) = some ⟨false, bases⟩) ∧
    (∀ o, o < 2 → m.result false o = (match m.measured with | some _ => o | none => 0) ∧
        m.result true o = 1 - m.result false o) := by
  have hres : ∀ o, o < 2 → m.result false o = (match m.measured with | some _ => o | none => 0) ∧
      m.result true o = 1 - m.result false o := by
    intro o ho
    unfold PM.result
    cases m.measured <;> (simp; try omega)
  refine ⟨?_, ?_, hres⟩ <;> rcases parityMeas_cases bases with ⟨hni, h⟩ | ⟨q, hni, h⟩ | h <;> rw [hm, h]
  · show [] = _
    rw [nonId_nil bases 0 hni, basisChange_replicate_I]
  · exact single_flip_is_layer bases q hni
  · exact ⟨nonId_nil bases 0 hni, rfl, rfl⟩
  · obtain ⟨hlt, hpb⟩ := parity_observable_single bases q hni
    exact ⟨hlt, single_flip_is_layer bases q hni, hpb⟩
  · exact ⟨rfl, rfl, parity_observable_ancilla bases⟩

/-- `R_z(φ)·R_y(θ)|0⟩ = e^{−iφ/2}·(cos(θ/2)|0⟩ + e^{iφ} sin(θ/2)|1⟩)` as an identity over any
commutative ring, with `c, s = cos, sin (θ/2)`, `cp, sp = cos, sin (φ/2)` and a complex number
written as (re, im). Components: amplitude of |0⟩ is `(cp − i·sp)·c`, of |1⟩ `(cp + i·sp)·s`;
`e^{iφ} = (cp + i·sp)²`; the common factor is `λ = cp − i·sp` (a phase since cp² + sp² = 1). -/
theorem set_state {R : Type} [CommRing R] (c s cp sp : R) (h : cp ^ 2 + sp ^ 2 = 1) :
    -- |0⟩ component: λ·c
    (cp * c, -sp * c) = (cp * c - (-sp) * 0, cp * 0 + (-sp) * c) ∧
    -- |1⟩ component: (cp + i sp)·s = λ·e^{iφ}·s, real and imaginary parts
    (cp * s = (cp * (cp ^ 2 - sp ^ 2) - (-sp) * (2 * cp * sp)) * s) ∧
    (sp * s = (cp * (2 * cp * sp) + (-sp) * (cp ^ 2 - sp ^ 2)) * s) := by
  -- both differences are multiples of `cp² + sp² − 1`
  refine ⟨Prod.ext (by ring) (by ring), ?_, ?_⟩
  · linear_combination (-(cp * s)) * h
  · linear_combination (-(sp * s)) * h

/-- consecutive rotations about one axis compose to the rotation by the sum of the angles
(`(ca, sa)`, `(cb, sb)` half-angle pairs; the sum's pair by the addition formulas): Y axis as real
2×2 matrices, Z axis as the diagonal phase `(c − i s, c + i s)` -/
theorem rot_compose {R : Type} [CommRing R] (ca sa cb sb : R) :
    -- R_y(b)·R_y(a): entries (row-major) of [[cb,−sb],[sb,cb]]·[[ca,−sa],[sa,ca]]
    (cb * ca + (-sb) * sa = ca * cb - sa * sb) ∧ (cb * (-sa) + (-sb) * ca = -(sa * cb + ca * sb)) ∧
    (sb * ca + cb * sa = sa * cb + ca * sb) ∧ (sb * (-sa) + cb * ca = ca * cb - sa * sb) ∧
    -- R_z: (cb + i sb)(ca + i sa) = (ca cb − sa sb) + i (sa cb + ca sb)
    (cb * ca - sb * sa = ca * cb - sa * sb) ∧ (cb * sa + sb * ca = sa * cb + ca * sb) := by
  refine ⟨by ring, by ring, by ring, by ring, by ring, by ring⟩

/-- every recorded `set_qubit_state` call emitted Y rotations, then Z rotations, on the one qubit -/
theorem set_state_shape_ok : Gen.setStateSeqs.all (fun c => Obl.setStateShape c.2.2) = true :=
  Obl.set_state_shape_ok

/-- and their angles add up to the requested θ and φ (to 2.5·10⁻³ rad) -/
theorem set_state_angles_ok :
    Gen.setStateSeqs.all (fun c => Obl.angleNear (Obl.angleSum c.2.2 .rotY) c.1 &&
      Obl.angleNear (Obl.angleSum c.2.2 .rotZ) c.2.1) = true := Obl.set_state_angles_ok

example : (parityMeas [.X, .I, .Y, .Z, .I]).pre.length = 5 ∧ (parityMeas [.X, .I, .Y, .Z, .I]).ancilla = true := by
  decide
example : pullback (parityMeas [.X, .Y, .I, .Z]).pre (zAnc 4) = some ⟨false, [.X, .Y, .I, .Z, .Z]⟩ := by
  decide
example : nonIdFrom 0 [.I, .Y, .I] = [1] ∧ (parityMeas [.I, .Y, .I]).measured = some 1 := by decide
/-- the calculus distinguishes: without the basis change X would be measured as Z -/
example : pullback (cnotsFrom 0 2 [.X, .Z]) (zAnc 2) = some ⟨false, [.Z, .Z, .Z]⟩ := by decide
/-- signs are tracked: H·Y·H = −Y -/
example : pullback [⟨.h, [0], 0, 0⟩] ⟨false, [.Y]⟩ = some ⟨true, [.Y]⟩ := by decide
example : Gen.toffoliSeq.length = 33 ∧ Gen.tInverseSeq.length = 7 := by decide
example : equivUpToScalar? (circuit 3 (Gen.toffoliSeq.drop 1)) (some toffoliMat) = false := by decide +kernel
/-- the hypothesis of `set_state` is satisfiable -/
example : (1 : Int) ^ 2 + 0 ^ 2 = 1 := by decide

/-- One call of `parity_meas` on `n` live data qubits `0..n−1` never faults and leaves exactly
those qubits live: the ancilla `n` is allocated, used and freed inside the call. -/
theorem parity_call_restores_allocation (bases : List P1) :
    runLive (List.range bases.length) ((parityMeas bases).trace bases.length) =
      some (List.range bases.length) := by
  have hF : ∀ live : List Nat, (∀ q, q < bases.length → q ∈ live) →
      runLive live ((basisChangeFrom 0 bases).map TEv.gate) = some live := by
    intro live hl
    apply runLive_gates
    intro g hg q hq
    obtain ⟨q', h1, _, h3⟩ := basisChange_qs bases 0 g hg
    rw [h1] at hq; simp at hq; subst hq; exact hl _ (by omega)
  have hrange : ∀ q, q < bases.length → q ∈ List.range bases.length := by
    intro q hq; simp [hq]
  rcases parityMeas_cases bases with ⟨_, hm⟩ | ⟨q, hni, hm⟩ | hm
  · rw [hm]; simp [PM.trace, runLive]
  · have hlt := (parity_observable_single bases q hni).1
    have hfl := single_flip_is_layer bases q hni
    rw [hm, hfl]
    simp only [PM.trace, Bool.false_eq_true, if_false, List.nil_append, List.append_nil]
    have hq : (List.range bases.length).contains q = true := by simp [hlt]
    rw [runLive_append, runLive_append, hF _ hrange, Option.bind_some]
    simp only [runLive, evLive, hq, if_true, Option.bind_some]
    exact hF _ hrange
  · rw [hm]
    simp only [PM.trace, if_true, List.map_append, List.append_assoc]
    have hnc : (List.range bases.length).contains bases.length = false := by simp
    have hlive : ∀ q, q < bases.length → q ∈ bases.length :: List.range bases.length := by
      intro q hq; simp; right; exact hq
    have hC : runLive (bases.length :: List.range bases.length)
        ((cnotsFrom 0 bases.length bases).map TEv.gate) = some (bases.length :: List.range bases.length) := by
      apply runLive_gates
      intro g hg q hq
      obtain ⟨c, rfl, _, h3⟩ := mem_cnotsFrom bases 0 bases.length g hg
      simp only [List.mem_cons, List.not_mem_nil, or_false] at hq
      rcases hq with rfl | rfl
      · exact hlive _ (by omega)
      · simp
    have hin : (bases.length :: List.range bases.length).contains bases.length = true := by simp
    simp only [List.cons_append, List.nil_append, runLive, evLive, hnc, Bool.false_eq_true, if_false,
      Option.bind_some, hin, if_true]
    rw [runLive_append, hF _ hlive, Option.bind_some, runLive_append, hC, Option.bind_some]
    simp only [runLive, evLive, hin, if_true, Option.bind_some, List.erase_cons_head]
    exact hF _ hrange

/-- Any number of consecutive `parity_meas` calls on the same `n` qubits, with any bases: the
controller never faults and every call starts from the same allocation state (ancilla id `n` free
again), so the events of call `k` are `(parityMeas basesₖ).trace n` whatever came before and
`parity_meas_sound` applies to each call separately. Tie: the real trace of consecutive calls in
one session equals `parityMeasSeq` (stream "parity-sequence"). -/
theorem parity_meas_repeated (n : Nat) (calls : List (List P1)) (h : ∀ b ∈ calls, b.length = n) :
    runLive (List.range n) (parityMeasSeq n calls) = some (List.range n) := by
  induction calls with
  | nil => rfl
  | cons b bs ih =>
    have hb : b.length = n := h b (by simp)
    have h1 := parity_call_restores_allocation b
    rw [hb] at h1
    simp only [parityMeasSeq, List.flatMap_cons]
    rw [runLive_append, h1, Option.bind_some]
    exact ih (fun b' hb' => h b' (by simp [hb']))

example : runLive [0, 1] (parityMeasSeq 2 [[.X, .Y], [.I, .Z], [.Z, .Z]]) = some [0, 1] := by decide
/-- the check is not vacuous: using the ancilla without allocating it faults -/
example : runLive [0, 1] [TEv.gate ⟨.cnot, [0, 2], 0, 0⟩] = none := by decide

/-- kind of handle and stored values recorded from the real code, all 168 cases, are the model's -/
theorem parity_stored_match_model :
    Gen.parityStored.all Obl.storedOk = true ∧ Gen.parityStored.length = 168 :=
  Obl.parity_stored_match_model

/-- The returned outcome is a controller-side value holding the signed parity, every length, every
string: whenever something is measured the handle is an array entry in shared memory (never a register,
never a host-side wrapper), and what the controller stores there for measurement outcome `o ∈ {0,1}` is
`o` for a string without and `1 − o` for a string with a leading minus — the bit `b` with the post-
measurement state in the `(−1)^b` eigenspace of the signed string (`parity_meas_sound`). Hence all
consumers agree: a host read after the flush, `with m.if_eq(1)` inside the subroutine, `other.add(m)`,
a raw shared-memory read. Tie: `parity_stored_match_model` and the consumption oracle. -/
theorem parity_outcome_on_controller (bases : List P1) (negative : Bool) (o : Nat) (ho : o < 2) :
    let m := parityMeas bases
    (m.measured ≠ none → m.storedKind = 1 ∧ m.stored negative o = if negative then 1 - o else o) ∧
    (m.measured = none → m.storedKind = 0 ∧ m.stored negative o = if negative then 1 else 0) ∧
    m.stored negative o = m.result negative o := by
  intro m
  refine ⟨?_, ?_, rfl⟩
  · intro h
    unfold PM.storedKind PM.stored PM.result
    cases hm : m.measured with
    | none => exact absurd hm h
    | some q => cases negative <;> (simp; try omega)
  · intro h
    unfold PM.storedKind PM.stored PM.result
    rw [h]; cases negative <;> simp

example : (parityMeas [.X, .Z]).stored true 0 = 1 ∧ (parityMeas [.X, .Z]).storedKind = 1 := by decide

end NQ.C20
