/-
Kernel-decided obligations about the text-path tables generated from /repo
(`Gen/AsmTables.lean` with `Gen/InstrTable.lean`).
-/
import NetqasmVerif.Lemmas.TextSourceLine
import NetqasmVerif.Gen.AsmTables
import NetqasmVerif.Gen.InstrTable
import NetqasmVerif.Props.C01
namespace NQ.TextObl
open NQ NQ.Text

/-- the symbols of `symbols.py` and the bank letters cannot be confused with each other -/
theorem syms_ok : symsOk Gen.syms = true := by decide +kernel

/-- the syntax symbols are no letters or underscores (so no part of a label operand), and the
closing index bracket is none of the blanks `group_by_word` strips -/
theorem src_syms_ok : srcSymsOk Gen.syms = true := by decide +kernel

/-- every immediate position of a core row is exempt from constant replacement, and its
mnemonic is a `GenericInstr` name of lower-case letters, digits and underscores -/
theorem core_form_ok :
    Gen.coreRows.all (rowFormOk Gen.replaceExceptions Gen.genericNames) = true := by decide +kernel

theorem vanilla_form_ok :
    Gen.vanillaSpecific.all (rowFormOk Gen.replaceExceptions Gen.genericNames) = true := by
  decide +kernel

theorem nv_form_ok :
    Gen.nvSpecific.all (rowFormOk Gen.replaceExceptions Gen.genericNames) = true := by decide +kernel

/-! The three flavour tables of /repo: none has a mnemonic or class clash (C01), so the name map
needs no look-up; what is decided on the generated rows is their form, the core rows once. -/

/-- vanilla: every row's mnemonic maps back to its class through `GenericInstr` and the
flavour's name map, and every immediate position is exempt from constant replacement -/
theorem vanilla_rows_ok : Gen.vanillaRows.all
    (rowTextOk Gen.vanillaRows Gen.replaceExceptions Gen.genericNames) = true :=
  rows_ok_of_unique C01.vanilla_clashes_are_known.2.1 C01.vanilla_clashes_are_known.2.2 (by
    rw [Gen.vanillaRows, List.all_append, core_form_ok, vanilla_form_ok]; rfl)

theorem nv_rows_ok : Gen.nvRows.all
    (rowTextOk Gen.nvRows Gen.replaceExceptions Gen.genericNames) = true :=
  rows_ok_of_unique C01.nv_unique.2.1 C01.nv_unique.2.2 (by
    rw [Gen.nvRows, List.all_append, core_form_ok, nv_form_ok]; rfl)

theorem reids_rows_ok : Gen.reidsRows.all
    (rowTextOk Gen.reidsRows Gen.replaceExceptions Gen.genericNames) = true :=
  rows_ok_of_unique C01.reids_unique.2.1 C01.reids_unique.2.2 (by
    rw [Gen.reidsRows, List.all_append, core_form_ok]; rfl)

end NQ.TextObl
