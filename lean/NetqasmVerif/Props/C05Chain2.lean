/-
C05 ∘ C03 ∘ C04, second part: the chain of `Props/C05Chain.lean` with its static hypotheses derived from
the builder model, `QSafe` proved for the builder's one-qubit vocabulary, and the flushes chained on ONE
executor state.  Main results: `emit_correct_end_to_end_closed`, `program_on_exec`, `program_on_exec_views`.

* `scratch_dead_across_flushes` — the link between two flushes.  After flush k the executor agrees
  with ProtoExec outside the scratch registers of flush k.  The invariant that `emit_correct` carries from
  flush to flush (`Sdk.SegInv`) only reads the registers of LIVE handles, which are ACTIVE in the memory
  manager (`Sdk.Rel.regs` inside `SegInv`: the register of a live handle is `Prot`); active registers are passed to the
  assembler as `reserved_registers` (fix of F42) and a reserved register is never a scratch register
  (C03 `IsScratch` excludes `currentRegisters ++ reserved`).  Hence the ProtoExec state may be REPLACED by
  the one that carries the executor's registers exactly — the invariant still holds, and the next flush
  starts from exact agreement.

Hypotheses that remain, all named:
* `AsmAll` — the input: each subroutine assembles (`Asm.assemble … = .ok A`, with `reserved` = the active
  registers of the memory manager at that flush, `reservedOf`; builder.py `subrt_compile_subroutine`) and
  the assembled instructions read as executor instructions `X` (`hX` of the first part: true whenever the
  mnemonics are the builder's; instance `nonvacuous_chain`).
* the initial controller state: application `a` is registered, its view agrees with the empty ProtoExec
  state (`Bridge.Rel (St.init outs) t0`) and its unit module is non-empty with virtual qubit 0 free
  (`Bridge.UnitOK t0.mem false`).  This replaces `QSafe`.
* as in the first part, the shared-memory ARRAY view (F25) is not part of `Bridge.Rel`.
-/
import NetqasmVerif.Props.C05Chain
import NetqasmVerif.Lemmas.SdkQSafe
namespace NQ.C05
open NQ

/-- One flush, end to end, for a subroutine of the builder (`Sdk.CodeOK`: what `Lemmas/SdkEmitted.lean`
proves of every emitted subroutine): from an executor state that carries the ProtoExec state exactly and
has the virtual qubit 0 free, `Exec.run` on the assembled subroutine halts in a state that agrees with the
final ProtoExec state up to the scratch registers of this flush, with the virtual qubit 0 free again. -/
theorem flush_on_exec (a : Nat) (sub : List Sdk.PCmd) (hc : Sdk.CodeOK sub) (reserved : List Reg)
    (A : List Instr) (hA : Asm.assemble Gen.vanillaRows Gen.excTable Gen.numScratch (Bridge.tr sub) reserved = .ok A)
    (X : List Exec.Instr) (hX : A.map (Asm.embed Gen.vanillaRows) = X.map Asm.ofExecQ)
    {s s' : Sdk.St} (hrun : Sdk.Runs sub 0 sub.length s s')
    (t : Asm.State Asm.XMem) (hrel : Bridge.Rel s t) (hu : Bridge.UnitOK t.mem false)
    (S : Exec.State) (hS : S.apps a = some (Asm.conc t).ap) (hloc : S.loc (Asm.conc t).ap = Asm.conc t) :
    ∃ fuel t', (Exec.run false a X fuel S 0).s = S.put a (Asm.conc t') ∧
      (Exec.run false a X fuel S 0).out = .halted ∧ (Exec.run false a X fuel S 0).pc ≥ X.length ∧
      RelUpTo sub reserved s' t' ∧ Bridge.UnitOK t'.mem false := by
  obtain ⟨fuel, u', t', hsrc, hrel', hag', h1, h2, h3⟩ :=
    flush_chain a sub reserved (Sdk.nameInj_of_allOK hc.all) (Sdk.regsInRange_of_allOK hc.all)
      (Sdk.labelTargets_of_allOK a hc.all) A hA X hX hrun t t hrel ⟨rfl, fun _ _ => rfl⟩
      (Bridge.qsafe_of_closed a hc.closed hc.all hu) S hS hloc
  have hu' := Bridge.unit_free_after a hc.closed hc.all hu hsrc
  exact ⟨fuel, t', h1, h2, h3, ⟨u', hrel', hag'⟩, hu'.congr (by rw [hag'.1]) (by rw [hag'.1])⟩

/-- the per-flush guarantee of `emit_correct_end_to_end_closed`: no hypothesis on the subroutine is left -/
def FlushOnExec' (a : Nat) (sub : List Sdk.PCmd) (s s' : Sdk.St) : Prop :=
  ∀ (reserved : List Reg) (A : List Instr),
    Asm.assemble Gen.vanillaRows Gen.excTable Gen.numScratch (Bridge.tr sub) reserved = .ok A →
    ∀ (X : List Exec.Instr), A.map (Asm.embed Gen.vanillaRows) = X.map Asm.ofExecQ →
    ∀ (t : Asm.State Asm.XMem), Bridge.Rel s t → Bridge.UnitOK t.mem false →
    ∀ (S : Exec.State), S.apps a = some (Asm.conc t).ap → S.loc (Asm.conc t).ap = Asm.conc t →
    ∃ fuel t', (Exec.run false a X fuel S 0).s = S.put a (Asm.conc t') ∧
      (Exec.run false a X fuel S 0).out = .halted ∧ (Exec.run false a X fuel S 0).pc ≥ X.length ∧
      RelUpTo sub reserved s' t' ∧ Bridge.UnitOK t'.mem false

/-- `emit_correct_end_to_end` with the static hypotheses on the emitted
subroutines derived from the builder model and `QSafe` proved: for every host program accepted by the
builder on which `HostSem` is defined, the conclusion of `emit_correct`, AND every flush, assembled (with
any reserved set) and run by `Exec.run` from a controller state that carries the ProtoExec state before
the flush and has the virtual qubit 0 free, halts in a state that agrees with the ProtoExec state after
the flush up to scratch registers, the virtual qubit 0 free again. -/
theorem emit_correct_end_to_end_closed (a : Nat) (segs : List (List Sdk.Host))
    (hwf : ∀ ops ∈ segs, ∀ op ∈ ops, Sdk.TopOK op)
    (hbuild : (Sdk.run (Sdk.flat segs)).err = none) (fuel : Nat) (outs : List Int) (hsEnd : Sdk.HSt)
    (hhost : (Sdk.hrun fuel outs (Sdk.flat segs)).final = some hsEnd) :
    ∃ mids tsEnd, Sdk.RunSubs (Sdk.run (Sdk.flat segs)).subs (Sdk.St.init outs) mids tsEnd ∧
      tsEnd.trace = hsEnd.trace ∧ tsEnd.outcomes = hsEnd.outcomes ∧ tsEnd.arrs = hsEnd.arrs ∧
      (∀ h v, hsEnd.hregs h = some v →
        ∃ r b, (Sdk.run (Sdk.flat segs)).mem.handles[h]? = some (r, b) ∧ tsEnd.regs r = some v) ∧
      Sdk.ViewsOK fuel Sdk.Mem.init 0 0 (Sdk.HSt.init outs) segs mids ∧
      AllFlushes (FlushOnExec' a) (Sdk.run (Sdk.flat segs)).subs (Sdk.St.init outs) mids := by
  obtain ⟨mids, tsEnd, hrs, h1, h2, h3, h4, h5⟩ := emit_correct segs hwf hbuild fuel outs hsEnd hhost
  refine ⟨mids, tsEnd, hrs, h1, h2, h3, h4, h5, ?_⟩
  refine allFlushes_of_runSubs (C := Sdk.CodeOK) ?_ _ _ _ _ (Sdk.run_ok (Sdk.flat segs)) hrs
  intro sub s s' hc hrun reserved A hA X hX t hrel hu S hS hloc
  exact flush_on_exec a sub hc reserved A hA X hX hrun t hrel hu S hS hloc

/-- the registers the builder passes to the assembler as `reserved_registers`: the active R registers of
the memory manager (`subrt_compile_subroutine`: `reserved_registers=self._mem_mgr.get_active_registers()`) -/
def reservedOf (m : Sdk.Mem) : List Reg := (Sdk.trueIdx m.active).map (fun i => Bridge.cvReg (Sdk.R i))

theorem mem_reservedOf {m : Sdk.Mem} {i : Nat} (h : m.active.getD i false = true) :
    Bridge.cvReg (Sdk.R i) ∈ reservedOf m := by
  refine List.mem_map.2 ⟨i, ?_, rfl⟩
  simp only [Sdk.trueIdx, List.mem_filter, List.mem_range]
  exact ⟨Sdk.getD_false_true_lt h, h⟩

/-- a register that holds a live handle is not a scratch register of a subroutine assembled with the active
registers reserved (C03: scratch registers are unnamed AND unreserved `R i`) -/
theorem prot_not_scratch {act mu : List Bool} {r : Sdk.Reg} {n : Nat} {cur reserved : List Reg}
    (hp : Sdk.Prot act mu r) (hres : ∀ i, act.getD i false = true → Bridge.cvReg (Sdk.R i) ∈ reserved) :
    ¬ Asm.IsScratch n (cur ++ reserved) (Bridge.cvReg r) := by
  rintro ⟨i, _, he, hnot⟩
  rcases hp with ⟨hb, ha⟩ | ⟨hb, _⟩
  · apply hnot
    have : r = Sdk.R r.idx := by cases r; simp_all [Sdk.R]
    rw [this]
    exact List.mem_append_right _ (hres _ ha)
  · have := congrArg Reg.bank he
    simp [Bridge.cvReg, Asm.scratchReg, hb] at this

/-- If the invariant between flushes holds of the ProtoExec state
`ts` and the executor state `t'` agrees with `ts` up to the scratch registers of a subroutine that was
assembled with the active registers reserved, then the ProtoExec state `ts'` that carries the
executor's registers EXACTLY also satisfies the invariant (and is `ts` on arrays, trace, outcomes and
shared memory): what the scratch registers hold is dead at the next flush. -/
theorem scratch_dead_across_flushes {m : Sdk.Mem} {hs : Sdk.HSt} {ts : Sdk.St} (hinv : Sdk.SegInv m hs ts)
    {sub : List Sdk.PCmd} {reserved : List Reg} {t' : Asm.State Asm.XMem}
    (hres : ∀ i, m.active.getD i false = true → Bridge.cvReg (Sdk.R i) ∈ reserved)
    (h : RelUpTo sub reserved ts t') :
    ∃ ts', Sdk.SegInv m hs ts' ∧ Bridge.Rel ts' t' ∧ ts'.arrs = ts.arrs ∧ ts'.trace = ts.trace ∧
      ts'.outcomes = ts.outcomes ∧ ts'.shmRegs = ts.shmRegs ∧ ts'.shmArrs = ts.shmArrs := by
  obtain ⟨u', hrel, hmem, hregs⟩ := h
  refine ⟨{ ts with regs := fun r => t'.regs (Bridge.cvReg r) }, ?_, ?_, rfl, rfl, rfl, rfl, rfl⟩
  · refine ⟨?_, hinv.lbl, hinv.aret, hinv.rret⟩
    have R0 := hinv.rel
    refine ⟨R0.arrs, R0.trace, R0.outs, ?_, R0.inj, R0.lens, R0.mh⟩
    intro hh v hv
    obtain ⟨r, b, e1, e2, e3⟩ := R0.regs hh v hv
    refine ⟨r, b, e1, ?_, e3⟩
    show t'.regs (Bridge.cvReg r) = some v
    rw [← hregs _ (prot_not_scratch e3 hres), ← hrel.regs r]
    exact e2
  · exact ⟨fun r => rfl, fun n => by rw [← hmem]; exact hrel.arrs n,
      fun x => by rw [← hmem]; exact hrel.shmRegs x, by rw [← hmem]; exact hrel.outs,
      by rw [← hmem]; exact hrel.trace⟩

/-- the assembled subroutines of a segmented program: flush by flush, the subroutine of the builder
(`Sdk.flush`), assembled with the active registers reserved, read as executor instructions -/
def AsmAll : Sdk.Mem → List (List Sdk.Host) → List (Option (List Exec.Instr)) → Prop
  | _, [], Xs => Xs = []
  | m, ops :: rest, Xs =>
    match Sdk.emitOps m ops with
    | .error _ => False
    | .ok (m1, pend) =>
      match Sdk.flush m1 pend with
      | .error _ => False
      | .ok (m2, none) => ∃ Xr, Xs = none :: Xr ∧ AsmAll m2 rest Xr
      | .ok (m2, some sub) =>
        ∃ A X Xr, Xs = some X :: Xr ∧
          Asm.assemble Gen.vanillaRows Gen.excTable Gen.numScratch (Bridge.tr sub) (reservedOf m2) = .ok A ∧
          A.map (Asm.embed Gen.vanillaRows) = X.map Asm.ofExecQ ∧ AsmAll m2 rest Xr

/-- `Exec.run` on the subroutines in order, each from the controller state the previous one left; every
one halts past its last instruction -/
def ExecAll (a : Nat) : List (Option (List Exec.Instr)) → Exec.State → Exec.State → Prop
  | [], S, S' => S' = S
  | none :: r, S, S' => ExecAll a r S S'
  | some X :: r, S, S' =>
    ∃ fuel, (Exec.run false a X fuel S 0).out = .halted ∧ (Exec.run false a X fuel S 0).pc ≥ X.length ∧
      ExecAll a r (Exec.run false a X fuel S 0).s S'

/-- the registers returned by a flush, in the shared memory of application `a` after the flush, hold
`HostSem`'s values of their handles (the executor-level reading of `ViewOK.regs` / `future_value_sound_flush`) -/
def RegViewX (a : Nat) (m1 : Sdk.Mem) (s1 : Sdk.HSt) (S1 : Exec.State) : Prop :=
  ∀ r ∈ m1.regsToReturn, ∃ (h : Nat) (b : Bool) (v : Int) (x : Exec.XReg) (ap : Exec.App),
    m1.handles[h]? = some (r, b) ∧ s1.hregs h = some v ∧ Asm.toX? (Bridge.cvReg r) = some x ∧
    S1.apps a = some ap ∧ ap.shmRegs x = some v

/-- `RegViewX` at every flush that sends a subroutine (`mids`: the controller states after the flushes) -/
def ViewsX (a fuel : Nat) : Sdk.Mem → Nat → Nat → Sdk.HSt → List (List Sdk.Host) → List Exec.State → Prop
  | _, _, _, _, [], _ => True
  | m, nh, na, s, ops :: rest, mids =>
    match Sdk.emitOps m ops, Sdk.runSegment fuel nh na ops s, mids with
    | .ok (m1, pend), some (s1, nh1, na1), S1 :: Ss =>
      match Sdk.flush m1 pend with
      | .ok (m2, some _) =>
        RegViewX a m1 s1 S1 ∧ ViewsX a fuel m2 nh1 na1 (Sdk.clearAll s1 (Sdk.segMHandles nh ops)) rest Ss
      | .ok (m2, none) => ViewsX a fuel m2 nh1 na1 (Sdk.clearAll s1 (Sdk.segMHandles nh ops)) rest Ss
      | .error _ => True
    | _, _, _ => True

theorem ViewsX.cons {a fuel nh na nh1 na1 : Nat} {m m1 m2 : Sdk.Mem} {s s1 : Sdk.HSt} {ops : List Sdk.Host}
    {rest : List (List Sdk.Host)} {pend : List Sdk.PCmd} {sub : Option (List Sdk.PCmd)} {S1 : Exec.State}
    {Ss : List Exec.State} (he : Sdk.emitOps m ops = .ok (m1, pend))
    (hseg : Sdk.runSegment fuel nh na ops s = some (s1, nh1, na1)) (hf : Sdk.flush m1 pend = .ok (m2, sub))
    (hview : ∀ sb, sub = some sb → RegViewX a m1 s1 S1)
    (hrest : ViewsX a fuel m2 nh1 na1 (Sdk.clearAll s1 (Sdk.segMHandles nh ops)) rest Ss) :
    ViewsX a fuel m nh na s (ops :: rest) (S1 :: Ss) := by
  simp only [ViewsX, he, hseg, hf]
  cases sub with
  | none => exact hrest
  | some sb => exact ⟨hview sb rfl, hrest⟩

/-- `ExecAll` with the controller states after each flush -/
def ExecAllM (a : Nat) : List (Option (List Exec.Instr)) → Exec.State → List Exec.State → Exec.State → Prop
  | [], S, mids, S' => mids = [] ∧ S' = S
  | none :: r, S, mids, S' => ∃ ms, mids = S :: ms ∧ ExecAllM a r S ms S'
  | some X :: r, S, mids, S' =>
    ∃ fuel ms, (Exec.run false a X fuel S 0).out = .halted ∧ (Exec.run false a X fuel S 0).pc ≥ X.length ∧
      mids = (Exec.run false a X fuel S 0).s :: ms ∧ ExecAllM a r (Exec.run false a X fuel S 0).s ms S'

theorem ExecAllM.toExecAll (a : Nat) : ∀ (Xs : List (Option (List Exec.Instr))) (S : Exec.State)
    (mids : List Exec.State) (S' : Exec.State), ExecAllM a Xs S mids S' → ExecAll a Xs S S'
  | [], _, _, _, h => h.2
  | none :: r, S, _, S', ⟨ms, _, h⟩ => ExecAllM.toExecAll a r S ms S' h
  | some _ :: r, _, _, S', ⟨fuel, ms, h1, h2, _, h⟩ => ⟨fuel, h1, h2, ExecAllM.toExecAll a r _ ms S' h⟩

theorem toX_of_regOK {r : Sdk.Reg} (h : Sdk.regOK r = true) :
    ∃ x : Exec.XReg, Asm.toX? (Bridge.cvReg r) = some x ∧ (⟨x.bank.val, x.idx.val⟩ : Sdk.Reg) = r := by
  simp only [Sdk.regOK, Bool.and_eq_true, decide_eq_true_eq] at h
  exact ⟨_, Bridge.toX_cvReg h.1 h.2, by cases r; rfl⟩

/-- the induction over the flush segments: `segs_sim` (C05) with the executor carried along, the controller
states after the flushes recorded and the host views of the returned registers at every flush -/
theorem segs_on_exec (a : Nat) : ∀ (segs : List (List Sdk.Host)) (fuel : Nat) (m m' : Sdk.Mem)
    (subs : List (Option (List Sdk.PCmd))) (hs hsEnd : Sdk.HSt) (views : List Sdk.HSt) (ts : Sdk.St)
    (Xs : List (Option (List Exec.Instr))) (t : Asm.State Asm.XMem) (S : Exec.State),
    (∀ ops ∈ segs, ∀ op ∈ ops, Sdk.TopOK op) → Sdk.compileSegs m segs = .ok (m', subs) →
    Sdk.hrunSegs fuel m.handles.length m.arrLens.length hs segs = some (hsEnd, views) →
    Sdk.SegInv m hs ts → Sdk.MemOK m → AsmAll m segs Xs → Bridge.Rel ts t → Bridge.UnitOK t.mem false →
    S.apps a = some (Asm.conc t).ap → S.loc (Asm.conc t).ap = Asm.conc t →
    ∃ Smids tsE tE SE, ExecAllM a Xs S Smids SE ∧ ViewsX a fuel m m.handles.length m.arrLens.length hs segs Smids ∧
      Sdk.SegInv m' hsEnd tsE ∧ Bridge.Rel tsE tE ∧ Bridge.UnitOK tE.mem false ∧
      SE.apps a = some (Asm.conc tE).ap ∧ SE.loc (Asm.conc tE).ap = Asm.conc tE
  | [], fuel, m, m', subs, hs, hsEnd, views, ts, Xs, t, S, _, hc, hh, hinv, _, hX, hrel, hu, hS, hloc => by
    simp [Sdk.compileSegs] at hc; obtain ⟨rfl, rfl⟩ := hc
    simp [Sdk.hrunSegs] at hh; obtain ⟨rfl, _⟩ := hh
    simp only [AsmAll] at hX; subst hX
    exact ⟨[], ts, t, S, ⟨rfl, rfl⟩, trivial, hinv, hrel, hu, hS, hloc⟩
  | ops :: rest, fuel, m, m', subs, hs, hsEnd, views, ts, Xs, t, S, hwf, hc, hh, hinv, hok, hX, hrel, hu, hS, hloc => by
    simp only [Sdk.compileSegs] at hc
    split at hc
    · cases hc
    · rename_i m1 pend he
      split at hc
      · cases hc
      · rename_i m2 sub hf
        split at hc
        · cases hc
        · rename_i m3 subs' hc'
          cases hc
          simp only [Sdk.hrunSegs] at hh
          split at hh
          · cases hh
          · rename_i s1 nh1 na1 hseg
            split at hh
            · cases hh
            · rename_i s2 views' hrest
              cases hh
              have htop : ∀ op ∈ ops, Sdk.TopOK op := hwf ops (by simp)
              obtain ⟨ok1, cpend⟩ := Sdk.emitOps_ok ops _ _ _ hok he
              obtain ⟨ok2, csub⟩ := Sdk.flush_ok ok1 cpend hf
              simp only [AsmAll, he, hf] at hX
              cases sub with
              | none =>
                obtain ⟨Xr, rfl, hXr⟩ := hX
                obtain ⟨hinv2, en, ea⟩ := Sdk.segment_sim_none hinv htop he hf hseg
                rw [en, ea] at hrest
                obtain ⟨Ss, tsE, tE, SE, hex, hv, r⟩ := segs_on_exec a rest fuel m2 _ subs' _ hsEnd views' ts Xr t S
                  (fun o ho => hwf o (by simp [ho])) hc' hrest hinv2 ok2 hXr hrel hu hS hloc
                exact ⟨S :: Ss, tsE, tE, SE, ⟨Ss, rfl, hex⟩,
                  ViewsX.cons he hseg hf (fun _ e => nomatch e) (by rw [en, ea]; exact hv), r⟩
              | some sb =>
                obtain ⟨A, X, Xr, rfl, hA, hXe, hXr⟩ := hX
                obtain ⟨ts1, hr1, hinv2, en, ea, hview⟩ := Sdk.segment_sim hinv htop he hf hseg
                rw [en, ea] at hrest
                -- this flush on the executor
                obtain ⟨fl, t1, e1, e2, e3, hup, hu1⟩ :=
                  flush_on_exec a sb (csub sb rfl) (reservedOf m2) A hA X hXe hr1 t hrel hu S hS hloc
                -- the scratch registers of this flush are dead: exact agreement again
                obtain ⟨ts1', hinv2', hrel1, _, _, _, hshm, _⟩ :=
                  scratch_dead_across_flushes hinv2 (fun i hi => mem_reservedOf hi) hup
                obtain ⟨Ss, tsE, tE, SE, hex, hv, r⟩ :=
                  segs_on_exec a rest fuel m2 _ subs' _ hsEnd views' ts1' Xr t1 (S.put a (Asm.conc t1))
                    (fun o ho => hwf o (by simp [ho])) hc' hrest hinv2' ok2 hXr hrel1 hu1
                    (Exec.put_apps_self S a _) (Exec.loc_put S a _)
                refine ⟨(S.put a (Asm.conc t1)) :: Ss, tsE, tE, SE,
                  ⟨fl, Ss, e2, e3, by rw [e1], by rw [e1]; exact hex⟩,
                  ViewsX.cons he hseg hf (fun _ _ => ?_) (by rw [en, ea]; exact hv), r⟩
                intro r hr
                obtain ⟨h0, b, v, g1, g2, g3⟩ := hview.regs r hr
                obtain ⟨x, hx, hxr⟩ := toX_of_regOK (ok1.rret r hr)
                refine ⟨h0, b, v, x, (Asm.conc t1).ap, g1, g2, hx, Exec.put_apps_self S a _, ?_⟩
                show t1.mem.shmRegs x = some v
                rw [← hrel1.shmRegs x, hxr, hshm]
                exact g3

theorem run_on_exec (a : Nat) (segs : List (List Sdk.Host))
    (hwf : ∀ ops ∈ segs, ∀ op ∈ ops, Sdk.TopOK op)
    (hbuild : (Sdk.run (Sdk.flat segs)).err = none) (fuel : Nat) (outs : List Int) (hsEnd : Sdk.HSt)
    (hhost : (Sdk.hrun fuel outs (Sdk.flat segs)).final = some hsEnd)
    (Xs : List (Option (List Exec.Instr))) (hX : AsmAll Sdk.Mem.init segs Xs)
    (t0 : Asm.State Asm.XMem) (hrel0 : Bridge.Rel (Sdk.St.init outs) t0) (hu0 : Bridge.UnitOK t0.mem false)
    (S0 : Exec.State) (hS0 : S0.apps a = some (Asm.conc t0).ap) (hloc0 : S0.loc (Asm.conc t0).ap = Asm.conc t0) :
    ∃ Smids tsE tE SE, ExecAllM a Xs S0 Smids SE ∧ ViewsX a fuel Sdk.Mem.init 0 0 (Sdk.HSt.init outs) segs Smids ∧
      Sdk.SegInv (Sdk.run (Sdk.flat segs)).mem hsEnd tsE ∧ Bridge.Rel tsE tE ∧ Bridge.UnitOK tE.mem false ∧
      SE.apps a = some (Asm.conc tE).ap ∧ SE.loc (Asm.conc tE).ap = Asm.conc tE := by
  obtain ⟨subs, views, hc, _, hrs⟩ := segs_of_run hbuild hhost
  exact segs_on_exec a segs fuel Sdk.Mem.init _ subs (Sdk.HSt.init outs) hsEnd views (Sdk.St.init outs) Xs t0 S0
    hwf hc hrs (Sdk.segInv_init outs) Sdk.memOK_init hX hrel0 hu0 hS0 hloc0

/-- For every host program accepted by the builder (`hbuild`) on which `HostSem`
is defined (`hhost`): the assembled subroutines of its flushes (`AsmAll`), run IN ORDER by `Exec.run` on
ONE controller state — started where application `a` is registered with an empty state (`Bridge.Rel` with
the initial ProtoExec state) and a unit module whose virtual qubit 0 is free — all halt, and in the final
state application `a` has the quantum-hook trace, the outcome oracle, the arrays and, for every live
handle, the register value of `HostSem`.  Apart from `AsmAll` (every subroutine assembles and reads back
as executor instructions) and the initial state, no hypothesis on the subroutines, on intermediate states or on
the quantum instructions is left (see the header). -/
theorem program_on_exec (a : Nat) (segs : List (List Sdk.Host))
    (hwf : ∀ ops ∈ segs, ∀ op ∈ ops, Sdk.TopOK op)
    (hbuild : (Sdk.run (Sdk.flat segs)).err = none) (fuel : Nat) (outs : List Int) (hsEnd : Sdk.HSt)
    (hhost : (Sdk.hrun fuel outs (Sdk.flat segs)).final = some hsEnd)
    (Xs : List (Option (List Exec.Instr))) (hX : AsmAll Sdk.Mem.init segs Xs)
    (t0 : Asm.State Asm.XMem) (hrel0 : Bridge.Rel (Sdk.St.init outs) t0) (hu0 : Bridge.UnitOK t0.mem false)
    (S0 : Exec.State) (hS0 : S0.apps a = some (Asm.conc t0).ap) (hloc0 : S0.loc (Asm.conc t0).ap = Asm.conc t0) :
    ∃ tE SE, ExecAll a Xs S0 SE ∧ SE.apps a = some (Asm.conc tE).ap ∧ SE.loc (Asm.conc tE).ap = Asm.conc tE ∧
      tE.mem.trace.map (·.name) = hsEnd.trace.filterMap Bridge.evName ∧
      tE.mem.oracle = hsEnd.outcomes ∧
      (∀ n : Nat, tE.mem.arrays (n : Int) = hsEnd.arrs n) ∧
      (∀ h v, hsEnd.hregs h = some v →
        ∃ r b, (Sdk.run (Sdk.flat segs)).mem.handles[h]? = some (r, b) ∧ tE.regs (Bridge.cvReg r) = some v) ∧
      Bridge.UnitOK tE.mem false := by
  obtain ⟨_, tsE, tE, SE, hex, _, hinvE, hrelE, huE, hSE, hlocE⟩ :=
    run_on_exec a segs hwf hbuild fuel outs hsEnd hhost Xs hX t0 hrel0 hu0 S0 hS0 hloc0
  refine ⟨tE, SE, hex.toExecAll, hSE, hlocE, ?_, ?_, ?_, ?_, huE⟩
  · rw [← hrelE.trace, hinvE.rel.trace]
  · rw [← hrelE.outs, hinvE.rel.outs]
  · intro n; rw [← hrelE.arrs n, hinvE.rel.arrs]
  · intro h v hv
    obtain ⟨r, b, e1, e2, _⟩ := hinvE.rel.regs h v hv
    exact ⟨r, b, e1, by rw [← hrelE.regs r]; exact e2⟩

/-- Under the hypotheses of `program_on_exec`: the subroutines run in order
on one controller state (`ExecAllM`, `Smids` = the states after the flushes), and after EVERY flush that sends
a subroutine the registers it returns hold, in the shared memory of application `a`, `HostSem`'s values of
their handles (`ViewsX`) — what the host reads through a `RegFuture` right after the flush. -/
theorem program_on_exec_views (a : Nat) (segs : List (List Sdk.Host))
    (hwf : ∀ ops ∈ segs, ∀ op ∈ ops, Sdk.TopOK op)
    (hbuild : (Sdk.run (Sdk.flat segs)).err = none) (fuel : Nat) (outs : List Int) (hsEnd : Sdk.HSt)
    (hhost : (Sdk.hrun fuel outs (Sdk.flat segs)).final = some hsEnd)
    (Xs : List (Option (List Exec.Instr))) (hX : AsmAll Sdk.Mem.init segs Xs)
    (t0 : Asm.State Asm.XMem) (hrel0 : Bridge.Rel (Sdk.St.init outs) t0) (hu0 : Bridge.UnitOK t0.mem false)
    (S0 : Exec.State) (hS0 : S0.apps a = some (Asm.conc t0).ap) (hloc0 : S0.loc (Asm.conc t0).ap = Asm.conc t0) :
    ∃ Smids SE, ExecAllM a Xs S0 Smids SE ∧ ViewsX a fuel Sdk.Mem.init 0 0 (Sdk.HSt.init outs) segs Smids := by
  obtain ⟨Smids, _, _, SE, hex, hv, _⟩ :=
    run_on_exec a segs hwf hbuild fuel outs hsEnd hhost Xs hX t0 hrel0 hu0 S0 hS0 hloc0
  exact ⟨Smids, SE, hex, hv⟩

/-! ### non-vacuity: the hypotheses of `program_on_exec` hold for C05's demo program

`toExecQ?` reads an assembled command as an executor instruction; it is only a way to COMPUTE a candidate
`X` — `asmAll?` checks `A.map embed = X.map ofExecQ` itself, so nothing depends on `toExecQ?` being right. -/

def rd (r : Reg) (k : Exec.XReg → Exec.Instr) : Option Exec.Instr := (Asm.toX? r).map k
def rd2 (r s : Reg) (k : Exec.XReg → Exec.XReg → Exec.Instr) : Option Exec.Instr :=
  (Asm.toX? r).bind fun x => (Asm.toX? s).map (k x)

def toExecQ? : Asm.PCmd → Option Exec.Instr
  | .instr "set" [] [.reg r, .lit v] => rd r (.set · v)
  | .instr "load" [] [.reg r, .entry ad (.reg i)] => rd2 r i (.load · ad ·)
  | .instr "store" [] [.reg r, .entry ad (.reg i)] => rd2 r i (.store · ad ·)
  | .instr "array" [] [.reg r, .addr ad] => rd r (.array · ad)
  | .instr "add" [] [.reg d, .reg x, .reg y] => (Asm.toX? d).bind fun d' => rd2 x y (.add d')
  | .instr "addm" [] [.reg d, .reg x, .reg y, .reg m] =>
    (Asm.toX? d).bind fun d' => (Asm.toX? x).bind fun x' => rd2 y m (.addm d' x')
  | .instr "jmp" [] [.lit tg] => some (.jmp tg)
  | .instr "bez" [] [.reg r, .lit tg] => rd r (.bez · tg)
  | .instr "bnz" [] [.reg r, .lit tg] => rd r (.bnz · tg)
  | .instr "beq" [] [.reg x, .reg y, .lit tg] => rd2 x y (.beq · · tg)
  | .instr "bne" [] [.reg x, .reg y, .lit tg] => rd2 x y (.bne · · tg)
  | .instr "blt" [] [.reg x, .reg y, .lit tg] => rd2 x y (.blt · · tg)
  | .instr "bge" [] [.reg x, .reg y, .lit tg] => rd2 x y (.bge · · tg)
  | .instr "ret_reg" [] [.reg r] => rd r .retReg
  | .instr "ret_arr" [] [.addr ad] => some (.retArr ad)
  | .instr "qalloc" [] [.reg r] => rd r .qalloc
  | .instr "qfree" [] [.reg r] => rd r .qfree
  | .instr "meas" [] [.reg q, .reg c] => rd2 q c .meas
  | .instr mn [] [.reg r] => if mn ∈ Asm.q1Names then rd r (.q1 mn) else none
  | _ => none
/-- a computed witness of `AsmAll` (each equation of `AsmAll` is CHECKED) -/
def asmAll? : Sdk.Mem → List (List Sdk.Host) → Option (List (Option (List Exec.Instr)))
  | _, [] => some []
  | m, ops :: rest =>
    match Sdk.emitOps m ops with
    | .error _ => none
    | .ok (m1, pend) =>
      match Sdk.flush m1 pend with
      | .error _ => none
      | .ok (m2, none) => (asmAll? m2 rest).map (none :: ·)
      | .ok (m2, some sub) =>
        match Asm.assemble Gen.vanillaRows Gen.excTable Gen.numScratch (Bridge.tr sub) (reservedOf m2) with
        | .error _ => none
        | .ok A =>
          match (A.map (Asm.embed Gen.vanillaRows)).mapM toExecQ? with
          | none => none
          | some X =>
            if A.map (Asm.embed Gen.vanillaRows) = X.map Asm.ofExecQ then (asmAll? m2 rest).map (some X :: ·)
            else none

theorem asmAll?_sound : ∀ (segs : List (List Sdk.Host)) (m : Sdk.Mem) (Xs : List (Option (List Exec.Instr))),
    asmAll? m segs = some Xs → AsmAll m segs Xs
  | [], m, Xs, h => by simp [asmAll?] at h; simp [AsmAll, h]
  | ops :: rest, m, Xs, h => by
    simp only [asmAll?] at h
    simp only [AsmAll]
    split at h
    · cases h
    · rename_i m1 pend he
      split at h
      · cases h
      · rename_i m2 hf
        simp only [Option.map_eq_some_iff] at h
        obtain ⟨Xr, hr, rfl⟩ := h
        exact ⟨Xr, rfl, asmAll?_sound rest m2 Xr hr⟩
      · rename_i m2 sub hf
        split at h
        · cases h
        · rename_i A hA
          split at h
          · cases h
          · rename_i X hX
            split at h
            · rename_i heq
              simp only [Option.map_eq_some_iff] at h
              obtain ⟨Xr, hr, rfl⟩ := h
              exact ⟨A, X, Xr, rfl, hA, heq, asmAll?_sound rest m2 Xr hr⟩
            · cases h

/-- the empty application state with a one-qubit unit module, and a controller that holds it -/
def demoT0 (outs : List Int) : Asm.State Asm.XMem :=
  ⟨fun _ => none, ⟨fun _ => none, fun _ => none, fun _ => none, [none], [], outs, []⟩⟩

def demoS0 (a : Nat) (outs : List Int) : Exec.State :=
  { apps := fun k => if k = a then some (Asm.conc (demoT0 outs)).ap else none, used := [], reserved := [],
    registry := [], oracle := outs, trace := [] }

/-- Non-vacuity of `program_on_exec`: for C05's demo program (nested loop / if / add / measurements,
two flushes; `demo_hyps`: the builder accepts it and `HostSem` is defined) every flush assembles and
reads as executor instructions, and the initial states exist -/
theorem nonvacuous_program_on_exec (a : Nat) (outs : List Int) :
    (∃ Xs, AsmAll Sdk.Mem.init demoSegs Xs) ∧
    Bridge.Rel (Sdk.St.init outs) (demoT0 outs) ∧ Bridge.UnitOK (demoT0 outs).mem false ∧
    (demoS0 a outs).apps a = some (Asm.conc (demoT0 outs)).ap ∧
    (demoS0 a outs).loc (Asm.conc (demoT0 outs)).ap = Asm.conc (demoT0 outs) := by
  refine ⟨?_, ⟨fun _ => rfl, fun _ => rfl, fun _ => rfl, rfl, rfl⟩,
    ⟨by simp [demoT0], fun _ => rfl, fun e => by cases e⟩, by simp [demoS0], rfl⟩
  have h : (asmAll? Sdk.Mem.init demoSegs).isSome = true := by decide +kernel
  cases hx : asmAll? Sdk.Mem.init demoSegs with
  | none => rw [hx] at h; cases h
  | some Xs => exact ⟨Xs, asmAll?_sound demoSegs Sdk.Mem.init Xs hx⟩

end NQ.C05

