/-
C16 — Operands the format cannot represent are rejected, never silently altered.

The model codec (`Model/Codec.lean`) is the *rejecting* variant: it is the code after
the fix of F2 (range checks in `netqasm/lang/encoding.py`); the correspondence stream
of `checks/c16.py` decides on every run that "the real code raises ⇔ the model returns
`none`" through the text assembler, the SDK and direct construction.
-/
import NetqasmVerif.Lemmas.Table
import NetqasmVerif.Props.C01
import NetqasmVerif.Model.Reject
namespace NQ.C16
open NQ

/-! The ranges of the statement, written out arithmetically (independent of the
boolean predicates the model codec uses). -/

/-- register index above 15 / negative, or a bank that is not one of R, C, Q, M -/
def BadReg (r : Reg) : Prop := r.idx < 0 ∨ 15 < r.idx ∨ 3 < r.bank

def BadI32 (v : Int) : Prop := v < -2147483648 ∨ 2147483647 < v

def BadOp : FieldKind → Operand → Prop
  | .reg, .reg r => BadReg r
  | .imm8, .imm v => v < 0 ∨ 255 < v
  | .int32, .imm v => BadI32 v
  | .addr, .addr a => BadI32 a
  | .entry, .entry a i => BadI32 a ∨ BadReg i
  | .slice, .slice a s e => BadI32 a ∨ BadReg s ∨ BadReg e
  | _, _ => True   -- an operand of the wrong kind

/-- the ranges of the statement are exactly what the model's Boolean check refuses -/
theorem badOp_iff (k : FieldKind) (o : Operand) : BadOp k o ↔ InRangeOp k o = false := by
  unfold BadOp InRangeOp
  split
  all_goals simp only [okReg, inU8, inI32, BadReg, BadI32, Bool.and_eq_false_iff,
    decide_eq_false_iff_not]
  all_goals omega

theorem inRangeOp_false_of_bad (k : FieldKind) (o : Operand) (h : BadOp k o) :
    InRangeOp k o = false := (badOp_iff k o).1 h

/-- the converse: the model rejects nothing it could represent -/
theorem bad_of_inRangeOp_false (k : FieldKind) (o : Operand) (h : InRangeOp k o = false) :
    BadOp k o := (badOp_iff k o).2 h

/-- **Rejection, instruction level.** For every instruction class (row) of any table and every
operand list in which *some* position `j` holds an operand that its slot cannot represent
(`BadOp`), encoding raises. No bound on how far outside the value is. -/
theorem encode_rejects (row : Row) (ops : List Operand) (j : Nat) (k : FieldKind) (o : Operand)
    (hk : row.shape[j]? = some k) (ho : ops[j]? = some o) (hbad : BadOp k o) :
    encodeRow row ops = none := by
  unfold encodeRow
  rw [encodeOps_none_of_false _ _ (Bool.eq_false_iff.2 fun h => Bool.false_ne_true
    ((inRangeOp_false_of_bad k o hbad).symm.trans ((inRangeOps_iff.1 h).2 j k o hk ho)))]

/-- a wrong number of operands is rejected as well -/
theorem encode_rejects_arity (row : Row) (ops : List Operand) (h : ops.length ≠ row.shape.length) :
    encodeRow row ops = none := by
  unfold encodeRow
  rw [encodeOps_none_of_false _ _ (Bool.eq_false_iff.2 fun hr => h (inRangeOps_iff.1 hr).1)]

theorem encodeInstr_rejects (T : Table) (i : Instr) (row : Row) (hrow : rowOf T i.cls = some row)
    (j : Nat) (k : FieldKind) (o : Operand)
    (hk : row.shape[j]? = some k) (ho : i.ops[j]? = some o) (hbad : BadOp k o) :
    encodeInstr T i = none := by
  unfold encodeInstr
  rw [hrow]
  exact encode_rejects row i.ops j k o hk ho hbad

theorem encodeInstrs_none_of_mem (T : Table) (is : List Instr) (i : Instr) (hi : i ∈ is)
    (hn : encodeInstr T i = none) : encodeInstrs T is = none := by
  induction is with
  | nil => cases hi
  | cons i' is ih =>
    simp only [encodeInstrs]
    rcases List.mem_cons.1 hi with rfl | hm
    · rw [hn]
    · rw [ih hm]; cases encodeInstr T i' <;> rfl

/-- **Rejection, subroutine level.** A subroutine of any length that contains one
unencodable instruction anywhere, an app id above 65535 or a version byte above 255
has no bytes at all. -/
theorem encodeSub_rejects (T : Table) (s : Sub)
    (h : (∃ i ∈ s.instrs, encodeInstr T i = none) ∨ 65535 < s.app ∨ 255 < s.v0 ∨ 255 < s.v1) :
    encodeSub T s = none := by
  cases he : encodeSub T s with
  | none => rfl
  | some bs =>
    obtain ⟨⟨_, _, _⟩, body, hb, _⟩ := encodeSub_eq_some he
    rcases h with ⟨i, hi, hn⟩ | h | h | h
    · rw [encodeInstrs_none_of_mem T _ i hi hn] at hb; cases hb
    all_goals omega

/-- **Never silently altered.** Over any table without opcode clash for the class of
`i`: if encoding produces bytes at all, then whatever these bytes decode to is `i`
itself. With `encode_rejects`: an instruction with an unrepresentable operand produces
no bytes, an instruction that produces bytes is reproduced exactly. -/
theorem encoded_never_decodes_differently (T : Table) (i i' : Instr) (bs : List Nat)
    (h : encodeInstr T i = some bs)
    (hc : ∀ row, rowOf T i.cls = some row → ∀ c ∈ opcodeClashes T, c.1 ≠ row.opcode)
    (hd : decodeInstr T bs = some i') : i' = i := by
  rw [C01.instr_roundtrip T i bs h hc] at hd
  exact (Option.some.inj hd).symm

theorem sub_never_decodes_differently (T : Table) (s s' : Sub) (bs : List Nat)
    (h : encodeSub T s = some bs)
    (hc : ∀ i ∈ s.instrs, ∀ row, rowOf T i.cls = some row →
      ∀ c ∈ opcodeClashes T, c.1 ≠ row.opcode)
    (hd : decodeSub T bs = some s') : s' = s := by
  rw [C01.subroutine_roundtrip T s bs h hc] at hd
  exact (Option.some.inj hd).symm

/-- NV flavour, unconditional -/
theorem nv_never_differs (s s' : Sub) (bs : List Nat) (h : encodeSub Gen.nvRows s = some bs)
    (hd : decodeSub Gen.nvRows bs = some s') : s' = s := by
  rw [C01.nv_roundtrip s bs h] at hd; exact (Option.some.inj hd).symm

/-- REIDS flavour, unconditional -/
theorem reids_never_differs (s s' : Sub) (bs : List Nat) (h : encodeSub Gen.reidsRows s = some bs)
    (hd : decodeSub Gen.reidsRows bs = some s') : s' = s := by
  rw [C01.reids_roundtrip s bs h] at hd; exact (Option.some.inj hd).symm

/-- Vanilla flavour. Full statement: `∀ s s' bs, encodeSub Gen.vanillaRows s = some bs →
decodeSub Gen.vanillaRows bs = some s' → s' = s` — false only through the opcode clash
F1 of C01 (`C01.vanilla_counterexample`, an *in-range* `meas_basis`), which is not an
out-of-range operand: rejection (`encode_rejects`) holds for vanilla without any side
condition. Proved part: subroutines avoiding the opcodes of the recorded clashes. -/
theorem vanilla_never_differs_partial (s s' : Sub) (bs : List Nat)
    (h : encodeSub Gen.vanillaRows s = some bs)
    (hk : ∀ i ∈ s.instrs, ∀ row, rowOf Gen.vanillaRows i.cls = some row →
      ∀ k ∈ Gen.knownOpcodeClashes, k.2.1 ≠ row.opcode)
    (hd : decodeSub Gen.vanillaRows bs = some s') : s' = s := by
  rw [C01.vanilla_roundtrip_partial s bs h hk] at hd; exact (Option.some.inj hd).symm

/-! Non-vacuity and the witnesses of F2. -/

-- the F2 witnesses are rejected: `set R16 5`, `set R1 2147483648`, `rot_x Q0 300 4`, app id 70000
example : encodeInstr Gen.vanillaRows ⟨"core.SetInstruction", [.reg ⟨0, 16⟩, .imm 5]⟩ = none := by
  decide +kernel
example : encodeInstr Gen.vanillaRows ⟨"core.SetInstruction", [.reg ⟨0, 1⟩, .imm 2147483648]⟩ = none := by
  decide +kernel
example : encodeInstr Gen.vanillaRows
    ⟨"vanilla.RotXInstruction", [.reg ⟨2, 0⟩, .imm 300, .imm 4]⟩ = none :=
  (encodeInstr_at C01.vanilla_cls 37 rfl _).trans (by decide +kernel)
example : encodeSub Gen.vanillaRows ⟨0, 0, 70000, []⟩ = none := by decide +kernel
-- hypotheses of `encode_rejects` are satisfiable (slot 1 of `set` is an int32, 2^31 is bad)
example : (⟨"core.SetInstruction", 4, "set", [.reg, .int32]⟩ : Row).shape[1]? = some .int32
    ∧ BadOp .int32 (.imm 2147483648) := ⟨rfl, Or.inr (by decide)⟩
-- just inside the range encodes (so `encoded_never_decodes_differently` is not vacuous)
example : (encodeInstr Gen.nvRows ⟨"nv.RotXInstruction", [.reg ⟨2, 15⟩, .imm 255, .imm 0]⟩).isSome
    = true := by rw [encodeInstr_at C01.nv_cls 30 rfl]; decide +kernel
example : (encodeSub Gen.vanillaRows ⟨255, 255, 65535,
    [⟨"core.SetInstruction", [.reg ⟨0, 15⟩, .imm 2147483647]⟩]⟩).isSome = true := by decide +kernel

/-! The SDK route: rotation numerators / denominators given to `rot_X/Y/Z`, with the
hardware-mode normalisation `n·2^(4−d)`, and the metadata as Python integers. -/

/-- Whatever `n`, `d` the SDK accepts: if the (normalised) numerator or the denominator
does not fit a byte, flushing raises — for every rotation class whose row has the shape
`reg imm8 imm8`, in any table. Covers `rot_X(n=300, d=4)` and, in hardware mode,
`rot_X(n=16, d=0)` (16·2⁴ = 256). -/
theorem sdk_rotation_rejects (T : Table) (hw : Bool) (cls : String) (q n d : Int) (row : Row)
    (hrow : rowOf T cls = some row) (hshape : row.shape = [.reg, .imm8, .imm8])
    (hbig : if hw then 255 < n * ((2 ^ (4 - d).toNat : Nat) : Int) else (255 < n ∨ 255 < d)) :
    encodeOptInstr T (sdkRot hw cls q n d) = none := by
  unfold sdkRot
  split
  · rfl
  · cases hw
    · simp only [Bool.false_eq_true, if_false] at hbig ⊢
      simp only [encodeOptInstr]
      rcases hbig with h | h
      · exact encodeInstr_rejects T _ row hrow 1 .imm8 (.imm n) (by rw [hshape]; rfl) rfl (Or.inr h)
      · exact encodeInstr_rejects T _ row hrow 2 .imm8 (.imm d) (by rw [hshape]; rfl) rfl (Or.inr h)
    · simp only [if_true] at hbig ⊢
      split
      · simp only [encodeOptInstr]
        exact encodeInstr_rejects T _ row hrow 1 .imm8 _ (by rw [hshape]; rfl) rfl (Or.inr hbig)
      · rfl

/-- app id / version numbers as arbitrary Python integers: anything outside
0..65535 / 0..255 is rejected -/
theorem encodeSubZ_rejects (T : Table) (v0 v1 app : Int) (is : List Instr)
    (h : app < 0 ∨ 65535 < app ∨ v0 < 0 ∨ 255 < v0 ∨ v1 < 0 ∨ 255 < v1) :
    encodeSubZ T v0 v1 app is = none := by
  unfold encodeSubZ
  split
  · rfl
  · apply encodeSub_rejects
    right
    simp only
    omega

-- the rows the SDK theorem is about exist with that shape
example : rowOf Gen.vanillaRows "vanilla.RotXInstruction" =
    some ⟨"vanilla.RotXInstruction", 27, "rot_x", [.reg, .imm8, .imm8]⟩ :=
  (rowOf_at C01.vanilla_cls 37 rfl :)
-- hardware mode: n = 16, d = 0 normalises to 256 and is rejected; n = 15 encodes
example : encodeOptInstr Gen.nvRows (sdkRot true "nv.RotXInstruction" 0 16 0) = none :=
  sdk_rotation_rejects _ true _ 0 16 0 _ (rowOf_at C01.nv_cls 30 rfl :) rfl (by decide)
example : (encodeOptInstr Gen.nvRows (sdkRot true "nv.RotXInstruction" 0 15 0)).isSome = true := by
  decide +kernel

/-- measurement bases given to `measure(basis_rotations=(x1, y, x2))`: a rotation outside a
byte makes flushing raise (any table whose `meas_basis` row has the shape reg reg imm8×4) -/
theorem sdk_meas_basis_rejects (T : Table) (q m x1 y x2 : Int) (row : Row)
    (hrow : rowOf T "core.MeasBasisInstruction" = some row)
    (hshape : row.shape = [.reg, .reg, .imm8, .imm8, .imm8, .imm8])
    (hbad : (x1 < 0 ∨ 255 < x1) ∨ (y < 0 ∨ 255 < y) ∨ (x2 < 0 ∨ 255 < x2)) :
    encodeInstr T (sdkMeasBasis q m x1 y x2) = none := by
  rcases hbad with h | h | h
  · exact encodeInstr_rejects T _ row hrow 2 .imm8 (.imm x1) (by rw [hshape]; rfl) rfl h
  · exact encodeInstr_rejects T _ row hrow 3 .imm8 (.imm y) (by rw [hshape]; rfl) rfl h
  · exact encodeInstr_rejects T _ row hrow 4 .imm8 (.imm x2) (by rw [hshape]; rfl) rfl h

/-- breakpoint action / role values outside a byte are rejected -/
theorem sdk_breakpoint_rejects (T : Table) (a r : Int) (row : Row)
    (hrow : rowOf T "core.BreakpointInstruction" = some row) (hshape : row.shape = [.imm8, .imm8])
    (hbad : (a < 0 ∨ 255 < a) ∨ (r < 0 ∨ 255 < r)) :
    encodeInstr T (sdkBreakpoint a r) = none := by
  rcases hbad with h | h
  · exact encodeInstr_rejects T _ row hrow 0 .imm8 (.imm a) (by rw [hshape]; rfl) rfl h
  · exact encodeInstr_rejects T _ row hrow 1 .imm8 (.imm r) (by rw [hshape]; rfl) rfl h

example : rowOf Gen.nvRows "core.MeasBasisInstruction" =
    some ⟨"core.MeasBasisInstruction", 41, "meas_basis", [.reg, .reg, .imm8, .imm8, .imm8, .imm8]⟩ :=
  (rowOf_at C01.nv_cls 20 rfl :)
example : rowOf Gen.vanillaRows "core.BreakpointInstruction" =
    some ⟨"core.BreakpointInstruction", 100, "breakpoint", [.imm8, .imm8]⟩ :=
  (rowOf_at C01.vanilla_cls 29 rfl :)

/-- Encoding is a function of the current operand values: whatever an instruction held (and
however often it was serialised) before, once slot `k` is assigned, in place, an operand it
cannot represent, encoding raises. -/
theorem encode_rejects_after_update (row : Row) (ops : List Operand) (k : Nat) (kind : FieldKind)
    (o : Operand) (hk : row.shape[k]? = some kind) (hlen : k < ops.length) (hbad : BadOp kind o) :
    encodeRow row (ops.set k o) = none :=
  encode_rejects row (ops.set k o) k kind o hk (by simp [hlen]) hbad

/-- the same for the metadata of a subroutine object: `sub.app_id = 70000` after `bytes(sub)` -/
theorem encodeSub_rejects_after_update (T : Table) (s : Sub) (app : Nat) (h : 65535 < app) :
    encodeSub T { s with app := app } = none :=
  encodeSub_rejects T _ (Or.inr (Or.inl h))

example : encodeRow ⟨"core.SetInstruction", 4, "set", [.reg, .int32]⟩
    (([.reg ⟨0, 1⟩, .imm 5] : List Operand).set 1 (.imm 2147483648)) = none := by decide +kernel

end NQ.C16
