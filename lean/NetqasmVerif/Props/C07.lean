/-
C07 — NV gate decompositions equal the vanilla gates they replace.

For every vanilla gate the NV transpiler accepts (X, Y, Z, H, K, S, T, the three axis rotations at
every encodable angle, CNOT and CPHASE for every electron/carbon placement, MOV in both directions)
the emitted NV sequence implements the same unitary up to global phase (MOV: the same state transfer
onto a |0⟩ target); a borrowed electron is returned to its prior state; each instruction's published
matrix is the operator its mnemonic denotes.

* fixed gates: the sequences are data generated by running the real transpiler (`Gen/NvDecomp.lean`);
  the operator identities are decided by the kernel in ℤ[ζ₈] (`Props/C07Obl*.lean`), hence hold for
  every input state, entangled with anything else.
* every placement: `placement_cover` + `sampled_placements_eq` + the translator's AST check that the
  ids are used only in comparisons with 0.
* rotations at every encodable angle, exactly: `Props/C07Rot.lean`. `rot_passthrough`, `hw_normalise`,
  `hw_reject`, `hw_overflow_rejected` here are about the model `nvRot`, tied to the real code by
  generated samples and by the exhaustive correspondence stream of checks/c07.py.
* published matrices: correspondence stream "matrices" (numpy `to_matrix()` vs. `rot2P`/`rot2PNeg` of
  Model/Gates evaluated in doubles, and the exact ℤ[ζ₈] entries); numpy/scipy `expm` behind
  `to_matrix()` is the one thing that stays numeric.

Trusted: ℤ[ζ₈] ↪ ℂ is an injective ring homomorphism; a matrix that is a non-zero scalar
multiple of a unitary and proportional to a unitary differs from it by a global phase.
-/
import NetqasmVerif.Lemmas.Gates
import NetqasmVerif.Props.C07Obligations
import NetqasmVerif.Props.C07OblTwo
namespace NQ.C07
open NQ NQ.NV

/-- X, Y, Z, H, K, S, T on the electron and on carbons: the emitted NV sequence is the vanilla
gate up to a non-zero scalar (2×2 identity in ℤ[ζ₈]). -/
theorem single_gates_eq :
    ∀ e ∈ Gen.nvSingle, singleOk e.1 e.2.2 = true := by
  intro e he
  exact List.all_eq_true.mp Obl.single_ok e he

/-- all seven fixed gates were expanded for the electron (id 0) and for a carbon (id ≠ 0) -/
theorem single_gates_cover :
    [GName.x, .y, .z, .h, .k, .s, .t].all (fun g =>
      Gen.nvSingle.any (fun e => e.1 == g && e.2.1 == 0) &&
      Gen.nvSingle.any (fun e => e.1 == g && e.2.1 != 0)) = true := Obl.single_cover

/-- the case split of `_handle_two_qubit_gate` is exhaustive on distinct ids and selects the
placement by "is the id 0" only -/
theorem placement_cover (id0 id1 : Nat) (h : id0 ≠ id1) :
    (id0 = 0 ∧ id1 ≠ 0 ∧ placementOf id0 id1 = .ec) ∨
    (id0 ≠ 0 ∧ id1 = 0 ∧ placementOf id0 id1 = .ce) ∨
    (id0 ≠ 0 ∧ id1 ≠ 0 ∧ placementOf id0 id1 = .cc) := by
  unfold placementOf
  by_cases h0 : id0 = 0
  · left; exact ⟨h0, by omega, by simp [h0]⟩
  · by_cases h1 : id1 = 0
    · right; left; exact ⟨h0, h1, by simp [h0, h1]⟩
    · right; right; exact ⟨h0, h1, by simp [h0, h1]⟩

/-- relabelling carbons does not change the placement -/
theorem placement_relabel (a b a' b' : Nat) (ha : (a = 0) ↔ (a' = 0)) (hb : (b = 0) ↔ (b' = 0)) :
    placementOf a b = placementOf a' b' := by
  unfold placementOf
  by_cases h0 : a = 0 <;> by_cases h1 : b = 0 <;> simp_all

/-- CNOT: for each placement the representative emitted sequence equals CNOT on the roles
(control, target), and — carbon–carbon — the identity on the borrowed electron -/
theorem cnot_placements_eq (p : Placement) : repOk Gen.nvTwo .cnot p = true :=
  List.all_eq_true.mp Obl.two_rep_ok_cnot p (by cases p <;> simp)

/-- the same for CPHASE -/
theorem cphase_placements_eq (p : Placement) : repOk Gen.nvTwo .cphase p = true :=
  List.all_eq_true.mp Obl.two_rep_ok_cphase p (by cases p <;> simp)

/-- every id pair the real transpiler was run on (electron→carbon, carbon→electron,
carbon→carbon with several carbon ids, either order): distinct ids, and the emitted sequence
is the gate on the roles of its placement up to a scalar -/
theorem sampled_placements_eq :
    ∀ e ∈ Gen.nvTwo, (e.1 = .cnot ∨ e.1 = .cphase) →
      e.2.1 ≠ e.2.2.1 ∧ twoOk e.1 (placementOf e.2.1 e.2.2.1) e.2.2.2 = true := by
  intro e he hg
  have h := List.all_eq_true.mp Obl.two_ids_only_through_zero e he
  simp only [Bool.and_eq_true, bne_iff_ne, ne_eq, beq_iff_eq] at h
  refine ⟨h.1, ?_⟩
  have hr : repOk Gen.nvTwo e.1 (placementOf e.2.1 e.2.2.1) = true := by
    rcases hg with hg | hg <;> rw [hg]
    · exact cnot_placements_eq _
    · exact cphase_placements_eq _
  unfold repOk at hr
  rw [h.2] at hr
  exact hr

/-- `I₂ ⊗ B` for a 2-qubit operator `B` (columns), written out -/
def kronId (B : Mat) : Mat :=
  (List.range 8).map fun j =>
    if j < 4 then B.getD j [] ++ [0, 0, 0, 0] else [0, 0, 0, 0] ++ B.getD (j - 4) []

/-- the carbon–carbon targets factor as (identity on the electron) ⊗ (gate on the two carbons):
together with `cnot_placements_eq .cc` / `cphase_placements_eq .cc` the borrowed electron is
returned in ANY state, entangled or not. -/
theorem electron_returned :
    target2 .cnot .cc = some (kronId (cnotMat 2 0 1)) ∧
    target2 .cphase .cc = some (kronId (cphaseMat 2 0 1)) := by decide +kernel

/-- the sparse machinery and the explicit targets agree on the vanilla gates themselves -/
theorem targets_consistent :
    circuit 2 [⟨.cnot, [0, 1], 0, 0⟩] = target2 .cnot .ec ∧
    circuit 2 [⟨.cnot, [1, 0], 0, 0⟩] = target2 .cnot .ce ∧
    circuit 3 [⟨.cnot, [1, 2], 0, 0⟩] = target2 .cnot .cc ∧
    circuit 2 [⟨.cphase, [0, 1], 0, 0⟩] = target2 .cphase .ec ∧
    circuit 2 [⟨.cphase, [1, 0], 0, 0⟩] = target2 .cphase .ce ∧
    circuit 3 [⟨.cphase, [1, 2], 0, 0⟩] = target2 .cphase .cc := by decide +kernel

/-- a debug transpiler emits the same gates -/
theorem debug_same : Gen.nvTwoDebug = Gen.nvTwo := eq_of_beq Obl.two_debug_same

/-- MOV electron→carbon and carbon→electron, every sampled id pair:
`U·(ψ_src ⊗ |0⟩_tgt) = φ₀ ⊗ ψ_tgt` for all ψ (two columns with a common φ₀ and scalar) -/
theorem mov_transfer : ∀ e ∈ Gen.nvMov, movOk e.1 e.2.1 e.2.2 = true := by
  intro e he
  exact List.all_eq_true.mp Obl.mov_ok e he

/-- electron → carbon and carbon → electron were both sampled -/
theorem mov_both_directions :
    (Gen.nvMov.any (fun e => e.1 == 0) && Gen.nvMov.any (fun e => e.2.1 == 0)) = true :=
  Obl.mov_cover

/-- every sampled carbon → carbon MOV raised in the transpiler, and the model has no roles for it -/
theorem mov_carbon_carbon_rejected :
    Gen.nvMovCarbonCarbon.all (fun e => e.2.2 && movRoles e.1 e.2.1 == none) = true :=
  Obl.mov_cc_rejected

/-- the MOV case split is exhaustive: distinct ids are electron→carbon, carbon→electron, or
carbon→carbon (rejected) -/
theorem mov_cover (id0 id1 : Nat) (h : id0 ≠ id1) :
    movRoles id0 id1 = some (0, 1) ∧ id0 = 0 ∨ movRoles id0 id1 = some (1, 0) ∧ id1 = 0 ∨
    movRoles id0 id1 = none ∧ id0 ≠ 0 ∧ id1 ≠ 0 := by
  unfold movRoles
  by_cases h0 : id0 = 0 <;> by_cases h1 : id1 = 0 <;> simp_all

/-- simulation mode, ALL numerators and denominators: the emitted NV rotation has the same axis
and the same `(n, d)` -/
theorem rot_passthrough (g : GName) (n d : Nat) (hg : GName.isRot g = true) :
    nvRot false g n d = some [⟨g, [0], n, d⟩] := by
  simp [nvRot, hg]

/-- `get_hardware_num_denom` for `d ≤ 4`: the one emitted rotation -/
theorem nvRot_hw (g : GName) (n d : Nat) (hg : GName.isRot g = true) (hd : d ≤ 4) :
    nvRot true g n d = some [⟨g, [0], n * 2 ^ (4 - d), 4⟩] := by
  simp [nvRot, hg, hwNumDenom, hd]

theorem hw_num (n d : Nat) (hd : d ≤ 4) : n * 2 ^ (4 - d) * 2 ^ d = n * 2 ^ 4 := by
  rw [Nat.mul_assoc, ← Nat.pow_add, Nat.sub_add_cancel hd]

/-- hardware mode, all n and d ≤ 4: one rotation of the same axis with denominator 4 and the
same angle in ℚ·π: `n'/2^4 = n/2^d` -/
theorem hw_normalise (g : GName) (n d : Nat) (hg : GName.isRot g = true) (hd : d ≤ 4) :
    ∃ n', nvRot true g n d = some [⟨g, [0], n', 4⟩] ∧ n' * 2 ^ d = n * 2 ^ 4 :=
  ⟨_, nvRot_hw g n d hg hd, hw_num n d hd⟩

/-- hardware mode, d > 4: rejected -/
theorem hw_reject (g : GName) (n d : Nat) (hd : 4 < d) : nvRot true g n d = none := by
  have : ¬ d ≤ 4 := by omega
  simp [nvRot, hwNumDenom, this]

/-- `angleK` depends on the angle `n·π/2^d` only: numerator and denominator may be scaled together -/
theorem angleK_scale (n d j : Nat) : angleK (n * 2 ^ j) (d + j) = angleK n d := by
  simp only [angleK_eq, Nat.pow_add, Nat.mul_right_comm n _ 4,
    Nat.mul_dvd_mul_iff_right (Nat.two_pow_pos j), Nat.mul_div_mul_right _ _ (Nat.two_pow_pos j)]

/-- where the angle is a multiple of π/4 the exact matrices of `(n, d)` and of its hardware form
coincide, for EVERY numerator (also those whose hardware form overflows 8 bits) and all d ≤ 4 -/
theorem hw_same_matrix_all (n d : Nat) (hd : d ≤ 4) : angleK (n * 2 ^ (4 - d)) 4 = angleK n d := by
  have h := angleK_scale n d (4 - d)
  rwa [Nat.add_sub_cancel' hd] at h

/-- in particular for all encodable n -/
theorem hw_same_matrix :
    (List.range 256).all (fun n => (List.range 5).all (fun d =>
      angleK (n * 2 ^ (4 - d)) 4 == angleK n d)) = true := by
  simp only [List.all_eq_true, List.mem_range, beq_iff_eq]
  exact fun n _ d hd => hw_same_matrix_all n d (by omega)

/-- simulation mode: the emitted instruction has the same (axis, n, d). A rotation instruction of
either flavour denotes `rot2P axis e^{i·nπ/2^d}` (Model/Gates), a function of (axis, n, d) only; the
stream "matrices" ties `to_matrix()` of every `vanilla.Rot*Instruction` and `nv.Rot*Instruction`
class to that one definition. So this is the equality of the two unitaries, also at angles with no
entry in ℤ[ζ₈]. -/
theorem rot_denotation_shared (g : GName) (n d : Nat) (hg : GName.isRot g = true) :
    ∃ i, nvRot false g n d = some [i] ∧ GName.axis? i.g = GName.axis? g ∧ i.n = n ∧ i.d = d ∧
      i.toOp = (GI.mk g [0] n d).toOp :=
  ⟨⟨g, [0], n, d⟩, rot_passthrough g n d hg, rfl, rfl, rfl, rfl⟩

/-- hardware mode, all n (no bound), d ≤ 4: the emitted `(n', 4)` is the same angle modulo 2π (it
is the same rational multiple of π), also when `n'` overflows 255 -/
theorem hw_angle_mod_2pi (g : GName) (n d : Nat) (hg : GName.isRot g = true) (hd : d ≤ 4) :
    ∃ n', nvRot true g n d = some [⟨g, [0], n', 4⟩] ∧ sameAngleMod2Pi n d n' 4 ∧
      angleK n' 4 = angleK n d := by
  refine ⟨_, nvRot_hw g n d hg hd, ?_, hw_same_matrix_all n d hd⟩
  unfold sameAngleMod2Pi; rw [hw_num n d hd]

/-- hardware mode end to end (transpile + serialise), d ≤ 4 and d-field in range: the rotation is
REJECTED (ValueError of the range check, never truncated) exactly when the normalised numerator
overflows, i.e. exactly when `n ≥ 2^(4+d)` (angle ≥ 16π) -/
theorem hw_overflow_rejected (g : GName) (n d : Nat) (hg : GName.isRot g = true) (hd : d ≤ 4) :
    (nvRotWire true g n d = none ↔ 255 < n * 2 ^ (4 - d)) ∧
    (255 < n * 2 ^ (4 - d) ↔ 2 ^ (4 + d) ≤ n) ∧
    (n * 2 ^ (4 - d) ≤ 255 → nvRotWire true g n d = some [⟨g, [0], n * 2 ^ (4 - d), 4⟩]) := by
  have hw : nvRotWire true g n d =
      if n * 2 ^ (4 - d) ≤ 255 then some [⟨g, [0], n * 2 ^ (4 - d), 4⟩] else none := by
    simp [nvRotWire, nvRot_hw g n d hg hd, rotEncodable]
  -- `256 = 2^(4+d) · 2^(4−d)`
  have key : 255 < n * 2 ^ (4 - d) ↔ 2 ^ (4 + d) ≤ n := by
    rw [← Nat.mul_le_mul_right_iff (Nat.two_pow_pos (4 - d)), ← Nat.pow_add, show 4 + d + (4 - d) = 8 by omega]
    exact Iff.rfl
  refine ⟨?_, key, fun h => by rw [hw, if_pos h]⟩
  rw [hw]
  split <;> simp <;> omega

/-- no angle is lost: every angle class has the representative `n mod 2^(d+1) < 2^(d+1)` (angle in
[0, 2π)), and every such numerator is accepted in hardware mode -/
theorem hw_accepts_reduced (g : GName) (n d : Nat) (hg : GName.isRot g = true) (hd : d ≤ 4)
    (hn : n < 2 ^ (d + 1)) : (nvRotWire true g n d).isSome = true := by
  have h := hw_overflow_rejected g n d hg hd
  have hle : 2 ^ (d + 1) ≤ 2 ^ (4 + d) := Nat.pow_le_pow_right (by omega) (by omega)
  rw [h.2.2 (Nat.le_of_not_lt fun h' => by have := h.2.1.1 h'; omega)]; rfl

/-- simulation mode end to end: every encodable vanilla rotation stays encodable -/
theorem sim_wire_passthrough (g : GName) (n d : Nat) (hg : GName.isRot g = true)
    (hn : n ≤ 255) (hd : d ≤ 255) : nvRotWire false g n d = some [⟨g, [0], n, d⟩] := by
  unfold nvRotWire
  rw [rot_passthrough g n d hg]
  simp [rotEncodable, hn, hd]

/-- the rotations the real transpiler was run on agree with the model `nvRot`, both modes -/
theorem rot_samples_ok :
    (Gen.nvRotSim.all (fun e => nvRot false e.1 e.2.1 e.2.2.1 == some e.2.2.2) &&
     Gen.nvRotHw.all (fun e => nvRot true e.1 e.2.1 e.2.2.1 == e.2.2.2)) = true := Obl.rot_samples_ok

def isScaledUnitary (m : M2 Cyc) (s : Cyc) : Bool :=
  M2.mul m m.adj == M2.smul s M2.id2

/-- every exact rotation matrix is 2·(a unitary): `M·M† = 4`; the control-|1⟩ block equals
`ζ^k` times the rotation by the opposite angle; fixed gates are unitary (H, K: `M·M† = 2`) -/
theorem gate_library_sane :
    ([Axis.X, .Y, .Z].all fun ax => (List.range 8).all fun k =>
        isScaledUnitary (rot2P ax (Cyc.zpow k)) (Cyc.ofInt 4) &&
        (rot2PNeg ax (Cyc.zpow k) == M2.smul (Cyc.zpow k) (rot2P ax (Cyc.zpow ((8 - k) % 8))))) = true ∧
    ([gX, gY, gZ, gS, gT].all fun m => isScaledUnitary m 1) = true ∧
    ([gHSqrt2, gKSqrt2].all fun m => isScaledUnitary m 2) = true ∧
    Cyc.sqrt2 * Cyc.sqrt2 = 2 ∧ Cyc.zpow 8 = 1 ∧ Cyc.zpow 2 = Cyc.I := by decide +kernel

/-! ### F8 (fixed): the sequences the unfixed tree emitted for S and T were the adjoints -/

def oldS : List GI := [⟨.rotX, [0], 24, 4⟩, ⟨.rotY, [0], 24, 4⟩, ⟨.rotX, [0], 8, 4⟩]
def oldT : List GI := [⟨.rotX, [0], 24, 4⟩, ⟨.rotY, [0], 28, 4⟩, ⟨.rotX, [0], 8, 4⟩]

theorem F8_old_expansions_were_adjoints :
    singleOk .s oldS = false ∧ singleOk .t oldT = false ∧
    equivUpToScalar? (circuit 1 oldS) (some (embed1 1 0 gS.adj)) = true ∧
    equivUpToScalar? (circuit 1 oldT) (some (embed1 1 0 gT.adj)) = true := by decide +kernel

example : ∃ e ∈ Gen.nvTwo, e.1 = .cnot ∧ placementOf e.2.1 e.2.2.1 = .cc ∧ e.2.2.2.length = 27 := by
  decide +kernel
example : (Gen.nvSingle.length, Gen.nvTwo.length, Gen.nvMov.length) = (28, 32, 10) := by decide +kernel
example : nvRot true .rotY 3 1 = some [⟨.rotY, [0], 24, 4⟩] := by decide
example : nvRotWire true .rotX 16 0 = none ∧ nvRotWire true .rotX 15 0 = some [⟨.rotX, [0], 240, 4⟩] := by decide
example : placementOf 3 9 = .cc ∧ placementOf 0 9 = .ec ∧ placementOf 9 0 = .ce := by decide
/-- `equivUpToScalar` does distinguish: CNOT with control and target exchanged is rejected -/
example : equivUpToScalar (cnotMat 2 0 1) (cnotMat 2 1 0) = false := by decide +kernel
/-- and it is not fooled by a relative phase -/
example : equivUpToScalar (embed1 1 0 gS) (embed1 1 0 gZ) = false := by decide +kernel

end NQ.C07
