/-
Kernel-decided obligations about the data generated from /repo for C10
(`Gen/Corrections.lean`): Bell numbering, Bell value → rotations, measurement
bases, the post-processing table. Kept in their own module so that they are
re-decided only when the generated data changes.
-/
import NetqasmVerif.Gen.Corrections
namespace NQ.BellObl
open NQ NQ.Bell

abbrev nb : Numbering := Gen.bellNumbering

/-- the rotations the emitted single-pair block performs for Bell state `b` -/
def corrGates (b : BellSt) : List Gate := Gen.singlePair.gates (nb.value b)

/-- `(C_b ⊗ 1)|b⟩` (side 0) resp. `(1 ⊗ C_b)|b⟩` (side 1) is a unit multiple of `|Φ⁺⟩` -/
def fixes (side : Nat) (b : BellSt) : Bool :=
  match gatesMat (corrGates b) with
  | some m => unitMultiple (applyLocal side m b.vec) BellSt.phiPlus.vec
  | none => false

theorem numbering_injective : nb.injective = true := by decide +kernel

theorem fixes_all : BellSt.all.all (fun b => fixes 0 b && fixes 1 b) = true := by decide +kernel

/-- sharpness: without its correction none of the three other Bell vectors is a multiple of Φ⁺,
and the wrong correction does not repair it either -/
theorem uncorrected_differ :
    [BellSt.phiMinus, .psiPlus, .psiMinus].all
      (fun b => !unitMultiple b.vec BellSt.phiPlus.vec) = true := by decide +kernel

theorem wrong_correction_fails :
    (match gatesMat (corrGates .psiPlus) with
     | some m => unitMultiple (applyLocal 0 m BellSt.psiMinus.vec) BellSt.phiPlus.vec
     | none => true) = false := by decide +kernel

/-! ### measurement bases -/

/-- hand-written reading of the `EprMeasBasis` names: axis and sign of the observable -/
def axisOfName : String → Option (Axis × Bool)
  | "X" => some (.x, false)
  | "Y" => some (.y, false)
  | "Z" => some (.z, false)
  | "MX" => some (.x, true)
  | "MY" => some (.y, true)
  | "MZ" => some (.z, true)
  | _ => none

/-- rotations `(a, b, c)` in units of π/16: X-rotation by a, then Y by b, then X by c -/
def preMeasure (r : Nat × Nat × Nat) : Option Mat :=
  gatesMat [⟨.x, r.1, 4⟩, ⟨.y, r.2.1, 4⟩, ⟨.x, r.2.2, 4⟩]

/-- the observable measured when `U` is applied before a Z measurement: `U† Z U` (un-normalised) -/
def observable (r : Nat × Nat × Nat) : Option Mat :=
  (preMeasure r).map (fun u => matMul (dagger u) (matMul pauliZ u))

def basisOk (row : String × (Nat × Nat × Nat) × Option String) : Bool :=
  match axisOfName row.1, observable row.2.1 with
  | some (ax, neg), some o =>
    row.2.2 == some row.1 &&
      [1, 2, 4, 8].any (fun (k : Int) => o == smulMat (GI.ofInt (if neg then -k else k)) ax.pauli)
  | _, _ => false

/-- each named basis: `rotation_to_basis (basis_to_rotation B) = B` and the rotation triple turns the
Z measurement into a measurement of the Pauli observable its name says (sign included) -/
theorem named_bases : (Gen.bases.all basisOk && Gen.bases.length == 6) = true := by decide +kernel

/-! ### post-processing of measure-directly outcomes -/

/-- a table row is right when flipping the raw local outcome exactly compensates the difference
between the outcome parity of `b` and the outcome parity of `Φ⁺` in that basis:
`(post ⊕ raw) = parity_b(B) ⊕ parity_Φ⁺(B)` — so that `post ⊕ remote = parity_Φ⁺(B)`. -/
def rowOk (row : Int × String × Nat × Option Nat) : Bool :=
  match nb.ofValue row.1, axisOfName row.2.1, row.2.2.2 with
  | some b, some (ax, _), some o =>
    match parityBit b ax.pauli, parityBit .phiPlus ax.pauli with
    | some pb, some pp => (o + row.2.2.1) % 2 == (pb + pp) % 2 && decide (o < 2)
    | _, _ => false
  | _, _, _ => false

theorem post_table_ok : Gen.postTable.all rowOk = true := by decide +kernel

def allCombos : List (Int × String × Nat) :=
  BellSt.all.flatMap (fun b => ["X", "Y", "Z", "MX", "MY", "MZ"].flatMap
    (fun nm => [0, 1].map (fun raw => (nb.value b, nm, raw))))

/-- every Bell state × named basis × raw outcome occurs in the table -/
theorem post_table_complete :
    (allCombos.all (fun c => Gen.postTable.any (fun r => r.1 == c.1 && r.2.1 == c.2.1 && r.2.2.1 == c.2.2))
      && Gen.postTable.length == 48) = true := by decide +kernel

/-- with `post_process = False` the outcome is the raw outcome -/
theorem post_off_identity : Gen.postOffTable.all (fun r => r.2.2.2 == some r.2.2.1) = true := by
  decide +kernel

/-- some rows do flip (the table is not the identity) -/
theorem post_table_flips : Gen.postTable.any (fun r => r.2.2.2 != some r.2.2.1) = true := by
  decide +kernel

/-- unequal named bases and unnamed rotation triples raise instead of returning an outcome -/
theorem unequal_unnamed_raise :
    (Gen.unequalNotRaising == 0 && Gen.unnamedNotRaising == 0 && Gen.unequalTried == 240
      && decide (Gen.unnamedTried > 0)) = true := by decide +kernel

/-- the post-routine / sequential paths address the loaded id; the move-to-memory path addresses the
communication qubit 0 -/
theorem targets_of_paths :
    (Gen.targetPost == .loaded && Gen.targetPostNonSeq == .loaded && Gen.targetPostNV == .loaded
      && Gen.targetMove == .setZero) = true := by decide +kernel

/-! ### the recorded defect F14 on a concrete instance (executed by the kernel) -/

def lbl : LoopLabels := ⟨"LOOP", "LOOP_EXIT", "IF_EXIT", "IF_EXIT1", "IF_EXIT2", "LOOP1", "LOOP_EXIT1"⟩

/-- results array of two pairs with Bell states (Φ⁺, Ψ⁺); only the Bell entries matter -/
def res2 : List Int :=
  (List.replicate 9 0 ++ [nb.value .phiPlus]) ++ (List.replicate 9 0 ++ [nb.value .psiPlus])

def mem2 : Mem := fun a => if a = 1 then some [0, 1] else if a = 0 then some res2 else none

def traceOf (t : Target) : Option (List Ev) :=
  (runFuel (corrLoopCode t Gen.layout Gen.singlePair 0 1 2 3 4 lbl 2 1 0) mem2 400 ⟨0, fun _ => 0, []⟩).map
    (·.trace)

/-- `recv_keep(number=2)`, Bell states (Φ⁺, Ψ⁺), qubit ids [0, 1]: the loop with `set <reg> 0` rotates
virtual qubit 0; the loop that keeps the loaded id rotates virtual qubit 1 -/
theorem f14_witness :
    traceOf .setZero = some [Ev.rot ⟨.x, 16, 4⟩ 0] ∧ traceOf .loaded = some [Ev.rot ⟨.x, 16, 4⟩ 1] := by
  decide +kernel

/-! ### requested bases → rotations in the request -/

/-- one probe of the real `create_measure` / `create_rsp` / `create(tp=…)`: the rotations handed to the
builder and the six slots of the serialized request are those of the model -/
def probeOk (row : String × Option String × Option String × Rot × Rot × Rot × Rot × List Nat) : Bool :=
  match requestRots Gen.bases row.2.1 row.2.2.1 row.2.2.2.1 row.2.2.2.2.1 with
  | some (l, r) => row.2.2.2.2.2.1 == l && row.2.2.2.2.2.2.1 == r && row.2.2.2.2.2.2.2 == serRots l r
  | none => false

theorem rot_probes_ok : Gen.rotProbes.all probeOk = true := by decide +kernel

/-- the probes exercise the discriminating situations: remote basis not named with remote rotations
different from the local ones, and a name together with a (losing) tuple -/
theorem rot_probes_cover :
    (Gen.rotProbes.any (fun r => r.2.2.1 == none && r.2.2.2.2.1 != r.2.2.2.2.2.1 && r.2.2.2.2.1 != (0, 0, 0)) &&
     Gen.rotProbes.any (fun r => r.2.1 != none && r.2.2.2.1 != (0, 0, 0)) &&
     Gen.rotProbes.any (fun r => r.1 == "create_rsp") && Gen.rotProbes.any (fun r => r.1 == "create(tp=M)") &&
     decide (Gen.rotProbes.length ≥ 170)) = true := by decide +kernel

end NQ.BellObl
