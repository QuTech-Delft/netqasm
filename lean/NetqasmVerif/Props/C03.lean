/-
C03 — Assembling text or IR into a subroutine preserves program meaning.

Full statement (DESIGN §5): for every proto program `P` that the assembler accepts, every source
step / run / fault / halt of `P` is reproduced by the assembled subroutine, states agreeing on
every register except the scratch candidates that `P` does not name and on the whole memory;
every branch lands on the command after its label; the output is the source instructions in
order, each preceded only by its own `set <scratch> <literal>`s.

Everything below is proved without extra hypotheses on the program except
`LabelTargets` (branch targets are labels — a numeric target has no source-level meaning).
The instruction semantics is a parameter (`StdLike`): the role table of the 21 classical /
array / allocation instructions and ANY `exec` for which `set` sets.

Hypotheses and limits (listed explicitly):
* `macros_tokenwise` carries the two hypotheses under which it is true (no macro value contains
  `$`; no macro use is directly followed by another `$`).  Neither can be dropped for the code as
  it is (sequential passes): `macros_adjacent_counterexample` is the witness for the second; for
  the first, with `a ↦ $b`, `b ↦ X` the text `$a` becomes `X`, not `$b` (no theorem);
* Text front end (`parse_text_protosubroutine`; model `AsmFront.parseTextProto`, tied by the
  differential stream `asm.parsetext`: equal proto-subroutine or same error class on rendered
  programs with random comments, blank lines, preambles, argument brackets and malformed forms):
  - THEOREMS: `parse_render_program` — for every proto program (labels, instructions with bracketed
    arguments, every source operand form) the text `# NETQASM v.w` / `# APPID n` / one command per
    line, with blank and comment-only lines interleaved ANYWHERE (`Padded`), is parsed into exactly
    (version, app id, program); this covers `_split_preamble_body`, `_parse_preamble` and its
    checks on these preambles, the tokeniser `group_by_word` with `instr(args)`, `_split_of_bracket`,
    `_parse_args`, label lines, operand parsing, `_parse_netqasm_version`.  `text_assemble_simulates`
    composes it with `assemble_simulates_run`.  Macros: `macros_tokenwise` (substitution) and
    `parse_render_with_macros` (body level: the substituted body is read back).
  - STREAM ONLY: indentation and comments AFTER a command on the same line, other orders / repeated
    or malformed preamble lines and every error class, `DEFINE` lines with `{…}` values in the
    preamble of the whole-text theorem (the macro theorems start from the macro list), templates
    `{x}`, other whitespace than blanks inside argument brackets.
* `scratch_not_named` / `AgreeOutsideScratch` are relative to the registers THIS subroutine names:
  a register that an earlier subroutine of the same application left live but that the present one
  does not mention is a legal scratch register for `_replace_constants` (SDK finding F42,
  property C05: `new_register()` in an earlier flush).  The fix of F42 is the `reserved_registers`
  parameter of `assemble_subroutine`; it is modelled (`reserved`, default `[]`) and every theorem
  carries it: reserved registers are never scratch and keep their values (`reserved_preserved`).
-/
import NetqasmVerif.Lemmas.AsmBuild
import NetqasmVerif.Lemmas.AsmMacros
import NetqasmVerif.Lemmas.AsmPure
import NetqasmVerif.Lemmas.AsmExec
import NetqasmVerif.Lemmas.AsmTextOperand
import NetqasmVerif.Props.TextObligations
import NetqasmVerif.Props.AsmTextObligations
import NetqasmVerif.Props.AsmObligations
import NetqasmVerif.Props.C01
namespace NQ.C03
open NQ NQ.Asm

theorem exc_covers : excCovers stdRoleTable Gen.excTable = true := AsmObl.exc_covers
theorem roles_fit :
    stdRoleTable.all (fun e => match nameMap Gen.vanillaRows e.1 with
      | some row => rolesFit e.2 row.shape
      | none => false) = true := AsmObl.roles_fit
theorem branch_positions :
    stdRoleTable.flatMap (fun e => (tgtPositions e.2 0).map (fun j => (e.1, j))) = Gen.branchTargets :=
  AsmObl.branch_positions
theorem tableOk_vanilla : TableOk Gen.vanillaRows := fun _ hrow => rowOf_of_mem C01.vanilla_cls hrow

theorem classes_unique :
    Gen.vanillaRows.all (fun r => rowOf Gen.vanillaRows r.cls == some r) = true := AsmObl.classes_unique
theorem macro_probe_fixed : Gen.macroTokenAware = true := AsmObl.macro_probe_fixed

structure StdLike {M : Type} (mc : Machine M) : Prop where
  roles_eq : mc.roles = stdRoles
  exec_set : ∀ v m, mc.exec "set" [.dst, .imm v] m = .ok (some v) m false

theorem setOk_of_stdLike {M : Type} {mc : Machine M} (h : StdLike mc) : SetOk mc :=
  ⟨by rw [h.roles_eq]; rfl, h.exec_set⟩

theorem lookupRoles_mem {tbl : List (String × List Role)} {mn : String} {rs : List Role}
    (h : lookupRoles tbl mn = some rs) : (mn, rs) ∈ tbl := by
  induction tbl with
  | nil => simp [lookupRoles] at h
  | cons e es ih =>
    obtain ⟨k, v⟩ := e
    simp only [lookupRoles] at h
    by_cases hk : k = mn
    · simp only [hk, if_true, Option.some.injEq] at h; subst h; subst hk; simp
    · simp only [hk, if_false] at h; exact List.mem_cons_of_mem _ (ih h)

theorem mem_immPositions {rs : List Role} {j k : Nat} {role : Role} (h : rs[k]? = some role)
    (hr : role = .imm ∨ role = .tgt) : j + k ∈ immPositions rs j := by
  induction rs generalizing j k with
  | nil => simp at h
  | cons r rs' ih =>
    cases k with
    | zero =>
      simp at h; subst h
      simp only [immPositions, List.mem_append]
      left; simp [hr]
    | succ k' =>
      simp at h
      simp only [immPositions, List.mem_append]
      right
      have := ih (j := j + 1) h
      have e : j + 1 + k' = j + (k' + 1) := by omega
      rw [e] at this; exact this

theorem excCovers_sound {M : Type} {mc : Machine M} (h : StdLike mc) : ExcCovers mc Gen.excTable := by
  intro mn rs hr k role hk hrole
  rw [h.roles_eq] at hr
  have hm := lookupRoles_mem hr
  have := exc_covers
  simp only [excCovers, List.all_eq_true] at this
  have h2 := this (mn, rs) hm
  exact h2 (0 + k) (mem_immPositions hk hrole)

section
variable {M : Type} {mc : Machine M} {P : List PCmd} {A : List Instr} {reserved : List Reg}

/-- **One step.**  Every step of the source program is matched by steps of the assembled
subroutine (the inserted `set`s, then the instruction itself) between the images of the two
source positions; the states still agree outside the scratch set. -/
theorem assemble_simulates (hm : StdLike mc) (hwf : LabelTargets mc P)
    (hA : assemble Gen.vanillaRows Gen.excTable Gen.numScratch P reserved = .ok A)
    {s s' t : State M} {i i' : Nat}
    (hstep : step mc P s i = .next s' i') (hag : AgreeOutsideScratch Gen.numScratch P s t reserved) :
    ∃ t', Steps mc (A.map (embed Gen.vanillaRows)) (t, tpos Gen.excTable P i) (t', tpos Gen.excTable P i')
      ∧ AgreeOutsideScratch Gen.numScratch P s' t' reserved :=
  (assembleProto_sim (setOk_of_stdLike hm) (excCovers_sound hm) hwf (assemble_embed tableOk_vanilla hA)).next hstep hag

/-- **Every run** (any number of steps, no bound). -/
theorem assemble_simulates_run (hm : StdLike mc) (hwf : LabelTargets mc P)
    (hA : assemble Gen.vanillaRows Gen.excTable Gen.numScratch P reserved = .ok A)
    {s s' t : State M} {i i' : Nat}
    (hrun : Steps mc P (s, i) (s', i')) (hag : AgreeOutsideScratch Gen.numScratch P s t reserved) :
    ∃ t', Steps mc (A.map (embed Gen.vanillaRows)) (t, tpos Gen.excTable P i) (t', tpos Gen.excTable P i')
      ∧ AgreeOutsideScratch Gen.numScratch P s' t' reserved :=
  sim_run (setOk_of_stdLike hm) (excCovers_sound hm) hwf (assemble_embed tableOk_vanilla hA) hrun t hag

/-- **Faults.**  A source instruction that faults makes the assembled subroutine fault with the
same kind, inside the image of that very instruction, after steps that change only scratch
registers. -/
theorem assemble_simulates_fault (hm : StdLike mc) (hwf : LabelTargets mc P)
    (hA : assemble Gen.vanillaRows Gen.excTable Gen.numScratch P reserved = .ok A)
    {s t : State M} {i k : Nat}
    (hf : step mc P s i = .fault k) (hag : AgreeOutsideScratch Gen.numScratch P s t reserved) :
    ∃ t' j, Steps mc (A.map (embed Gen.vanillaRows)) (t, tpos Gen.excTable P i) (t', j) ∧
      step mc (A.map (embed Gen.vanillaRows)) t' j = .fault k ∧
      tpos Gen.excTable P i ≤ j ∧ j < tpos Gen.excTable P (i + 1) ∧
      AgreeOutsideScratch Gen.numScratch P s t' reserved :=
  (assembleProto_sim (setOk_of_stdLike hm) (excCovers_sound hm) hwf (assemble_embed tableOk_vanilla hA)).fault hf hag

/-- **Halting.**  When the source has run off its end, so has the assembled subroutine. -/
theorem assemble_halts (hA : assemble Gen.vanillaRows Gen.excTable Gen.numScratch P reserved = .ok A)
    {s t : State M} {i : Nat} (hh : step mc P s i = .halt) :
    step mc (A.map (embed Gen.vanillaRows)) t (tpos Gen.excTable P i) = .halt :=
  sim_halt (assemble_embed tableOk_vanilla hA) hh

/-- `step` is a function, so the assembled subroutine has no other behaviour. -/
theorem step_deterministic {Q : List PCmd} {s s1 s2 : State M} {i i1 i2 : Nat}
    (h1 : step mc Q s i = .next s1 i1) (h2 : step mc Q s i = .next s2 i2) : s1 = s2 ∧ i1 = i2 := by
  rw [h1] at h2; cases h2; exact ⟨rfl, rfl⟩

/-- the image of a position does not move across a label: consecutive labels, a label in
front of an instruction and a label after the last instruction all denote the image of the next
real instruction (or the end) -/
theorem tpos_skips_label {exc : List (String × Nat)} {k : Nat} {l : String} (h : P[k]? = some (.label l)) :
    tpos exc P (k + 1) = tpos exc P k := by
  rw [tpos_succ h]; simp [lenA]

/-- **`labels_correct`.**  The table built by `_assign_branch_labels` — *after* constant
insertion — maps every label to the image of its source position. -/
theorem labels_correct {exc : List (String × Nat)} {n : Nat} {P1 : List PCmd} (l : String)
    (h1 : replaceConstants exc n (makeArgsOperands P) reserved = .ok P1) :
    lookupLabel (labelTable P1 0) l = (labelIdx P l).map (tpos exc P) := by
  have hna := noArgs_makeArgs P
  rw [lookup_labelTable, labelIdx_rcAll l h1, labelIdx_makeArgs, Option.map_map]
  congr 1; funext k
  simp only [Function.comp, Nat.zero_add]
  rw [tpos_compose hna h1, tpos_makeArgs]

/-- **Every taken branch lands on the command that followed its label.** -/
theorem branch_lands_after_label (hm : StdLike mc) (hwf : LabelTargets mc P)
    (hA : assemble Gen.vanillaRows Gen.excTable Gen.numScratch P reserved = .ok A)
    {s s' t : State M} {i k : Nat} {l : String} (hl : labelIdx P l = some k)
    (hstep : step mc P s i = .next s' (k + 1)) (hag : AgreeOutsideScratch Gen.numScratch P s t reserved) :
    ∃ t', Steps mc (A.map (embed Gen.vanillaRows)) (t, tpos Gen.excTable P i) (t', tpos Gen.excTable P k)
      ∧ AgreeOutsideScratch Gen.numScratch P s' t' reserved := by
  have := assemble_simulates hm hwf hA hstep hag
  rw [tpos_skips_label (labelIdx_spec hl)] at this
  exact this

/-- **`currentRegisters_covers`** (true for the code after the F3 fix): every register the
program names, at top level or inside brackets, is a current register. -/
theorem currentRegisters_covers {r : Reg} (h : NamedIn P r) : r ∈ currentRegisters P :=
  mem_currentRegisters_of_named h

/-- hence a scratch register is never a register of the program nor a reserved one: the simulation
theorems need no freshness hypothesis -/
theorem scratch_not_named {n : Nat} {r : Reg} (h : IsScratch n (currentRegisters P ++ reserved) r) :
    ¬ NamedIn P r ∧ r ∉ reserved := by
  obtain ⟨_, _, _, h'⟩ := h
  exact ⟨fun hn => h' (List.mem_append_left _ (currentRegisters_covers hn)), fun hr => h' (List.mem_append_right _ hr)⟩

/-- **`replaceConstants_preserves`.**  One source step = the inserted `set`s + the patched
instruction in the output of `_replace_constants`; registers named by `P` are undisturbed. -/
theorem replaceConstants_preserves (hm : StdLike mc) {n : Nat} {P1 : List PCmd}
    (hna : NoArgs P) (hwf : LabelTargets mc P)
    (h1 : replaceConstants Gen.excTable n P reserved = .ok P1) {s s' t : State M} {i i' : Nat}
    (hstep : step mc P s i = .next s' i') (hag : AgreeOutsideScratch n P s t reserved) :
    ∃ t', Steps mc P1 (t, tpos1 Gen.excTable P i) (t', tpos1 Gen.excTable P i') ∧
      AgreeOutsideScratch n P s' t' reserved :=
  (localSim_rcAll (c := ⟨Gen.excTable, n, currentRegisters P ++ reserved⟩) (setOk_of_stdLike hm) (excCovers_sound hm)
    hna hwf (fun _ hr => List.mem_append_left _ (currentRegisters_covers hr)) h1).sim.next hstep hag

/-- **`no_drop_dup_reorder`.**  The assembled program is, block by block and in order, the
source instructions (labels erased): each block is the `set <scratch> <literal>`s inserted for
that instruction (distinct scratch registers that the program does not name) followed by the
instruction itself with patched operands. -/
theorem no_drop_dup_reorder {exc : List (String × Nat)} {n : Nat} {P2 : List PCmd}
    (h : assembleProto exc n P reserved = .ok P2) :
    ∃ (tbl : List (String × Nat)) (blocks : List (List (Reg × Int) × PCmd)),
      P2 = blocks.flatMap blockCode ∧
      Forall2 (fun src b => CmdPatched exc tbl b.1 (makeArgsCmd src) b.2 ∧
          (∀ rv ∈ b.1, IsScratch n (currentRegisters P ++ reserved) rv.1) ∧ (b.1.map Prod.fst).Nodup)
        (instrsOf P) blocks := by
  obtain ⟨P1, h1, h2, -⟩ := assembleProto_inv h
  obtain ⟨blocks, hb, hf⟩ := structure_rcAll (labelTable P1 0) (noArgs_makeArgs P) h1
  refine ⟨labelTable P1 0, blocks, by rw [assignBranchLabels_ok h2, hb], ?_⟩
  rw [instrsOf_makeArgs P] at hf
  exact forall2_of_map hf

/-- the instruction classes are built from exactly these commands: `embed ∘ build = id` -/
theorem build_faithful (hA : assemble Gen.vanillaRows Gen.excTable Gen.numScratch P reserved = .ok A) :
    assembleProto Gen.excTable Gen.numScratch P reserved = .ok (A.map (embed Gen.vanillaRows)) :=
  assemble_embed tableOk_vanilla hA

end

/-- `array 3 @0` / `store 7 @0[R0]` -/
def f3Prog : List PCmd :=
  [.instr "array" [] [.lit 3, .addr 0], .instr "store" [] [.lit 7, .entry 0 (.reg ⟨0, 0⟩)]]

/-- With `get_current_registers` looking at top-level operands only, `currentRegisters_covers`
is false and the scratch register of `store 7 @0[R0]` is `R0` itself: the index is overwritten
(`set R0 7; store R0 @0[R0]`). -/
theorem F3_old_code_counterexample :
    NamedIn f3Prog ⟨0, 0⟩ ∧ (⟨0, 0⟩ : Reg) ∉ currentRegistersTop f3Prog ∧
    (assembleProtoTop Gen.excTable Gen.numScratch f3Prog).toOption = some
      [.instr "set" [] [.reg ⟨0, 0⟩, .lit 3], .instr "array" [] [.reg ⟨0, 0⟩, .addr 0],
       .instr "set" [] [.reg ⟨0, 0⟩, .lit 7], .instr "store" [] [.reg ⟨0, 0⟩, .entry 0 (.reg ⟨0, 0⟩)]] := by
  refine ⟨⟨"store", [], [.lit 7, .entry 0 (.reg ⟨0, 0⟩)], .entry 0 (.reg ⟨0, 0⟩), by simp [f3Prog], by simp,
    by simp [opRegs, riRegs]⟩, by decide, by decide +kernel⟩

/-- the same program through the fixed pass: the scratch register avoids `R0` -/
theorem F3_fixed_witness :
    (assembleProto Gen.excTable Gen.numScratch f3Prog).toOption = some
      [.instr "set" [] [.reg ⟨0, 1⟩, .lit 3], .instr "array" [] [.reg ⟨0, 1⟩, .addr 0],
       .instr "set" [] [.reg ⟨0, 1⟩, .lit 7], .instr "store" [] [.reg ⟨0, 1⟩, .entry 0 (.reg ⟨0, 0⟩)]] := by
  decide +kernel

def loopProg : List PCmd :=
  [.instr "set" [] [.reg ⟨0, 0⟩, .lit 0],
   .label "LOOP",
   .instr "add" [] [.reg ⟨0, 0⟩, .reg ⟨0, 0⟩, .lit 1],
   .instr "blt" [] [.reg ⟨0, 0⟩, .lit 3, .lab "LOOP"],
   .label "END"]

/-- non-vacuity of `hX`: the assembled loop program, read as executor instructions -/
def loopX : List Exec.Instr :=
  [.set ⟨0, 0⟩ 0, .set ⟨0, 1⟩ 1, .add ⟨0, 0⟩ ⟨0, 0⟩ ⟨0, 1⟩, .set ⟨0, 1⟩ 3, .blt ⟨0, 0⟩ ⟨0, 1⟩ 1]

theorem nonvacuous_exec :
    (assemble Gen.vanillaRows Gen.excTable Gen.numScratch loopProg).toOption.map
      (fun A => A.map (embed Gen.vanillaRows)) = some (loopX.map ofExec) := by decide +kernel

def loopCheck : Bool :=
  match runN stdMachine loopProg 9 (⟨fun _ => none, ⟨[], [], [], []⟩⟩, 0) with
  | some c => c.2 == 5 && c.1.regs ⟨0, 0⟩ == some 3
  | none => false

/-- the hypotheses of `assemble_simulates_run` hold for a concrete looping program on the
concrete machine, and the source really runs (9 steps, to the end, `R0 = 3`) -/
theorem nonvacuous_loop :
    StdLike stdMachine ∧ LabelTargets stdMachine loopProg ∧
    ((assemble Gen.vanillaRows Gen.excTable Gen.numScratch loopProg).toOption.map List.length = some 5) ∧
    (∃ s', Steps stdMachine loopProg (⟨fun _ => none, ⟨[], [], [], []⟩⟩, 0) (s', 5) ∧ s'.regs ⟨0, 0⟩ = some 3) := by
  -- the length of the assembled program can be read off `nonvacuous_exec`
  have hlen : (assemble Gen.vanillaRows Gen.excTable Gen.numScratch loopProg).toOption.map List.length = some 5 := by
    have h := nonvacuous_exec
    cases hA : (assemble Gen.vanillaRows Gen.excTable Gen.numScratch loopProg).toOption with
    | none => rw [hA] at h; cases h
    | some A =>
      rw [hA] at h
      have := congrArg List.length (Option.some.inj h)
      simpa [loopX] using this
  refine ⟨⟨rfl, fun _ _ => rfl⟩, ?_, hlen, ?_⟩
  · intro mn args ops rs v hm hr
    simp only [loopProg, List.mem_cons, PCmd.instr.injEq, List.mem_nil_iff, or_false] at hm
    rcases hm with ⟨rfl, rfl, rfl⟩ | h | ⟨rfl, rfl, rfl⟩ | ⟨rfl, rfl, rfl⟩ | h
    · cases hr; simp [allOps, tgtOf]
    · cases h
    · cases hr; simp [allOps, tgtOf]
    · cases hr; simp [allOps, tgtOf]
    · cases h
  · have h : loopCheck = true := by decide +kernel
    unfold loopCheck at h
    cases hr : runN stdMachine loopProg 9 (⟨fun _ => none, ⟨[], [], [], []⟩⟩, 0) with
    | none => simp [hr] at h
    | some c =>
      simp only [hr, Bool.and_eq_true, beq_iff_eq] at h
      obtain ⟨s', pc⟩ := c
      simp only at h
      obtain ⟨rfl, h3⟩ := h
      exact ⟨s', steps_of_runN hr, h3⟩

/-! ## the target is the executor model of C04

`Model/Exec.lean` (`Exec.stepLoc`, the reference interpreter that C04 ties to the real `Executor`)
is an instance of the machines above: `xMachine = ⟨stdRoles, xExec⟩` with `xExec` the executor's
instruction semantics on evaluated operands, and `step_corr` proves for each of the 21
instructions that a step (fault) of `xMachine` on the read-back of an executor program IS the
step (fault of the same kind) of `Exec.stepLoc` on the concretised state `conc t` (registers
restricted to the 4 × 16 file; memory = arrays, shared memory, unit module, used set, oracle, trace).
Simulation mode (`hw = false`): in hardware mode `set r v` faults for `v` outside 32 bits, so a
materialised literal would additionally have to fit (C16 rejects others when the subroutine is
encoded). -/

theorem stdLike_xMachine : StdLike xMachine := ⟨rfl, xExec_set⟩

/-- **The executor model is an instance** (`step_corr`), for every executor program, state and position. -/
theorem exec_is_instance (a : Nat) (X : List Exec.Instr) (t : State XMem) (k : Nat) :
    (∀ t' pc', step xMachine (X.map ofExec) t k = .next t' pc' →
      ∃ x, X[k]? = some x ∧ Exec.stepLoc false a x (conc t) (k : Int) = .ok (conc t') (pc' : Int)) ∧
    (∀ f, step xMachine (X.map ofExec) t k = .fault f →
      ∃ x, X[k]? = some x ∧ lresKind (Exec.stepLoc false a x (conc t) (k : Int)) = some f) :=
  step_corr a X t k

section
variable {P : List PCmd} {A : List Instr} {reserved : List Reg}

/-- **`assemble_simulates_exec`.**  Source runs (proto program `P` under the executor's own
instruction semantics, labels no-ops, literals evaluating to themselves) are reproduced by the
EXECUTOR MODEL `Exec.stepLoc` running the assembled subroutine `X` (the instructions of `A` as
`Exec.Instr`), from the image of the start position to the image of the end position, the
states agreeing outside the scratch set. -/
theorem assemble_simulates_exec (a : Nat) (hwf : LabelTargets xMachine P)
    (hA : assemble Gen.vanillaRows Gen.excTable Gen.numScratch P reserved = .ok A)
    (X : List Exec.Instr) (hX : A.map (embed Gen.vanillaRows) = X.map ofExec)
    {s s' t : State XMem} {i i' : Nat}
    (hrun : Steps xMachine P (s, i) (s', i')) (hag : AgreeOutsideScratch Gen.numScratch P s t reserved) :
    ∃ t', XSteps a X (conc t, (tpos Gen.excTable P i : Int)) (conc t', (tpos Gen.excTable P i' : Int))
      ∧ AgreeOutsideScratch Gen.numScratch P s' t' reserved := by
  obtain ⟨t', hst, hag'⟩ := assemble_simulates_run stdLike_xMachine hwf hA hrun hag
  rw [hX] at hst
  exact ⟨t', xsteps_of_steps a X hst, hag'⟩

/-- … and a faulting source instruction makes the executor model fault with the same
`Exec.Fault`, inside the image of that instruction. -/
theorem assemble_simulates_exec_fault (a : Nat) (hwf : LabelTargets xMachine P)
    (hA : assemble Gen.vanillaRows Gen.excTable Gen.numScratch P reserved = .ok A)
    (X : List Exec.Instr) (hX : A.map (embed Gen.vanillaRows) = X.map ofExec)
    {s t : State XMem} {i : Nat} {f : Exec.Fault}
    (hf : step xMachine P s i = .fault (faultCode f)) (hag : AgreeOutsideScratch Gen.numScratch P s t reserved) :
    ∃ (t' : State XMem) (j : Nat) (x : Exec.Instr) (l' : Exec.Loc),
      XSteps a X (conc t, (tpos Gen.excTable P i : Int)) (conc t', (j : Int)) ∧
      X[j]? = some x ∧ Exec.stepLoc false a x (conc t') (j : Int) = .fault l' f ∧
      tpos Gen.excTable P i ≤ j ∧ j < tpos Gen.excTable P (i + 1) ∧
      AgreeOutsideScratch Gen.numScratch P s t' reserved := by
  obtain ⟨t', j, hst, hfj, hlo, hhi, hag'⟩ := assemble_simulates_fault stdLike_xMachine hwf hA hf hag
  rw [hX] at hst hfj
  obtain ⟨x, hx, hk⟩ := (step_corr a X t' j).2 _ hfj
  cases hl : Exec.stepLoc false a x (conc t') (j : Int) with
  | ok l pc => simp [hl, lresKind] at hk
  | fault l' g =>
    simp only [hl, lresKind, Option.some.injEq] at hk
    have := faultCode_inj hk
    subst this
    exact ⟨t', j, x, l', xsteps_of_steps a X hst, hx, hl, hlo, hhi, hag'⟩

end

/-- **`source_operand_text_roundtrip`.**  With the symbols of the live module (`Gen.syms`), the text
of every proto operand form — including integer literals as array index or slice bound, which
printed instructions never contain — is read back by the operand parser as that operand.
(`pOpOk`: the register bank exists; a label is a variable name that is not itself a number or a
register name — `R1:` as a label IS read as register `R1` by the code.) -/
theorem source_operand_text_roundtrip (o : POperand) (ho : Text.pOpOk Gen.syms o) :
    Text.parseOperand Gen.syms (Text.showPOp Gen.syms o) = .ok (Text.tokOfP o) :=
  Text.parseOperand_showPOp (Text.sok_of Gen.syms TextObl.syms_ok) o ho

example : Text.pOpOk Gen.syms (.slice 2 (.reg ⟨0, 1⟩) (.lit 3)) := by
  simp only [Text.pOpOk, Text.valOfRI, Text.valOk]; decide

/-! ## reserved registers (`assemble_subroutine(reserved_registers=…)`, the fix of F42)

Every theorem above carries the `reserved` set of the call: `AgreeOutsideScratch … reserved` is
agreement on all registers except the `R i` that are neither named by the subroutine nor
reserved, so reserved registers keep their values through every run of the assembled subroutine. -/

/-- `replaceConstants_preserves` with the reserved set as an explicit argument -/
theorem replaceConstants_preserves_reserved {M : Type} {mc : Machine M} {P : List PCmd} (hm : StdLike mc)
    (reserved : List Reg) {n : Nat} {P1 : List PCmd} (hna : NoArgs P) (hwf : LabelTargets mc P)
    (h1 : replaceConstants Gen.excTable n P reserved = .ok P1) {s s' t : State M} {i i' : Nat}
    (hstep : step mc P s i = .next s' i') (hag : AgreeOutsideScratch n P s t reserved) :
    ∃ t', Steps mc P1 (t, tpos1 Gen.excTable P i) (t', tpos1 Gen.excTable P i') ∧
      AgreeOutsideScratch n P s' t' reserved :=
  replaceConstants_preserves hm hna hwf h1 hstep hag

theorem reserved_not_scratch {P : List PCmd} {reserved : List Reg} {n : Nat} {r : Reg}
    (h : IsScratch n (currentRegisters P ++ reserved) r) : r ∉ reserved :=
  (scratch_not_named h).2

/-- **reserved registers survive.**  A register in the reserved set that the subroutine does not
write keeps its value: it has the same value in the assembled run as in the source run. -/
theorem reserved_preserved {M : Type} {n : Nat} {P : List PCmd} {reserved : List Reg} {s t : State M}
    {r : Reg} (hr : r ∈ reserved) (hag : AgreeOutsideScratch n P s t reserved) : s.regs r = t.regs r :=
  hag.2 r (fun h => (scratch_not_named h).2 hr)

/-- the witness of F42 in the model: with `R0` reserved the scratch register of `store 7 @0[R1]`
is `R2`, without it `R0` -/
theorem F42_reserved_witness :
    (assembleProto Gen.excTable Gen.numScratch [.instr "store" [] [.lit 7, .entry 0 (.reg ⟨0, 1⟩)]] [⟨0, 0⟩]).toOption
      = some [.instr "set" [] [.reg ⟨0, 2⟩, .lit 7], .instr "store" [] [.reg ⟨0, 2⟩, .entry 0 (.reg ⟨0, 1⟩)]] ∧
    (assembleProto Gen.excTable Gen.numScratch [.instr "store" [] [.lit 7, .entry 0 (.reg ⟨0, 1⟩)]]).toOption
      = some [.instr "set" [] [.reg ⟨0, 0⟩, .lit 7], .instr "store" [] [.reg ⟨0, 0⟩, .entry 0 (.reg ⟨0, 1⟩)]] := by
  decide +kernel

/-! ## the assembler is a function of the command VALUES

IR built by programs shares objects (one ICmd object used twice, one operands list or one
ArrayEntry / ArraySlice object used by several commands), may sit in a container whose `commands`
accessor hands out copies, and may be assembled more than once.  The model has no object identity;
the differential streams `ir:*` of checks/c03.py check that the real `assemble_subroutine` gives,
for every such IR, the subroutine of the IR with fresh objects (= the model on `deref`).
The code rewrites the IR in place BY DESIGN (`pre_subroutine.commands` holds the assembled commands
afterwards), so "the input IR is unchanged" is not promised; what is promised and proved for the
model is that assembling the rewritten IR again changes nothing (`assemble_twice`).  Finding F47
(fixed): before the fix the literals were replaced inside the shared objects themselves. -/

theorem imm_exempt : Gen.vanillaRows.all (fun r => immExempt Gen.excTable r.mn 0 r.shape) = true :=
  AsmObl.imm_exempt

/-- **`assemble_pure`.**  Two IRs with the same command values — however their command, operands-list
and operand objects are shared — assemble to the same subroutine. -/
theorem assemble_pure (reserved : List Reg) (ir₁ ir₂ : IR) (h : ir₁.deref = ir₂.deref) :
    assembleIR Gen.vanillaRows Gen.excTable Gen.numScratch ir₁ reserved =
      assembleIR Gen.vanillaRows Gen.excTable Gen.numScratch ir₂ reserved :=
  Asm.assemble_pure _ _ _ reserved ir₁ ir₂ h

/-- **assembling the same ProtoSubroutine twice** gives the same subroutine (any reserved sets) -/
theorem assemble_twice {P : List PCmd} {A : List Instr} {reserved : List Reg}
    (h : assemble Gen.vanillaRows Gen.excTable Gen.numScratch P reserved = .ok A) (reserved' : List Reg) :
    assemble Gen.vanillaRows Gen.excTable Gen.numScratch (A.map (embed Gen.vanillaRows)) reserved' = .ok A :=
  Asm.assemble_twice tableOk_vanilla imm_exempt h reserved'

/-- one ICmd object used twice: its value appears twice in `deref` -/
example : (IR.deref ⟨[0, 1, 0], fun c => if c = 0 then some (.inr ("add", [], 0)) else some (.inl "L"),
    fun _ => [0, 0, 1], fun o => if o = 0 then .reg ⟨0, 0⟩ else .lit 1⟩) =
    [.instr "add" [] [.reg ⟨0, 0⟩, .reg ⟨0, 0⟩, .lit 1], .label "L", .instr "add" [] [.reg ⟨0, 0⟩, .reg ⟨0, 0⟩, .lit 1]] := by
  decide

/-- **`label_resolution_exact`.**  A label operand `l` is patched with the number of real commands in
front of the FIRST definition whose name is exactly `l` (string equality), and is left unresolved when
no definition has exactly that name: names differing in case, prefixes or suffixes of `l`, names that
look like mnemonics or registers play no role. -/
theorem label_resolution_exact (P : List PCmd) (l : String) :
    (∀ k, (P[k]? = some (.label l) ∧ ∀ j, j < k → P[j]? ≠ some (.label l)) →
      patchOp (labelTable P 0) (.lab l) = .lit (tpos2 P k : Nat)) ∧
    (PCmd.label l ∉ P → patchOp (labelTable P 0) (.lab l) = .lab l) :=
  patchOp_label_exact P l

/-- `retry:` / `RETRY:` — a branch to the later one lands behind the later one -/
theorem label_case_witness :
    (assembleProto Gen.excTable Gen.numScratch
      [.label "retry", .instr "set" [] [.reg ⟨0, 0⟩, .lit 1], .label "RETRY", .instr "jmp" [] [.lab "RETRY"],
       .instr "jmp" [] [.lab "retry"]]).toOption =
    some [.instr "set" [] [.reg ⟨0, 0⟩, .lit 1], .instr "jmp" [] [.lit 1], .instr "jmp" [] [.lit 0]] := by
  decide +kernel

open NQ.AsmText in
/-- **One pass.**  For every body and every key made of variable-name characters, one pass of
the fixed `_apply_macros` (`re.sub` with the end-of-name look-ahead) replaces exactly the macro
uses named `key` — tokens `$name` with maximal munch — and leaves everything else, in
particular the uses of any other macro whose name merely starts with `key` (F4). -/
theorem macro_pass_tokenwise (key val : List Char) (hk : ∀ c ∈ key, isIdent c = true) (s : List Char) :
    reSub key val s = (tokenize s).flatMap (render1 key val) :=
  reSub_tokenwise key val hk s

open NQ.AsmText in
/-- **`macros_tokenwise`.**  For every macro list (keys are variable names, as `_parse_preamble`
enforces) and every body: the sequential substitution of `_apply_macros` equals the
simultaneous token-wise replacement (every use `$name` becomes the value of the macro called
`name`, everything else is kept), provided no macro value contains `$` and no macro use in the
body is directly followed by another `$`. -/
theorem macros_tokenwise (macros : List (List Char × List Char))
    (hk : ∀ kv ∈ macros, ∀ c ∈ kv.1, isIdent c = true)
    (hv : ∀ kv ∈ macros, ∀ c ∈ stripBraces kv.2, c ≠ '$')
    (body : List Char) (hs : NoAdjacentUses (tokenize body)) :
    substAll reSub macros body = substTokenwise macros body :=
  substAll_tokenwise macros hk hv body (canon_tokenize body hs)

open NQ.AsmText in
/-- non-vacuity of `macros_tokenwise`: the F4 text satisfies its hypotheses -/
example : NoAdjacentUses (tokenize ['s', 'e', 't', ' ', '$', 'a', '1', ' ', '$', 'a']) := by
  have e : tokenize ['s', 'e', 't', ' ', '$', 'a', '1', ' ', '$', 'a'] =
      [.text 's', .text 'e', .text 't', .text ' ', .use ['a', '1'], .text ' ', .use ['a']] := by decide
  rw [e]; simp [NoAdjacentUses]

open NQ.AsmText in
/-- F4 on the code before the fix: `DEFINE a R0`, `DEFINE a1 R5`, `set $a1 3` became `set R01 3`
(assembled as `set R1 3`), which is not the token-wise reading `set R5 3`. -/
theorem F4_old_code_counterexample :
    applyMacrosOld [['s', 'e', 't', ' ', '$', 'a', '1', ' ', '3']] [(['a'], ['R', '0']), (['a', '1'], ['R', '5'])]
      = [['s', 'e', 't', ' ', 'R', '0', '1', ' ', '3']] ∧
    substTokenwise [(['a'], ['R', '0']), (['a', '1'], ['R', '5'])] ['s', 'e', 't', ' ', '$', 'a', '1', ' ', '3']
      = ['s', 'e', 't', ' ', 'R', '5', ' ', '3'] := by decide

open NQ.AsmText in
/-- the same text through the fixed pass -/
theorem F4_fixed_witness :
    applyMacros [['s', 'e', 't', ' ', '$', 'a', '1', ' ', '3'], ['s', 'e', 't', ' ', '$', 'a', ' ', '4']]
        [(['a'], ['R', '0']), (['a', '1'], ['{', 'R', '5', '}'])]
      = [['s', 'e', 't', ' ', 'R', '5', ' ', '3'], ['s', 'e', 't', ' ', 'R', '0', ' ', '4']] := by decide

open NQ.AsmText in
/-- why the list statement needs "no macro use directly followed by `$`": with `a ↦ R0` applied
before `b ↦ X`, the text `$b$a` becomes `$bR0`, and `$bR0` is no longer a use of `b`. -/
theorem macros_adjacent_counterexample :
    applyMacros [['$', 'b', '$', 'a']] [(['a'], ['R', '0']), (['b'], ['X'])] = [['$', 'b', 'R', '0']] ∧
    substTokenwise [(['a'], ['R', '0']), (['b'], ['X'])] ['$', 'b', '$', 'a'] = ['X', 'R', '0'] := by decide

theorem front_syms : AsmFront.FrontSyms Gen.syms := AsmTextObl.front_syms
theorem text_syms_ok : AsmFront.textSymsOk Gen.syms = true := AsmTextObl.text_syms_ok

/-- **`parse_render_program`.**  For every proto program `P` the front end can express (`CmdOk`:
label names and label operands are variable names, mnemonics are `GenericInstr` names, any
source operand form, any bracketed arguments), every version `v.w` and app id `n`, and every text
made of the lines `# NETQASM v.w`, `# APPID n`, one rendered command per line, with blank or
comment-only lines interleaved anywhere: `parse_text_protosubroutine` (model) returns exactly
`(v.w, n, P)`. -/
theorem parse_render_program (v w n : Nat) (P : List PCmd)
    (hP : ∀ c ∈ P, AsmFront.CmdOk Gen.syms Gen.genericNames c) (lines : List (List Char))
    (hpad : AsmFront.Padded Gen.syms.comment.toList (AsmFront.canonLines Gen.syms v w n P) lines)
    (hnl : ∀ l ∈ lines, '\n' ∉ l) :
    AsmFront.parseTextProto Gen.syms Gen.genericNames (AsmText.joinWith '\n' lines) =
      .ok ⟨some ((v : Int), (w : Int)), some (n : Int), P⟩ :=
  AsmFront.parseTextProto_padded front_syms text_syms_ok _ v w n P hP lines hpad hnl

/-- the canonical text itself (no padding) -/
theorem parse_render_program_canon (v w n : Nat) (P : List PCmd)
    (hP : ∀ c ∈ P, AsmFront.CmdOk Gen.syms Gen.genericNames c) :
    AsmFront.parseTextProto Gen.syms Gen.genericNames (AsmFront.canonText Gen.syms v w n P) =
      .ok ⟨some ((v : Int), (w : Int)), some (n : Int), P⟩ :=
  AsmFront.parseTextProto_canon front_syms text_syms_ok _ v w n P hP

/-- **`parse_render_with_macros`** (body level): under the hypotheses of `macros_tokenwise`, if the
token-wise reading of the body lines `B` is the rendering of `P`, `_create_subroutine` reads `P` from
`_apply_macros(B, macros)`. -/
theorem parse_render_with_macros (P : List PCmd) (hP : ∀ c ∈ P, AsmFront.CmdOk Gen.syms Gen.genericNames c)
    (hne : P ≠ []) (B : List (List Char)) (hB : B ≠ []) (macros : List (List Char × List Char))
    (hk : ∀ kv ∈ macros, ∀ c ∈ kv.1, AsmText.isIdent c = true)
    (hv : ∀ kv ∈ macros, ∀ c ∈ AsmText.stripBraces kv.2, c ≠ '$')
    (hs : AsmText.NoAdjacentUses (AsmText.tokenize (AsmText.joinWith '\n' B)))
    (htok : AsmText.substTokenwise macros (AsmText.joinWith '\n' B) =
      AsmText.joinWith '\n' (P.map (AsmFront.renderCmd Gen.syms))) :
    AsmFront.parseBody Gen.syms Gen.genericNames (AsmText.applyMacros B macros) = .ok P :=
  AsmFront.parseBody_macros front_syms text_syms_ok _ P hP hne B hB macros
    (macros_tokenwise macros hk hv _ hs) htok

/-- **`text_assemble_simulates`.**  Assembling TEXT preserves program meaning: the text of `P` is
parsed into `P`, and every source run of `P` is reproduced by the assembled subroutine. -/
theorem text_assemble_simulates {M : Type} {mc : Machine M} (hm : StdLike mc) (v w n : Nat) (P : List PCmd)
    (hP : ∀ c ∈ P, AsmFront.CmdOk Gen.syms Gen.genericNames c) (lines : List (List Char))
    (hpad : AsmFront.Padded Gen.syms.comment.toList (AsmFront.canonLines Gen.syms v w n P) lines)
    (hnl : ∀ l ∈ lines, '\n' ∉ l) (hwf : LabelTargets mc P) {A : List Instr} {reserved : List Reg}
    (hA : assemble Gen.vanillaRows Gen.excTable Gen.numScratch P reserved = .ok A)
    {s s' t : State M} {i i' : Nat} (hrun : Steps mc P (s, i) (s', i'))
    (hag : AgreeOutsideScratch Gen.numScratch P s t reserved) :
    (∃ pr, AsmFront.parseTextProto Gen.syms Gen.genericNames (AsmText.joinWith '\n' lines) = .ok pr ∧ pr.cmds = P) ∧
    ∃ t', Steps mc (A.map (embed Gen.vanillaRows)) (t, tpos Gen.excTable P i) (t', tpos Gen.excTable P i')
      ∧ AgreeOutsideScratch Gen.numScratch P s' t' reserved :=
  ⟨⟨_, parse_render_program v w n P hP lines hpad hnl, rfl⟩, assemble_simulates_run hm hwf hA hrun hag⟩

/-- non-vacuity: the loop program is readable, and a padded text of it -/
theorem nonvacuous_text :
    (∀ c ∈ loopProg, AsmFront.CmdOk Gen.syms Gen.genericNames c) ∧
    (match AsmFront.parseTextProto Gen.syms Gen.genericNames
        "// a loop\n# NETQASM 1.0\n\n# APPID 2\nset R0 0\nLOOP:\n   \nadd R0 R0 1\n//x\nblt R0 3 LOOP\nEND:".toList with
      | .ok pr => pr.cmds == loopProg && pr.version == some (1, 0) && pr.appId == some 2
      | .error _ => false) = true := by
  refine ⟨?_, by decide +kernel⟩
  intro c hc
  simp only [loopProg, List.mem_cons, List.mem_nil_iff, or_false] at hc
  rcases hc with rfl | rfl | rfl | rfl | rfl
  · exact ⟨⟨by decide, by decide, by decide +kernel⟩, by
      simp only [List.forall_mem_cons, List.not_mem_nil, false_imp_iff, implies_true, Text.pOpOk]; decide⟩
  · show Text.isVarName _ = true; decide
  · exact ⟨⟨by decide, by decide, by decide +kernel⟩, by
      simp only [List.forall_mem_cons, List.not_mem_nil, false_imp_iff, implies_true, Text.pOpOk]; decide⟩
  · exact ⟨⟨by decide, by decide, by decide +kernel⟩, by
      simp only [List.forall_mem_cons, List.not_mem_nil, false_imp_iff, implies_true, Text.pOpOk]; decide +kernel⟩
  · show Text.isVarName _ = true; decide

end NQ.C03
