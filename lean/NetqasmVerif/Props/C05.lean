/-
C05 — SDK control flow and classical data flow compile to equivalent subroutines.

MAIN THEOREM (`emit_correct`): for every host program over the constructs of `Model/Sdk.lean`
(arrays with initial values, measurement into futures / array entries / registers, `add` on Future and
RegFuture with and without modulus, if_eq/ne/lt/ge/ez/nz in context and callback form with
Future / RegFuture / literal operands, loop, loop_body, foreach, enumerate, loop_until with an at-most
exit condition and cleanup code, try_until_success, future-indexed futures), nested ARBITRARILY, with
flushes after ANY top-level statements, for EVERY measurement-outcome sequence and every fuel: if the
builder accepts the program (`(Sdk.run p).err = none`) and the direct semantics `HostSem`
(`Model/SdkHost.lean`, `hrun`) is defined on it, then running the proto-subroutines `(Sdk.run p).subs`
one after the other under the label-level semantics `ProtoExec` (`Model/SdkExec.lean`: labels are
no-ops, a branch to `L` continues after `L`, literals evaluate to themselves) reaches a controller
state with the same gate/measurement trace, the same remaining outcome oracle (= same measurement
placement), the same arrays and the same values in the registers of all live handles as `HostSem`;
and after every flush the shared memory holds, for every array created in that segment and every
register returned by it, the controller's (= HostSem's) value (`future_value_sound`, `ViewsOK`).

Hypotheses of `emit_correct`, and what is NOT covered (source of truth for MANIFEST "partial"):
  * `TopOK`: `new_register()` and `measure(store_array=False)` are top-level statements (inside a
    branch that is not taken the register would stay undefined and `ret_reg` faults on the real
    controller); inside bodies every other construct is allowed. `Host.epr` (an EPR operation reduced to
    its register events, the vocabulary of C14) is not `TopOK`, and `HostSem` is undefined on it.
  * the statement is about the MODEL `emit` (tied to builder.py by the syntactic correspondence of the
    check) and about `ProtoExec` (cross-checked against the real assembler + Executor by the check);
    the step from proto-commands to assembled instructions is C03's `assemble_simulates`:
    `emit_correct_assembled_partial` (Props/C05Asm.lean) states the composition under an explicit bridge
    hypothesis between the two label-level semantics; the bridge and the chain down to the executor model
    are in Props/C05Chain.lean and Props/C05Chain2.lean.
  * `HostSem` faults (is undefined) on undefined reads, indices out of range, modulus < 1, negative
    indices; nothing is claimed for such programs. Termination is not assumed: the theorem is for
    every fuel for which `HostSem` finishes.
  * host-side finding F41 (handle objects cache their first value; registers are returned only by the
    creating subroutine) is outside the label-level model; see known_findings.json. F42 (registers of
    `new_register()` clobbered by a later subroutine's scratch registers) is an assembler-level effect,
    fixed on the SDK side (the builder reserves its active registers when assembling).
-/
import NetqasmVerif.Lemmas.SdkSem
import NetqasmVerif.Lemmas.Sdk
import NetqasmVerif.Lemmas.SdkSimRun
namespace NQ.C05
open NQ.Sdk

/-- the negated branch of an `if` falls through into the body iff the condition holds -/
theorem branch_taken_iff (p : List PCmd) (s : St) (n t : Nat) (c : Cond) (oa ob : POp) (l : Lbl)
    (va vb : Int) (ha : opVal s oa = some va) (hb : c.unary = false → opVal s ob = some vb)
    (hl : findLabel p l = some t) :
    exec p s n (negBranch c) (branchOps c oa ob l)
      = some (s, if condHolds c va vb then n + 1 else t + 1) :=
  Sdk.branch_taken_iff p s n t c oa ob l va vb ha hb hl

/-- condition holds ⇒ the `if` code does what its body does -/
theorem if_skeleton {p : List PCmd} {n lb : Nat} {c : Cond} {oa ob : POp} {l : Lbl}
    (I : IfAt p n lb c oa ob l) (s s' : St) (va vb : Int)
    (ha : opVal s oa = some va) (hb : c.unary = false → opVal s ob = some vb)
    (hc : condHolds c va vb) (hbody : Runs p (n + 1) lb s s') : Runs p n (lb + 2) s s' :=
  if_runs I s s' va vb ha hb hc hbody

/-- condition fails ⇒ the `if` code changes nothing -/
theorem if_skeleton_skip {p : List PCmd} {n lb : Nat} {c : Cond} {oa ob : POp} {l : Lbl}
    (I : IfAt p n lb c oa ob l) (s : St) (va vb : Int)
    (ha : opVal s oa = some va) (hb : c.unary = false → opVal s ob = some vb)
    (hc : ¬ condHolds c va vb) : Runs p n (lb + 2) s s :=
  if_skips I s va vb ha hb hc

/-- The emitted loop runs the body for i = start, start+stp, … exactly `k` times,
`k` being the number of steps after which the index reaches `stop`; the body is arbitrary code that
preserves the loop register (`body i` = its effect when the index is `i`). -/
theorem loop_skeleton {p : List PCmd} {n lb : Nat} {r : Reg} {start stop stp : Int} {le lx : Lbl}
    (L : LoopAt p n lb r start stop stp le lx) (body : Int → St → St)
    (hbody : ∀ i s, s.regs r = some i → Runs p (n + 3) lb s (body i s) ∧ (body i s).regs r = some i)
    (k : Nat) (s : St) (hk : ReachesIn stp stop k start) :
    Runs p n (lb + 6) s (iterFrom body r stp k start (s.setReg r start)) := by
  unfold Runs
  rw [show n + (lb + 6) = n + 6 + lb by omega]
  exact steps_loop_entry L.h0 L.h1 (loop_from_head L body hbody k start _ (by simp) hk)

/-- start = stop: the body never runs, only the loop register is initialised -/
theorem loop_skeleton_zero {p : List PCmd} {n lb : Nat} {r : Reg} {start stp : Int} {le lx : Lbl}
    (L : LoopAt p n lb r start start stp le lx) (body : Int → St → St)
    (hbody : ∀ i s, s.regs r = some i → Runs p (n + 3) lb s (body i s) ∧ (body i s).regs r = some i)
    (s : St) : Runs p n (lb + 6) s (s.setReg r start) :=
  loop_skeleton L body hbody 0 s rfl

theorem break_at_most (v ev : Int) : brTaken2 .blt v (ev + 1) = some (decide (v ≤ ev)) :=
  Sdk.break_at_most v ev

/-- `loop_until` at its head with the iteration counter at `max_iterations`: exit -/
theorem loop_until_skeleton_max {p : List PCmd} {n lb lk lc : Nat} {r : Reg} {N : Int} {o : POp}
    {ev : Int} {le lx : Lbl} (U : UntilAt p n lb lk lc r N o ev le lx) (s : St)
    (hr : s.regs r = some N) : Steps p (s, n + 2) (s, n + 7 + lb + lk + lc) := until_max U s hr

/-- after an iteration whose exit value is at most the bound: exit (no cleanup, counter unchanged) -/
theorem loop_until_skeleton_exit {p : List PCmd} {n lb lk lc : Nat} {r : Reg} {N : Int} {o : POp}
    {ev : Int} {le lx : Lbl} (U : UntilAt p n lb lk lc r N o ev le lx) (s s1 s2 : St) (j v : Int)
    (hr : s.regs r = some j) (hj : j ≠ N)
    (hbody : Runs p (n + 3) lb s s1) (hload : Runs p (n + 3 + lb) lk s1 s2)
    (hv : opVal s2 o = some v) (hle : v ≤ ev) :
    Steps p (s, n + 2) (s2, n + 7 + lb + lk + lc) := until_exit U s s1 s2 j v hr hj hbody hload hv hle

/-- otherwise: cleanup, counter + 1, back to the head -/
theorem loop_until_skeleton_continue {p : List PCmd} {n lb lk lc : Nat} {r : Reg} {N : Int} {o : POp}
    {ev : Int} {le lx : Lbl} (U : UntilAt p n lb lk lc r N o ev le lx) (s s1 s2 s3 : St) (j v : Int)
    (hr : s.regs r = some j) (hj : j ≠ N)
    (hbody : Runs p (n + 3) lb s s1) (hload : Runs p (n + 3 + lb) lk s1 s2)
    (hv : opVal s2 o = some v) (hgt : ¬ v ≤ ev)
    (hclean : Runs p (n + 4 + lb + lk) lc s2 s3) (hr3 : s3.regs r = some j) :
    Steps p (s, n + 2) (s3.setReg r (j + 1), n + 2) :=
  until_continue U s s1 s2 s3 j v hr hj hbody hload hv hgt hclean hr3

/-- `Future.add(other, mod)`: the entry becomes `v + w` (mod `m` when given, `m ≥ 1`) -/
theorem add_future_correct {p : List PCmd} {n : Nat} (s : St) (t : Reg) (a i : Nat) (o : POp)
    (md : Option Int) (l : List (Option Int)) (v w : Int)
    (h0 : p[n]? = some (.instr .load [.reg t, .entryL a i]))
    (h1 : p[n + 1]? = some (addInstr t o md))
    (h2 : p[n + 2]? = some (.instr .store [.reg t, .entryL a i]))
    (ha : s.arrs a = some l) (hv : l[i]? = some (some v))
    (ho : opVal (s.setReg t v) o = some w) (hm : ∀ m, md = some m → 1 ≤ m) :
    ∃ s', Runs p n 3 s s' ∧ s'.arrs a = some (l.set i (some (addRes v w md))) ∧
      (∀ a', a' ≠ a → s'.arrs a' = s.arrs a') ∧ (∀ x, x ≠ t → s'.regs x = s.regs x) ∧ s'.trace = s.trace := by
  refine ⟨_, addF_runs s t a i o md l v w h0 h1 h2 ha hv ho hm, by simp, ?_, ?_, rfl⟩
  · intro a' h; simp [St.setArr, St.setReg, h]
  · intro x h; simp [St.setArr, St.setReg, h]

/-- `RegFuture.add(other, mod)` -/
theorem add_regfuture_correct {p : List PCmd} {n : Nat} (s : St) (r : Reg) (o : POp) (md : Option Int)
    (v w : Int) (h : p[n]? = some (addInstr r o md))
    (hr : s.regs r = some v) (ho : opVal s o = some w) (hm : ∀ m, md = some m → 1 ≤ m) :
    Runs p n 1 s (s.setReg r (addRes v w md)) := addR_runs s r o md v w h hr ho hm

theorem addRes_mod_range (v w m : Int) (hm : 1 ≤ m) : 0 ≤ addRes v w (some m) ∧ addRes v w (some m) < m := by
  simp only [addRes]
  exact ⟨Int.emod_nonneg _ (by omega), Int.emod_lt_of_pos _ (by omega)⟩

/-- future-indexed Future -/
theorem future_indexed_load {p : List PCmd} {n : Nat} (s : St) (t r : Reg) (a b j : Nat)
    (lb la : List (Option Int)) (k v : Int)
    (h0 : p[n]? = some (.instr .load [.reg t, .entryL b j]))
    (h1 : p[n + 1]? = some (.instr .load [.reg r, .entryR a t]))
    (hb : s.arrs b = some lb) (hk : lb[j]? = some (some k)) (hk0 : 0 ≤ k)
    (ha : s.arrs a = some la) (hv : la[k.toNat]? = some (some v)) :
    Runs p n 2 s ((s.setReg t k).setReg r v) :=
  future_indexed_load_runs s t r a b j lb la k v h0 h1 hb hk hk0 ha hv

theorem seq_correct {p : List PCmd} {n l1 l2 : Nat} {s s1 s2 : St}
    (h1 : Runs p n l1 s s1) (h2 : Runs p (n + l1) l2 s1 s2) : Runs p n (l1 + l2) s s2 := runs_seq h1 h2

/-- **future_value_sound** (controller side): after `ret_arr @a` / `ret_reg r` the shared memory holds
the controller's value at the handle's location … -/
theorem future_value_sound {p : List PCmd} {n : Nat} (s : St) :
    (∀ a l, p[n]? = some (.instr .retArr [.addr a]) → s.arrs a = some l →
      ∃ s', step p (s, n) = some (s', n + 1) ∧ s'.shmArrs a = s'.arrs a ∧ s'.arrs = s.arrs ∧ s'.regs = s.regs) ∧
    (∀ r v, p[n]? = some (.instr .retReg [.reg r]) → s.regs r = some v →
      ∃ s', step p (s, n) = some (s', n + 1) ∧ s'.shmRegs r = s'.regs r ∧ s'.arrs = s.arrs ∧ s'.regs = s.regs) :=
  ⟨fun a l h ha => ret_arr_publishes s a l h ha, fun r v h hr => ret_reg_publishes s r v h hr⟩

/-- … and the subroutine of a flush returns every register created since the last one
(`ret_arr` for the arrays likewise: `m1.arraysToReturn.map retArr` in `Sdk.flush`) -/
theorem flush_returns_all (m m' : Mem) (pend cmds : List PCmd) (h : flush m pend = .ok (m', some cmds)) :
    ∀ r ∈ m.regsToReturn, PCmd.instr .retReg [.reg r] ∈ cmds := by
  unfold flush at h
  split at h
  · cases h
  · rename_i m1 ini h1
    simp only at h
    split at h
    · cases h
    · cases h
      intro r hr
      exact List.mem_append_right _ (List.mem_map.mpr ⟨r, (initArrays_spec _ h1).same.rret ▸ hr, rfl⟩)

/-- (1) the code `_build_cmds_loop` (model: `buildLoop`) emits around ANY
non-empty body, placed anywhere in a subroutine whose labels resolve to it, runs the body for the
index sequence start, start+stp, … until stop; (2) the code `_build_cmds_condition` (model:
`buildCondition`) emits for operands that need no load runs the body iff the condition holds. -/
theorem emit_correct_partial :
    (∀ (m : Mem) (start stop stp : Int) (r : Reg) (B pre post : List PCmd), B ≠ [] →
      let code := (buildLoop m start stop stp r B).2
      let p := pre ++ code ++ post
      findLabel p (loopLabels m).1 = some (pre.length + 1) →
      findLabel p (loopLabels m).2 = some (pre.length + 5 + B.length) →
      ∀ (body : Int → St → St),
      (∀ i s, s.regs r = some i → Runs p (pre.length + 3) B.length s (body i s) ∧ (body i s).regs r = some i) →
      ∀ (k : Nat) (s : St), ReachesIn stp stop k start →
        Runs p pre.length (B.length + 6) s (iterFrom body r stp k start (s.setReg r start)))
    ∧
    (∀ (m : Mem) (c : Cond) (a b : Val) (oa ob : POp) (B pre post : List PCmd), B ≠ [] →
      condOperand (newLabel m 0).1 a = .ok ((newLabel m 0).1, [], oa, none) →
      condOperand (newLabel m 0).1 b = .ok ((newLabel m 0).1, [], ob, none) →
      ∃ m' code, buildCondition m c a b B = .ok (m', code) ∧
        let p := pre ++ code ++ post
        (findLabel p (newLabel m 0).2 = some (pre.length + 1 + B.length) →
          ∀ (s s' : St) (va vb : Int), opVal s oa = some va → (c.unary = false → opVal s ob = some vb) →
            (condHolds c va vb → Runs p (pre.length + 1) B.length s s' → Runs p pre.length (B.length + 2) s s') ∧
            (¬ condHolds c va vb → Runs p pre.length (B.length + 2) s s))) := by
  constructor
  · intro m start stop stp r B pre post hB code p hle hlx body hbody k s hk
    have hshape := buildLoop_shape m start stop stp r B hB
    have L := loopAt_of_layout pre post B r start stop stp (loopLabels m).1 (loopLabels m).2
      (by rw [← hshape]; exact hle) (by rw [← hshape]; exact hlx)
    rw [← hshape] at L
    exact loop_skeleton L body hbody k s hk
  · intro m c a b oa ob B pre post hB ha hb
    refine ⟨_, _, buildCondition_shape m c a b oa ob B hB ha hb, ?_⟩
    intro p hl s s' va vb hva hvb
    have I := ifAt_of_layout pre post B c oa ob (newLabel m 0).2 hl
    exact ⟨fun hc hr => if_skeleton I s s' va vb hva hvb hc hr, fun hc => if_skeleton_skip I s va vb hva hvb hc⟩

/-- The commands `emit` produces for ANY operation (`BodyOK`: every construct,
nested arbitrarily), placed anywhere in a subroutine in which their labels resolve to them, take the
controller from a state related to the `HostSem` state to a state related to the `HostSem` result —
for every fuel for which `HostSem` is defined, every state, every handle / array-length table. -/
theorem emit_correct_op (op : Host) (fuel : Nat) (m m' : Mem) (cs : List PCmd) (hb : BodyOK op)
    (h : emit m op = .ok (m', cs))
    (H : List (Reg × Bool)) (L MH : List Nat) (p : List PCmd) (n : Nat) (hs hs' : HSt) (ts : St)
    (hext : Ext m'.handles H) (hextL : ExtL m'.arrLens L) (hpl : Placed p n cs)
    (hrel : Rel H L MH m.active m.measUsed hs ts)
    (hh : hsem fuel m.handles.length m.arrLens.length op hs = some hs') :
    ∃ ts', Runs p n cs.length ts ts' ∧ Rel H L MH m.active m.measUsed hs' ts' :=
  emit_sim op h hb fuel H L MH p n hs hs' ts hext hextL hpl hrel hh

/-- Whatever the builder emits for an operation, its label commands carry numbers
between the label counters before and after, hence are pairwise distinct. -/
theorem labels_fresh (op : Host) (m m' : Mem) (cs : List PCmd) (hl : m.lbl.length = 5)
    (h : emit m op = .ok (m', cs)) : Fresh m m' cs := emit_fresh op m m' cs hl h

/-- The code of `_build_cmds_init_array` for the arrays `ds` of a flush
(distinct addresses, `len = len(init)`), run from ANY state at ANY position, leaves exactly the declared
initial contents in every array (`applyDecls`), changes registers only on temporaries, and nothing
else — for the store list and for the all-equal loop optimisation alike. -/
theorem array_init_correct (ds : List ArrDecl) (m m' : Mem) (out : List PCmd)
    (h : initArrays m [] ds = .ok (m', out)) (hnd : (ds.map (·.addr)).Nodup) (hok : ∀ d ∈ ds, DeclOK d)
    (p : List PCmd) (n : Nat) (ts : St) (hpl : Placed p n out) :
    ∃ ts', Runs p n out.length ts ts' ∧ RegEq m.active ts ts' ∧ ts'.arrs = applyDecls ts.arrs ds :=
  initArrays_sim ds m m' [] out [] h (PendOK.nil _) hnd hok p n ts hpl

/-- One flush: from the invariant `SegInv`, the subroutine of the flush runs to
completion, ends in a state satisfying the invariant again (with the measurement handles cleared), and
the shared memory shows the host the controller's values (`ViewOK`). -/
theorem segment_correct {m0 m1 m2 : Mem} {ops : List Host} {pend sub : List PCmd} {fuel : Nat}
    {hs0 hs1 : HSt} {ts0 : St} {nh1 na1 : Nat}
    (hinv : SegInv m0 hs0 ts0) (htop : ∀ op ∈ ops, TopOK op)
    (he : emitOps m0 ops = .ok (m1, pend)) (hf : flush m1 pend = .ok (m2, some sub))
    (hh : runSegment fuel m0.handles.length m0.arrLens.length ops hs0 = some (hs1, nh1, na1)) :
    ∃ ts1, Runs sub 0 sub.length ts0 ts1 ∧
      SegInv m2 (clearAll hs1 (segMHandles m0.handles.length ops)) ts1 ∧
      nh1 = m2.handles.length ∧ na1 = m2.arrLens.length ∧ ViewOK m1 hs1 ts1 :=
  segment_sim hinv htop he hf hh

/-- on `flat segs` the builder is `compileSegs` and `HostSem` is `hrunSegs` on the segments -/
theorem segs_of_run {segs : List (List Host)} (hbuild : (Sdk.run (flat segs)).err = none) {fuel : Nat}
    {outs : List Int} {hsEnd : HSt} (hhost : (hrun fuel outs (flat segs)).final = some hsEnd) :
    ∃ subs views, compileSegs Mem.init segs = .ok ((Sdk.run (flat segs)).mem, subs) ∧
      (Sdk.run (flat segs)).subs = subs ∧ hrunSegs fuel 0 0 (HSt.init outs) segs = some (hsEnd, views) := by
  obtain ⟨m', subs, hc, hsubs, hmem⟩ := run_segs segs Mem.init 0 ⟨[], [], none, Mem.init⟩ hbuild
  have hseg : (hrunSegs fuel 0 0 (HSt.init outs) segs).map (·.1) = some hsEnd := by
    rw [← hrunProg_segs fuel segs ((flat segs).length + 1) 0 0 (HSt.init outs) []
      (Nat.lt_succ_of_le (flat_length_ge segs))]
    exact hhost
  cases hrs : hrunSegs fuel 0 0 (HSt.init outs) segs with
  | none => rw [hrs] at hseg; cases hseg
  | some r =>
    obtain ⟨hsE, views⟩ := r
    rw [hrs] at hseg
    cases hseg
    exact ⟨subs, views, by rw [show (Sdk.run (flat segs)).mem = m' from hmem]; exact hc,
      by simpa [Sdk.run] using hsubs, rfl⟩

/-- See the header of this file. `flat segs` is the host program whose flush
segments are `segs`; `RunSubs subs ts mids tsEnd` runs the subroutines in order (`mids` = the controller
states after each flush). -/
theorem emit_correct (segs : List (List Host)) (hwf : ∀ ops ∈ segs, ∀ op ∈ ops, TopOK op)
    (hbuild : (Sdk.run (flat segs)).err = none) (fuel : Nat) (outs : List Int) (hsEnd : HSt)
    (hhost : (hrun fuel outs (flat segs)).final = some hsEnd) :
    ∃ mids tsEnd, RunSubs (Sdk.run (flat segs)).subs (St.init outs) mids tsEnd ∧
      tsEnd.trace = hsEnd.trace ∧ tsEnd.outcomes = hsEnd.outcomes ∧ tsEnd.arrs = hsEnd.arrs ∧
      (∀ h v, hsEnd.hregs h = some v →
        ∃ r b, (Sdk.run (flat segs)).mem.handles[h]? = some (r, b) ∧ tsEnd.regs r = some v) ∧
      ViewsOK fuel Mem.init 0 0 (HSt.init outs) segs mids := by
  obtain ⟨subs, views, hc, hsubs, hrs⟩ := segs_of_run hbuild hhost
  obtain ⟨mids, tsEnd, hrun, hinvE, hviews⟩ := segs_sim segs fuel Mem.init _ subs (HSt.init outs) hsEnd views
    (St.init outs) hwf hc hrs (segInv_init outs)
  refine ⟨mids, tsEnd, by rw [hsubs]; exact hrun, hinvE.rel.trace, hinvE.rel.outs, hinvE.rel.arrs, ?_, hviews⟩
  intro h v hv
  obtain ⟨r, b, e1, e2, _⟩ := hinvE.rel.regs h v hv
  exact ⟨r, b, e1, e2⟩

/-- **future_value_sound** (program level): what `ViewsOK` says at each flush that sends a subroutine —
every array created in the segment is in shared memory with the controller's (= HostSem's) contents,
and every register returned is in shared memory with the value of its handle. -/
theorem future_value_sound_flush {m1 : Mem} {hs1 : HSt} {ts1 : St} (h : ViewOK m1 hs1 ts1) :
    (∀ d ∈ m1.arraysToReturn, (hs1.arrs d.addr).isSome ∧ ts1.shmArrs d.addr = hs1.arrs d.addr) ∧
    (∀ r ∈ m1.regsToReturn, ∃ (hd : Nat) (b : Bool) (v : Int),
      m1.handles[hd]? = some (r, b) ∧ hs1.hregs hd = some v ∧ ts1.shmRegs r = some v) :=
  ⟨h.arrs, h.regs⟩

/-- non-vacuity of `emit_correct`: a program with a nested loop / if / add / measurement, two flushes,
is accepted by the builder, `HostSem` is defined on it, every operation is `TopOK` -/
def demoSegs : List (List Host) :=
  [[.newArray 2 (some [some 0, some 1]), .newArray 3 (some [some 5, some 5, some 5]),
    .loopBody none 0 2 1 (.ifc false .lt (.fut (.reg 0 0)) (.lit 1) (.addF (.lit 1 1) (.fut (.fut 0 (.lit 0 1))) (some 7))),
    .qop [3] .newReg],
   [.foreach 1 true (.qop [0] (.fut (.reg 1 2))),
    .loopUntil 3 (.qop [] (.fut (.lit 0 0))) (.fut (.lit 0 0)) 0 (.addF (.lit 0 1) (.lit 1) none)]]

theorem demo_hyps :
    (Sdk.run (flat demoSegs)).err = none ∧ (hrun 200 [1, 0, 1, 1, 0] (flat demoSegs)).final.isSome = true := by
  decide +kernel

example : ∀ ops ∈ demoSegs, ∀ op ∈ ops, TopOK op := by
  intro ops hops op hop
  simp only [demoSegs, List.mem_cons, List.mem_nil_iff, or_false] at hops
  rcases hops with rfl | rfl <;> simp only [List.mem_cons, List.mem_nil_iff, or_false] at hop
  · rcases hop with rfl | rfl | rfl | rfl
    · exact Or.inl trivial
    · exact Or.inl trivial
    · exact Or.inl (by simp [BodyOK])
    · exact Or.inr (Or.inr ⟨_, rfl⟩)
  · rcases hop with rfl | rfl
    · exact Or.inl (by simp [BodyOK])
    · exact Or.inl (by simp [BodyOK])

def st0 (outs : List Int) : St :=
  { regs := fun _ => none, arrs := fun _ => none, shmRegs := fun _ => none, shmArrs := fun _ => none,
    trace := [], outcomes := outs }

/-- `with conn.loop_until(10) as loop: m = Qubit(conn).measure(); loop.set_exit_condition(ValueAtMostConstraint(m, 0))` -/
def f5Prog : List Top :=
  [.op (.loopUntil 10 (.qop [] .newFut) (.fut (.lit 0 0)) 0 .skip), .flush]

def firstSub (p : List Top) : List PCmd :=
  match (Sdk.run p).subs with
  | some cs :: _ => cs
  | _ => []

def countMeas (t : List Ev) : Nat :=
  (t.filter (fun e => match e with | .meas _ => true | _ => false)).length

/-- the shape emitted before the `fix:` commit: strict `blt value bound` -/
def oldBreak : PCmd → PCmd
  | .instr .blt [o, .lit v, l] => .instr .blt [o, .lit (v - 1), l]
  | c => c

/-- fixed code, outcomes 1,1,0: three iterations, the program ends past its last command -/
theorem f5_fixed :
    countMeas (runFuel (firstSub f5Prog) 1000 (st0 [1, 1, 0], 0)).1.trace = 3
    ∧ (runFuel (firstSub f5Prog) 1000 (st0 [1, 1, 0], 0)).2 = (firstSub f5Prog).length := by
  decide +kernel

/-- the old exit test on the same program and outcomes: all 10 iterations (F5) -/
theorem f5_witness_old :
    countMeas (runFuel ((firstSub f5Prog).map oldBreak) 1000 (st0 [1, 1, 0], 0)).1.trace = 10 := by
  decide +kernel

/-- non-vacuity of `loop_skeleton`'s index hypothesis: 0,2,4 reaches 6 in three steps; 0,2,4,… never reaches 5 -/
example : ReachesIn 2 6 3 0 := by simp [ReachesIn]
example : ¬ ReachesIn 2 5 3 0 := by simp [ReachesIn]

end NQ.C05
