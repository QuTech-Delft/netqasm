/-
C07 — rotations at EVERY angle, exactly.

`Props/C07.lean` decides the fixed-gate expansions in ℤ[ζ₈] (angles that are multiples of π/4). Here:

* a rotation instruction `(n, d)` about axis `ax` denotes `rot2P ax w` of Model/Gates at
  `w = e^{i·nπ/2^d}`; over ℂ this is `2·e^{iθ/2}·R_ax(θ)` with `R_ax(θ) = cos(θ/2)·1 − i·sin(θ/2)·σ_ax`
  for every θ (`rot_denotes_rotation`), the controlled rotation's |1⟩-block `2·e^{iθ/2}·R_ax(−θ)` with
  the same scalar (`crot_blocks_exact`);
* composition, full turn, half turn, 2π-periodicity and the hardware normalisation
  (`rot_emitted_same_unitary`) hold for all numerators and denominators: they are polynomial
  identities in `w` valid in every commutative ring with `i² = −1` (Lemmas/RotPoly), instantiated in ℂ
  at `ζ_D = e^{iπ/2^D}`;
* the ℤ[ζ₈] matrices of the kernel-decided obligations are the `D = 2` instance of the same definition
  (`exact_obligations_are_generic`).

What remains numeric: only numpy/scipy `expm` behind `to_matrix()` (the correspondence stream
"matrices" compares it with this definition evaluated in doubles, tolerance 1e-12).
Axioms: the ℂ statements use Mathlib's complex exponential (propext, Classical.choice, Quot.sound).
-/
import NetqasmVerif.Lemmas.RotComplex
import NetqasmVerif.Lemmas.CycRing
import NetqasmVerif.Lemmas.Gates
import NetqasmVerif.Model.NvDecomp
namespace NQ.C07
open NQ NQ.Rot NQ.NV Complex

noncomputable section

def theta (n d : ℕ) : ℂ := (n : ℂ) * Real.pi / 2 ^ d

/-- the (phase-normalised, doubled) operator a rotation instruction `(n, d)` about `ax` denotes, in ℂ:
`rot2P ax e^{iθ}` — the definition the driver evaluates in doubles and the kernel in ℤ[ζ₈] -/
def rotC (ax : Axis) (n d : ℕ) : M2 ℂ := P I ax (exp (theta n d * I))

/-- the control-|1⟩ block of a controlled rotation `(n, d)` -/
def crotC1 (ax : Axis) (n d : ℕ) : M2 ℂ := PNeg I ax (exp (theta n d * I))

theorem rotC_eq_wOf (ax : Axis) (D n d : ℕ) (hd : d ≤ D) : rotC ax n d = P I ax (wOf (zetaC D) D n d) := by
  unfold rotC theta; rw [wOf_zetaC D n d hd]

/-- **every `(n, d)`**: the denotation is the textbook rotation up to the explicit scalar `2e^{iθ/2}` -/
theorem rot_denotes_rotation (ax : Axis) (n d : ℕ) :
    rotC ax n d = smul2 (2 * exp (theta n d / 2 * I)) (Rmat ax (theta n d)) :=
  rot2P_complex ax (theta n d)

/-- the controlled rotation: control-|0⟩ block `R(+θ)`, control-|1⟩ block `R(−θ)`, with ONE
common scalar — the published convention of `get_controlled_rotation_matrix`, for every `(n, d)` -/
theorem crot_blocks_exact (ax : Axis) (n d : ℕ) :
    rotC ax n d = smul2 (2 * exp (theta n d / 2 * I)) (Rmat ax (theta n d)) ∧
    crotC1 ax n d = smul2 (2 * exp (theta n d / 2 * I)) (Rmat ax (-theta n d)) :=
  ⟨rot_denotes_rotation ax n d, rot2PNeg_complex ax _⟩

/-- in every commutative ring with `i² = −1`: the rotations `(n₁, d₁)`, `(n₂, d₂)` compose to the
rotation by `n₁/2^d₁ + n₂/2^d₂` (numerator over `2^D`) -/
theorem rot_compose_generic {R : Type} [CommRing R] (i ζ : R) (hi : i * i = -1) (ax : Axis)
    (D n₁ d₁ n₂ d₂ : ℕ) :
    mul2 (P i ax (wOf ζ D n₁ d₁)) (P i ax (wOf ζ D n₂ d₂)) =
      smul2 2 (P i ax (ζ ^ (n₁ * 2 ^ (D - d₁) + n₂ * 2 ^ (D - d₂)))) := by
  rw [rot_compose i hi]; unfold wOf; rw [← pow_add]

/-- in ℂ, all `(n₁, d₁)`, `(n₂, d₂)`: consecutive rotations about one axis are the rotation by the
summed angle (this is C19's `rotation_sum`, exactly) -/
theorem rot_compose_exact (ax : Axis) (n₁ d₁ n₂ d₂ : ℕ) :
    mul2 (rotC ax n₁ d₁) (rotC ax n₂ d₂) =
      smul2 2 (P I ax (exp ((theta n₁ d₁ + theta n₂ d₂) * I))) := by
  unfold rotC
  rw [rot_compose I I_mul_I, ← exp_add, add_mul]

theorem rot_compose_same_d (ax : Axis) (n₁ n₂ d : ℕ) :
    mul2 (rotC ax n₁ d) (rotC ax n₂ d) = smul2 2 (rotC ax (n₁ + n₂) d) := by
  rw [rot_compose_exact]
  unfold rotC theta
  congr 3
  push_cast; ring

def sumTheta : List (ℕ × ℕ) → ℂ
  | [] => 0
  | (n, d) :: rest => theta n d + sumTheta rest

def prodRot (ax : Axis) : List (ℕ × ℕ) → M2 ℂ
  | [] => smul2 2 one2
  | (n, d) :: rest => mul2 (rotC ax n d) (prodRot ax rest)

/-- a whole list of rotations about one axis (what `rot_X(angle=…)` emits): the product is the
rotation by the sum of all angles, times `2^length` (one factor 2 is that of `prodRot []`) -/
theorem rot_list_exact (ax : Axis) (l : List (ℕ × ℕ)) :
    prodRot ax l = smul2 (2 ^ l.length) (P I ax (exp (sumTheta l * I))) := by
  induction l with
  | nil =>
    simp only [prodRot, sumTheta, zero_mul, exp_zero, List.length_nil, pow_zero]
    rw [rot_zero, smul2_smul2, one_mul]
  | cons x rest ih =>
    simp only [prodRot, sumTheta, List.length_cons, ih, rotC]
    rw [mul2_smul2, rot_compose I I_mul_I, ← exp_add, ← add_mul, smul2_smul2, pow_succ]

/-- numerator 0 is the identity, numerator `2^d` (angle π) is the Pauli of the axis, and adding
`2^(d+1)` (angle 2π) to the numerator changes nothing — for every `d` -/
theorem rot_full_turn (ax : Axis) (n d : ℕ) :
    rotC ax 0 d = smul2 2 one2 ∧ rotC ax (2 ^ d) d = smul2 2 (pauli I ax) ∧
    rotC ax (n + 2 ^ (d + 1)) d = rotC ax n d := by
  refine ⟨?_, ?_, ?_⟩
  · unfold rotC theta; simp only [Nat.cast_zero, zero_mul, zero_div, exp_zero]; exact rot_zero I ax
  · rw [rotC_eq_wOf ax d _ d (Nat.le_refl _), wOf_pi _ d d (zetaC_pow d) (Nat.le_refl _)]
    exact rot_half_turn I ax
  · rw [rotC_eq_wOf ax d _ d (Nat.le_refl _), rotC_eq_wOf ax d n d (Nat.le_refl _),
      wOf_period _ d n d (zetaC_pow d) (Nat.le_refl _)]

/-- equal rational angles denote equal operators -/
theorem rot_same_angle (ax : Axis) (n d n' d' : ℕ) (h : n * 2 ^ d' = n' * 2 ^ d) :
    rotC ax n d = rotC ax n' d' := by
  rw [rotC_eq_wOf ax (max d d') n d (Nat.le_max_left _ _), rotC_eq_wOf ax (max d d') n' d' (Nat.le_max_right _ _),
    wOf_eq_of_same_angle _ _ n d n' d' (Nat.le_max_left _ _) (Nat.le_max_right _ _) h]

/-- hardware normalisation in any commutative ring with a root `ζ`, `D ≥ 4`, ALL numerators, `d ≤ 4`: the
operator of `(n·2^(4−d), 4)` is the operator of `(n, d)` — an identity of ζ-powers, not restricted to
multiples of π/4 -/
theorem hw_same_matrix_generic {R : Type} [CommRing R] (i ζ : R) (ax : Axis) (D n d : ℕ) (hd : d ≤ 4)
    (hD : 4 ≤ D) : P i ax (wOf ζ D (n * 2 ^ (4 - d)) 4) = P i ax (wOf ζ D n d) := by
  rw [wOf_eq_of_same_angle ζ D (n * 2 ^ (4 - d)) 4 n d hD (by omega)]
  rw [Nat.mul_assoc, ← Nat.pow_add, Nat.sub_add_cancel hd]

/-- in ℂ -/
theorem hw_same_matrix_exact (ax : Axis) (n d : ℕ) (hd : d ≤ 4) :
    rotC ax (n * 2 ^ (4 - d)) 4 = rotC ax n d := by
  rw [rotC_eq_wOf ax 4 _ 4 (Nat.le_refl _), rotC_eq_wOf ax 4 n d hd]
  exact hw_same_matrix_generic I (zetaC 4) ax 4 n d hd (Nat.le_refl _)

/-- **what the transpiler emits for a rotation denotes the same operator, every (n, d), both modes**:
simulation mode emits `(n, d)` itself; hardware mode (`d ≤ 4`) emits `(n', 4)` with the same operator -/
theorem rot_emitted_same_unitary (g : GName) (n d : ℕ) (hg : GName.isRot g = true) :
    (∃ i, nvRot false g n d = some [i] ∧ i.g = g ∧ ∀ ax, rotC ax i.n i.d = rotC ax n d) ∧
    (d ≤ 4 → ∃ i, nvRot true g n d = some [i] ∧ i.g = g ∧ ∀ ax, rotC ax i.n i.d = rotC ax n d) := by
  refine ⟨⟨⟨g, [0], n, d⟩, by simp [nvRot, hg], rfl, fun _ => rfl⟩, ?_⟩
  intro hd
  refine ⟨⟨g, [0], n * 2 ^ (4 - d), 4⟩, by simp [nvRot, hg, hwNumDenom, hd], rfl, ?_⟩
  intro ax
  exact hw_same_matrix_exact ax n d hd

end

theorem zeta8_pow_mod (k : ℕ) : Cyc.zeta ^ (k % 8) = Cyc.zeta ^ k := by
  have h8 : Cyc.zeta ^ 8 = 1 := by decide +kernel
  conv => rhs; rw [← Nat.div_add_mod k 8, pow_add, pow_mul, h8, one_pow, one_mul]

/-- whenever `angleK n d = some k` the angle `nπ/2^d` is `n₂·π/4` with `k = n₂ mod 8` -/
theorem angleK_spec (n d k : ℕ) (h : angleK n d = some k) : ∃ n₂, n * 2 ^ 2 = n₂ * 2 ^ d ∧ k = n₂ % 8 := by
  rw [angleK_eq] at h
  split at h
  · rename_i hdvd
    exact ⟨n * 4 / 2 ^ d, (Nat.div_mul_cancel hdvd).symm, (Option.some.inj h).symm⟩
  · cases h

/-- the exact matrix the kernel-decided obligations use for `(n, d)` is the generic `rot2P` at the
ζ₈-power of the SAME rational angle (`ζ₈⁴ = −1`, `D = 2`) -/
theorem exact_obligations_are_generic (ax : Axis) (n d k : ℕ) (h : angleK n d = some k) :
    ∃ n₂, n * 2 ^ 2 = n₂ * 2 ^ d ∧
      rot2P ax (Cyc.zpow k) = P Cyc.I ax (wOf Cyc.zeta 2 n₂ 2) ∧
      rot2PNeg ax (Cyc.zpow k) = PNeg Cyc.I ax (wOf Cyc.zeta 2 n₂ 2) := by
  obtain ⟨n₂, h1, h2⟩ := angleK_spec n d k h
  refine ⟨n₂, h1, ?_, ?_⟩
  · rw [rot2P_cyc, h2, zeta8_pow_mod]; simp [wOf]
  · rw [rot2PNeg_cyc, h2, zeta8_pow_mod]; simp [wOf]

/-- ℤ[ζ₈] satisfies the hypotheses of the generic identities (non-vacuity, D = 2) -/
theorem cyc_root : Cyc.zeta ^ 2 ^ 2 = (-1 : Cyc) ∧ Cyc.I * Cyc.I = (-1 : Cyc) :=
  ⟨Cyc.zeta_pow4, Cyc.I_mul_I⟩

/-- … and ℂ for every D -/
theorem complex_root (D : ℕ) : zetaC D ^ 2 ^ D = -1 ∧ I * I = -1 := ⟨zetaC_pow D, I_mul_I⟩

/-- the generic composition law instantiated in ℤ[ζ₈]: X(π/2)·X(π/4) = 2·X(3π/4) (the `2` is the ring's
numeral, equal to the model's `Cyc.two`) -/
theorem cyc_compose_instance :
    mul2 (P Cyc.I .X (wOf Cyc.zeta 2 2 2)) (P Cyc.I .X (wOf Cyc.zeta 2 1 2)) =
      smul2 ((2 : ℕ) : Cyc) (P Cyc.I .X (Cyc.zeta ^ (2 * 2 ^ (2 - 2) + 1 * 2 ^ (2 - 2)))) := by
  have := rot_compose_generic Cyc.I Cyc.zeta Cyc.I_mul_I .X 2 2 2 1 2
  exact_mod_cast this

example : ((2 : ℕ) : Cyc) = Cyc.two ∧ ((-1 : ℤ) : Cyc) = Cyc.neg Cyc.one := by decide +kernel

end NQ.C07
