/-
C01 — Binary subroutine codec is lossless and uniquely decodable per flavour.
-/
import NetqasmVerif.Lemmas.Table
import NetqasmVerif.Props.WireObligations
namespace NQ.C01
open NQ

/-- (1) every operand kind round-trips for every in-range value, whatever bytes follow -/
theorem operand_roundtrip (k : FieldKind) (o : Operand) (bs rest : List Nat)
    (h : encodeOp k o = some bs) : decodeOp k (bs ++ rest) = some (o, rest) :=
  decodeOp_encodeOp k o bs rest h

/-- encoding succeeds exactly on in-range operands of the right kinds -/
theorem encode_defined_iff_inRange (ks : List FieldKind) (os : List Operand) :
    (encodeOps ks os).isSome = InRangeOps ks os := encodeOps_isSome ks os

/-- (2) any table, any instruction whose opcode is in no clash pair -/
theorem instr_roundtrip (T : Table) (i : Instr) (bs : List Nat)
    (h : encodeInstr T i = some bs)
    (hc : ∀ row, rowOf T i.cls = some row → ∀ c ∈ opcodeClashes T, c.1 ≠ row.opcode) :
    decodeInstr T bs = some i := decodeInstr_encodeInstr T i bs h hc

/-- (3) whole subroutines of any length, any app id / version bytes that encode -/
theorem subroutine_roundtrip (T : Table) (s : Sub) (bs : List Nat)
    (h : encodeSub T s = some bs)
    (hc : ∀ i ∈ s.instrs, ∀ row, rowOf T i.cls = some row →
      ∀ c ∈ opcodeClashes T, c.1 ≠ row.opcode) :
    decodeSub T bs = some s := decodeSub_encodeSub T s bs h hc

/-! Generated obligations about the live tables of /repo. -/

/-- the model codec reproduces every single-bit probe of every real class -/
theorem probes_match : Gen.probes.all probeOk = true := Wire.probes_match

/-- every class of every flavour was probed -/
theorem probes_cover :
    (Gen.vanillaRows ++ Gen.nvRows ++ Gen.reidsRows).all
      (fun r => Gen.probes.any (fun p => p.row == r)) = true := Wire.probes_cover

/-- every shape fits the six operand bytes and every opcode one byte -/
theorem shapes_fit :
    (Gen.vanillaRows ++ Gen.nvRows ++ Gen.reidsRows).all
      (fun r => decide (shapeSize r.shape ≤ 6) && decide (r.opcode < 256)) = true := Wire.shapes_fit

/-- the core rows, which every flavour table starts with, are swept once; each flavour then adds
its own rows against the core rows and among themselves -/
theorem core_unique : opcodeClashes Gen.coreRows = [] ∧ mnemonicClashes Gen.coreRows = []
    ∧ classClashes Gen.coreRows = [] := by decide +kernel

theorem nv_unique : opcodeClashes Gen.nvRows = [] ∧ mnemonicClashes Gen.nvRows = []
    ∧ classClashes Gen.nvRows = [] := by
  simp only [← all_false_iff, Gen.nvRows, opcodeClashes_append core_unique.1,
    mnemonicClashes_append core_unique.2.1, classClashes_append core_unique.2.2]
  decide +kernel

theorem reids_unique : opcodeClashes Gen.reidsRows = [] ∧ mnemonicClashes Gen.reidsRows = []
    ∧ classClashes Gen.reidsRows = [] := by
  simp only [← all_false_iff, Gen.reidsRows, opcodeClashes_append core_unique.1,
    mnemonicClashes_append core_unique.2.1, classClashes_append core_unique.2.2]
  decide +kernel

/-- vanilla: no clash other than those recorded as open known findings (F1) -/
theorem vanilla_clashes_are_known :
    (opcodeClashes Gen.vanillaRows).all (fun c =>
      ((Gen.knownOpcodeClashes.filter (fun k => k.1 == "vanilla")).map (fun k => k.2)).contains c) = true
    ∧ mnemonicClashes Gen.vanillaRows = [] ∧ classClashes Gen.vanillaRows = [] := by
  simp only [← all_false_iff, Gen.vanillaRows, opcodeClashes_append core_unique.1,
    mnemonicClashes_append core_unique.2.1, classClashes_append core_unique.2.2]
  decide +kernel

/-- no class occurs twice in a table: the hypothesis of `rowOf_at` / `encodeInstr_at` -/
theorem vanilla_cls : classClashes Gen.vanillaRows = [] := vanilla_clashes_are_known.2.2
theorem nv_cls : classClashes Gen.nvRows = [] := nv_unique.2.2

/-- every recorded clash is a vanilla one: `nv_unique` and `reids_unique` leave no finding open -/
theorem nv_reids_no_known_clash :
    Gen.knownOpcodeClashes.all (fun k => k.1 == "vanilla") = true := by decide +kernel

/-- NV flavour: full statement, no side condition. -/
theorem nv_roundtrip (s : Sub) (bs : List Nat) (h : encodeSub Gen.nvRows s = some bs) :
    decodeSub Gen.nvRows bs = some s :=
  subroutine_roundtrip _ s bs h fun i _ => clashFree_of_nil nv_unique.1 i.cls

/-- REIDS flavour: full statement. -/
theorem reids_roundtrip (s : Sub) (bs : List Nat) (h : encodeSub Gen.reidsRows s = some bs) :
    decodeSub Gen.reidsRows bs = some s :=
  subroutine_roundtrip _ s bs h fun i _ => clashFree_of_nil reids_unique.1 i.cls

/-- Vanilla flavour, the full statement (false on the current tree, see below):
`∀ s bs, encodeSub Gen.vanillaRows s = some bs → decodeSub Gen.vanillaRows bs = some s`.
Proved part: every subroutine that avoids the opcodes listed in the known findings. -/
theorem vanilla_roundtrip_partial (s : Sub) (bs : List Nat)
    (h : encodeSub Gen.vanillaRows s = some bs)
    (hk : ∀ i ∈ s.instrs, ∀ row, rowOf Gen.vanillaRows i.cls = some row →
      ∀ k ∈ Gen.knownOpcodeClashes, k.2.1 ≠ row.opcode) :
    decodeSub Gen.vanillaRows bs = some s :=
  subroutine_roundtrip _ s bs h (by
    intro i hi row hrow c hc
    have h1 := List.all_eq_true.1 vanilla_clashes_are_known.1 c hc
    simp only [List.contains_iff_mem, List.mem_map, List.mem_filter] at h1
    obtain ⟨k, ⟨hk1, _⟩, rfl⟩ := h1
    exact hk i hi row hrow k hk1)

/-- the counter-example behind F1, in the model: an encoded `meas_basis` decodes
as `mov` in the vanilla flavour (replayed on the real code by the check). -/
theorem vanilla_counterexample :
    let i : Instr := ⟨"core.MeasBasisInstruction",
      [.reg ⟨2, 1⟩, .reg ⟨3, 2⟩, .imm 3, .imm 4, .imm 5, .imm 6]⟩
    (encodeInstr Gen.vanillaRows i).bind (decodeInstr Gen.vanillaRows)
      = some ⟨"vanilla.MovInstruction", [.reg ⟨2, 1⟩, .reg ⟨3, 2⟩]⟩ := by
  intro i
  rw [show encodeInstr Gen.vanillaRows i = _ from encodeInstr_at vanilla_cls 20 rfl _]
  decide +kernel

/-- non-vacuity: a concrete NV subroutine with boundary operands encodes (so the
hypothesis of `nv_roundtrip` is satisfiable) -/
example : (encodeSub Gen.nvRows ⟨0, 10, 65535,
    [⟨"core.SetInstruction", [.reg ⟨0, 15⟩, .imm (-2147483648)]⟩,
     ⟨"nv.ControlledRotXInstruction", [.reg ⟨2, 0⟩, .reg ⟨2, 1⟩, .imm 255, .imm 0]⟩,
     ⟨"core.WaitAllInstruction", [.slice 2147483647 ⟨0, 3⟩ ⟨1, 4⟩]⟩]⟩).isSome = true := by
  decide +kernel

end NQ.C01
