import NetqasmVerif.Model.NvDecomp
import NetqasmVerif.Gen.NvDecomp
namespace NQ.C07.Obl
open NQ NQ.NV
/-- CNOT and CPHASE: the representative sequence of each placement equals the gate (⊗ 1 on the borrowed
electron for carbon–carbon) up to a scalar — 4×4 / 8×8 operator identities in ℤ[ζ₈]. One theorem for both
gates: their carbon–carbon sequences begin with the same twelve gates (carbon state onto the electron), and
within one declaration the kernel evaluates that common part once. -/
theorem two_rep_ok :
    [GName.cnot, .cphase].all (fun g => [Placement.ec, .ce, .cc].all fun p => repOk Gen.nvTwo g p) = true := by
  decide +kernel

theorem two_rep_ok_cnot : [Placement.ec, .ce, .cc].all (fun p => repOk Gen.nvTwo .cnot p) = true :=
  List.all_eq_true.mp two_rep_ok .cnot (by simp)

theorem two_rep_ok_cphase : [Placement.ec, .ce, .cc].all (fun p => repOk Gen.nvTwo .cphase p) = true :=
  List.all_eq_true.mp two_rep_ok .cphase (by simp)
end NQ.C07.Obl
