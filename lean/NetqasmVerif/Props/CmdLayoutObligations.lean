/-
Obligations about the command-struct layouts generated from the ctypes descriptors of /repo
(`Gen/CmdLayouts.lean`): the translator lists them class by class in the order of the rows.
-/
import NetqasmVerif.Model.CmdPack
import NetqasmVerif.Gen.CmdLayouts
import NetqasmVerif.Props.C01
namespace NQ.CmdObl
open NQ NQ.Cmd

def allRows : Table := Gen.vanillaRows ++ Gen.nvRows ++ Gen.reidsRows

/-- Every row of the three tables (membership in the form of `Wire.mem_rows`) is found under its
class in their concatenation: a class is unique in its own table (C01), and a flavour-specific
class does not occur in the tables before its own. -/
theorem rowOf_allRows {row : Row}
    (h : row ∈ Gen.coreRows ++ Gen.vanillaSpecific ++ Gen.nvSpecific ++ Gen.reidsSpecific) :
    rowOf allRows row.cls = some row := by
  have hN : (Gen.nvSpecific.all (fun r => (rowOf Gen.vanillaRows r.cls).isNone)
      && Gen.reidsSpecific.all (fun r => (rowOf (Gen.vanillaRows ++ Gen.nvRows) r.cls).isNone))
      = true := by decide +kernel
  rw [Bool.and_eq_true, List.all_eq_true, List.all_eq_true] at hN
  rw [allRows, rowOf_append]
  rcases List.mem_append.1 h with h | hr
  · rw [rowOf_append]
    rcases List.mem_append.1 h with hr | hr
    · rw [rowOf_of_mem C01.vanilla_cls hr]; rfl
    · rw [Option.isNone_iff_eq_none.1 (hN.1 row hr),
        rowOf_of_mem C01.nv_cls (List.mem_append_right _ hr)]; rfl
  · rw [Option.isNone_iff_eq_none.1 (hN.2 row hr),
      rowOf_of_mem C01.reids_unique.2.2 (List.mem_append_right _ hr)]; rfl

theorem cmd_layouts_canonical : Gen.cmdLayouts.all (fun L =>
    match rowOf allRows L.cls with
    | some row => isCanonical L row
    | none => false) = true := by
  -- the layouts come class by class in the order of the rows, each the canonical one
  have hL : Gen.cmdLayouts.map (fun L : CmdLayout => (L.size, L.idField, L.groups, L.pads, true, L.cls))
      = (Gen.coreRows ++ Gen.vanillaSpecific ++ Gen.nvSpecific ++ Gen.reidsSpecific).map
        (fun row => (COMMAND_BYTES, (canonCmd row).idField, (canonCmd row).groups,
          (canonCmd row).pads, decide (shapeSize row.shape ≤ 6), row.cls)) := rfl
  rw [List.all_eq_true]
  intro L hL'
  obtain ⟨row, hrow, he⟩ := exists_of_map_eq hL hL'
  simp only [Prod.mk.injEq] at he
  obtain ⟨h1, h2, h3, h4, h5, h6⟩ := he
  rw [← h6, rowOf_allRows hrow]
  simp [isCanonical, ← h1, ← h2, ← h3, ← h4, h5, h6]

theorem cmd_layouts_cover : allRows.all (fun r => Gen.cmdLayouts.any (fun L => L.cls == r.cls)) = true := by
  have hc : Gen.cmdLayouts.map (·.cls) = (Gen.coreRows ++ Gen.vanillaSpecific ++ Gen.nvSpecific
      ++ Gen.reidsSpecific).map (·.cls) := rfl
  rw [List.all_eq_true]
  intro r hr
  obtain ⟨L, hL, h⟩ := exists_of_map_eq hc.symm (Wire.mem_rows hr)
  exact List.any_eq_true.2 ⟨L, hL, beq_iff_eq.2 h⟩

end NQ.CmdObl
