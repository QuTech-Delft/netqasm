/-
Kernel-decided conditions on the symbols of the live module (`Gen.syms`, translate/asm_tables.py)
needed by the text-level theorems of C03 (Lemmas/AsmFront*.lean).
-/
import NetqasmVerif.Lemmas.AsmFrontText
import NetqasmVerif.Props.TextObligations
namespace NQ.AsmTextObl
open NQ NQ.Text NQ.AsmFront

theorem src_syms_ok : srcSymsOk Gen.syms = true := TextObl.src_syms_ok
theorem arg_syms_ok : argSymsOk Gen.syms = true := by decide +kernel
theorem text_syms_ok : textSymsOk Gen.syms = true := by decide +kernel

theorem front_syms : FrontSyms Gen.syms :=
  ⟨⟨sok_of Gen.syms TextObl.syms_ok, src_syms_ok⟩, arg_syms_ok⟩

end NQ.AsmTextObl
