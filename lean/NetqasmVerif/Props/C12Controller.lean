/-
The composed controller model (`Model/Controller.lean`): ONE model of `executor.py` built from
`Model/Exec.lean` (C04/C13) and `Model/Epr.lean` (C12). `CReach cfg node c` = `c` is reachable from the
initial controller state by any sequence of actions: life-cycle operations of `Exec`, spawning a
subroutine, one instruction of any subroutine (Exec's instruction set + create_epr / recv_epr / wait_*),
a fault of the network stack inside an EPR instruction, response delivery, poll.

(1) `controller_refines_exec`     — on programs without EPR/wait instructions a tick IS `Exec.run … 1`.
(2) C12's (i)–(iv) for the combined model (`controller_exactly_once`, `controller_consumed_by_oldest_in_order`),
    one consumption of the controller IS a consumption of the EPR model on the view of the controller
    state and, for a keep response, a successful `Exec.keepResp` (`Ctl.tryHandle_yes` has the exact
    post-state; `controller_consume_refines` the part C12's theorems about `Epr.tryHandle` need), hence
    C13's invariant is preserved (`inv_controller_consume`, `inv_controller_tick`); waits are sound
    (`controller_wait_sound`).
(3) faults of the EPR instructions are atomic and name the current line (`epr_fault_atomic`).
What is NOT proved here: a step-by-step simulation of EVERY controller action by an action of
`Epr.step` (the array/qalloc/qfree instructions of `Exec` against `Epr`'s `array`/`store`/`qalloc`/`qfree`
actions); what the two models share is the book (`Lemmas/EprBook.lean`): both refine the same book machine, whose
invariants give the bookkeeping theorems for controller runs; the memory effect of a consumption is tied to `Epr` by
the view.
-/
import NetqasmVerif.Lemmas.ControllerBook
import NetqasmVerif.Props.C13
namespace NQ.C12
open NQ NQ.Exec NQ.Ctl

abbrev CReach := Ctl.Reach

def liftOut : Exec.Outcome → COutcome
  | .halted => .halted
  | .fault f ln => .fault (.exec f) ln
  | .outOfFuel => .halted

theorem tick_base (cfg : Cfg) (c : CState) (i : Nat) (sb : CSub) (bs : List Exec.Instr)
    (hs : c.subs[i]? = some sb) (hf : sb.fin = none) (hp : sb.prog = bs.map CInstr.base) :
    Ctl.tick cfg c i = { c with
      s := (Exec.run cfg.hw sb.a bs 1 c.s sb.pc).s,
      subs := c.subs.set i { sb with
        pc := (Exec.run cfg.hw sb.a bs 1 c.s sb.pc).pc,
        fin := (Exec.afterTick bs (Exec.run cfg.hw sb.a bs 1 c.s sb.pc)).map liftOut } } := by
  have hlen : sb.prog.length = bs.length := by rw [hp, List.length_map]
  unfold Ctl.tick
  rw [hs]
  simp only [hf]
  unfold Exec.run
  rw [hlen]
  by_cases hge : sb.pc ≥ (bs.length : Int)
  · simp [hge, Exec.afterTick, liftOut]
  · simp only [hge, if_false]
    cases hk : pyIdx bs.length sb.pc with
    | none => simp [Exec.afterTick, liftOut]
    | some k =>
      simp only [Option.bind_some, hp, List.getElem?_map]
      cases hb : bs[k]? with
      | none => simp [Exec.afterTick, liftOut]
      | some bi =>
        simp only [Option.map_some]
        cases hstep : Exec.step cfg.hw sb.a bi c.s sb.pc with
        | ok s' pc' =>
          by_cases hge' : pc' ≥ (bs.length : Int)
          · simp [Exec.run, afterFetch, hge', Exec.afterTick, liftOut]
          · cases hp2 : pyIdx bs.length pc' <;>
              simp [Exec.run, afterFetch, hge', hp2, Exec.afterTick, liftOut]
        | fault s' f => simp [Exec.afterTick, liftOut]

/-- On a subroutine whose program consists of `Exec` instructions only, one controller tick is exactly
one instruction of the `Exec` model (`Exec.run … 1`, which is what `Exec.tick` performs): same resulting
`Exec` state, same program counter, same outcome; the EPR book is untouched. -/
theorem controller_refines_exec (cfg : Cfg) (c : CState) (i : Nat) (sb : CSub) (bs : List Exec.Instr)
    (hs : c.subs[i]? = some sb) (hf : sb.fin = none) (hp : sb.prog = bs.map CInstr.base) :
    (Ctl.tick cfg c i).s = (Exec.run cfg.hw sb.a bs 1 c.s sb.pc).s ∧ (Ctl.tick cfg c i).book = c.book ∧
    ∃ sb', (Ctl.tick cfg c i).subs[i]? = some sb' ∧ sb'.pc = (Exec.run cfg.hw sb.a bs 1 c.s sb.pc).pc ∧
      sb'.fin = (Exec.afterTick bs (Exec.run cfg.hw sb.a bs 1 c.s sb.pc)).map liftOut ∧
      sb'.a = sb.a ∧ sb'.prog = sb.prog := by
  have hi : i < c.subs.length := (List.getElem?_eq_some_iff.1 hs).1
  rw [tick_base cfg c i sb bs hs hf hp]
  exact ⟨rfl, rfl, _, List.getElem?_set_self hi, rfl, rfl, rfl, rfl⟩

/-- (i) exactly once, for every reachable controller state -/
theorem controller_exactly_once {cfg : Cfg} {node : Int} {c : CState} (h : CReach cfg node c) :
    (c.book.pending ++ c.book.log.map (·.resp)).Perm c.book.delivered ∧
    (c.book.delivered.map (·.id)).Nodup := by
  have := h.book.inv.once
  exact ⟨this.1, by rw [this.2]; exact List.nodup_range⟩

/-- (ii)–(iv) oldest request first, pairs in order, retirement after exactly `tot` responses — the same
statement as `consumed_by_oldest_in_order`, for every reachable controller state -/
theorem controller_consumed_by_oldest_in_order {cfg : Cfg} {node : Int} {c : CState}
    (h : CReach cfg node c) (hpos : ∀ r ∈ c.book.issued, 1 ≤ r.tot) (κ : Epr.Key) :
    ∃ fin : List Epr.Req,
      Epr.issuedForL c.book.issued κ = fin ++ (Epr.getQ c.book.queues κ).map Epr.reset ∧
      Epr.doneForL c.book.log κ = Epr.canon fin ++ Epr.headPart (Epr.getQ c.book.queues κ) ∧
      (∀ r ∈ Epr.getQ c.book.queues κ, 1 ≤ r.left ∧ r.left ≤ r.tot ∧ r.key = κ) ∧
      (∀ r ∈ (Epr.getQ c.book.queues κ).tail, r.left = r.tot) :=
  h.book.inv.allQ hpos κ

/-- One consumption of the controller contains one consumption of the EPR model on a VIEW of the
controller state (so `C12.consume_effect`, `consumed_by_head`, `retired_iff_complete` apply to that
consumption verbatim) whose bookkeeping the controller takes over, and for a keep response some
`Exec.keepResp` on `c.s` succeeds (not deferred, not faulting) for a position that is free in the view and
mapped to the response's qubit afterwards. Which view it is (head request of the response's queue, its
live application) and that `c'.s` is the result of that `keepResp` with the new result array written
(`commit`) is the content of `Ctl.tryHandle_yes`, not of this statement. -/
theorem controller_consume_refines {cfg : Cfg} {c c' : CState} {r : Epr.Resp}
    (h : Ctl.tryHandle cfg c r = .yes c') :
    ∃ (hd : Epr.Req) (app : Nat) (ap : App) (e' : Epr.State),
      Epr.tryHandle cfg.okf (view c hd app ap) r = .yes e' ∧ c'.book = Book.ofEpr e' ∧ c'.subs = c.subs ∧
      (r.ty = .K → ∃ (app' : Nat) (v : Int) (i : Nat), (Exec.keepResp c.s app' v r.phys.toNat).2 = none ∧
        Epr.mapped (view c hd app ap) app' i = none ∧ Epr.mapped e' app' i = some r.phys) := by
  obtain ⟨hd, rest, app, ap, e', arr', ev, s1, ap1, hh⟩ := Ctl.tryHandle_yes h
  refine ⟨hd, app, ap, e', hh.epr, by rw [hh.eq]; rfl, by rw [hh.eq]; rfl, ?_⟩
  intro hK
  have hph : r.phys = ((r.phys.toNat : Nat) : Int) := by
    have : ¬ r.phys < 0 := fun hlt => hh.phys ⟨hK, hlt⟩
    omega
  obtain ⟨app', v, i, h1, _, h3, h4⟩ :=
    Bridge.keep_consumption_simulated (view_unitRel c hd hh.mem) (Epr.tryHandle_yes hh.epr) hK hph
  exact ⟨app', v, i, h1, h3, by rw [hph]; exact h4⟩

/-- C13's invariant through a consumption of the controller: the only hypothesis is the link layer's —
the physical qubit of a keep response is one it reserved on this controller. -/
theorem inv_controller_consume {cfg : Cfg} {c c' : CState} {r : Epr.Resp} (hI : C13.Inv c.s)
    (h : Ctl.tryHandle cfg c r = .yes c') (hres : r.ty = .K → r.phys.toNat ∈ c.s.reserved) :
    C13.Inv c'.s := by
  obtain ⟨hd, rest, app, ap, e', arr', ev, s1, ap1, hh⟩ := Ctl.tryHandle_yes h
  have hI1 : Exec.Inv s1 := by
    rw [hh.exec]
    cases hvq : ev.vq with
    | none => exact hI
    | some pos =>
      simp only
      apply Exec.inv_keepResp c.s app pos r.phys.toNat hI
      apply hres
      exact Ctl.vq_some_is_keep (Epr.tryHandle_yes hh.epr) hh.event hvq
  rw [hh.eq]
  unfold commit
  refine Exec.inv_same hI1 ?_ (fun _ => Iff.rfl) rfl rfl
  funext b
  simp only [Exec.unitOf, upd]
  by_cases hb : b = app
  · subst hb; simp [hh.mem1]
  · simp [hb]

/-- the link layer's hypothesis for a whole pending list: every keep response still pending carries a
physical qubit the link layer reserved on this controller, and no two of them carry the same one -/
def PendingEnvOk (c : CState) : Prop :=
  (∀ r ∈ c.book.pending, r.ty = .K → r.phys.toNat ∈ c.s.reserved) ∧
  ((c.book.pending.filter (fun r => r.ty = .K)).map (fun r => r.phys.toNat)).Nodup

/-- C13's invariant through a WHOLE delivery / poll: any number of consumptions of either type in the
order the real loop picks them (induction over the `_handle_pending_epr_responses` loop). The only
hypothesis is the link layer's (`PendingEnvOk`), and it holds again afterwards. -/
theorem inv_controller_handlePending {cfg : Cfg} {c c' : CState} (hI : C13.Inv c.s) (he : PendingEnvOk c)
    (h : Ctl.handlePending cfg c = some c') : C13.Inv c'.s ∧ PendingEnvOk c' := by
  refine Ctl.handlePendingFuel_induct (fun c => C13.Inv c.s ∧ PendingEnvOk c) ?_ _ c c' ⟨hI, he⟩ h
  intro c c1 ⟨hI, he⟩ h1
  obtain ⟨pre', r, rest, cy, hl, hy, hc1⟩ := Ctl.scan_did _ _ h1
  have hl' : c.book.pending = pre' ++ r :: rest := hl
  have hrmem : r ∈ c.book.pending := by rw [hl']; simp
  have hIy : C13.Inv cy.s := inv_controller_consume hI hy (he.1 r hrmem)
  subst hc1
  refine ⟨hIy, ?_, ?_⟩
  · intro x hx hK
    have hx' : x ∈ pre' ++ rest := by simpa using hx
    have hxm : x ∈ c.book.pending := by
      rw [hl']; exact List.mem_append.2 ((List.mem_append.1 hx').imp_right (List.mem_cons_of_mem _))
    apply Ctl.tryHandle_yes_reserved hy _ (he.1 x hxm hK)
    intro hrK heq
    -- two pending keep responses with the same physical qubit contradict `Nodup`
    have hnd := he.2
    rw [hl'] at hnd
    simp only [List.filter_append, List.filter_cons, hrK, decide_true, if_true, List.map_append,
      List.map_cons] at hnd
    have hnot := (List.nodup_cons.1 (List.perm_middle.nodup_iff.1 hnd)).1
    rw [← List.map_append, ← List.filter_append] at hnot
    exact hnot (List.mem_map.2 ⟨x, List.mem_filter.2 ⟨hx', by simp [hK]⟩, heq⟩)
  · have hnd := he.2
    rw [hl'] at hnd
    show (((([] : List Epr.Resp) ++ pre' ++ rest).filter (fun (r : Epr.Resp) => r.ty = .K)).map
      (fun (r : Epr.Resp) => r.phys.toNat)).Nodup
    simp only [List.nil_append, List.filter_append, List.map_append]
    simp only [List.filter_append, List.map_append] at hnd
    refine List.Nodup.sublist ?_ hnd
    exact List.Sublist.append_left (List.Sublist.map _ (List.Sublist.filter _ (List.sublist_cons_self _ _))) _

/-- … and through `deliver`: the hypothesis is stated on the pending list INCLUDING the new response -/
theorem inv_controller_deliver {cfg : Cfg} {c c' : CState} (ty : Epr.Ty) (remote purpose dir phys : Int)
    (fields : List Int) (hI : C13.Inv c.s)
    (he : PendingEnvOk { c with book := { c.book with
            pending := c.book.pending ++ [⟨c.book.nextResp, ty, remote, purpose, dir, phys, fields⟩],
            nextResp := c.book.nextResp + 1,
            delivered := c.book.delivered ++ [⟨c.book.nextResp, ty, remote, purpose, dir, phys, fields⟩] } })
    (h : Ctl.deliver cfg c ty remote purpose dir phys fields = some c') : C13.Inv c'.s ∧ PendingEnvOk c' :=
  inv_controller_handlePending (c := { c with book := { c.book with
            pending := c.book.pending ++ [⟨c.book.nextResp, ty, remote, purpose, dir, phys, fields⟩],
            nextResp := c.book.nextResp + 1,
            delivered := c.book.delivered ++ [⟨c.book.nextResp, ty, remote, purpose, dir, phys, fields⟩] } })
    hI he h

/-- non-vacuity of the hypotheses of `inv_controller_deliver`: an application, one qubit reserved by the
link layer (physical 0), a keep response carrying it -/
example : let c : CState := { Ctl.init 0 with s := [Exec.Op.init 0 2, .reserve].foldl Exec.apply Exec.init0 }
    C13.Inv c.s ∧
    PendingEnvOk { c with book := { c.book with pending := c.book.pending ++ [⟨0, .K, 7, 7003, 1, 0, [5, 6]⟩] } } ∧
    (Ctl.deliver ⟨2, false, fun r s => r * 1000 + s⟩ c .K 7 7003 1 0 [5, 6]).isSome = true := by
  refine ⟨C13.reachable_from_init [.init 0 2, .reserve] (by decide), ⟨?_, by decide⟩, by decide⟩
  intro r hr _
  simp only [Ctl.init, List.nil_append, List.mem_singleton] at hr
  subst hr
  decide +kernel

/-- C13's invariant through one instruction of any subroutine (Exec's instructions by `Exec.inv_step`;
the EPR and wait instructions do not touch the `Exec` state) -/
theorem inv_controller_tick (cfg : Cfg) (c : CState) (i : Nat) (hI : C13.Inv c.s) :
    C13.Inv (Ctl.tick cfg c i).s := by
  unfold Ctl.tick
  split
  · exact hI
  · rename_i sb _
    split
    · exact hI
    · split
      · exact hI
      · split
        · exact hI
        · rename_i bi _
          have := Exec.inv_step cfg.hw sb.a bi c.s sb.pc hI
          split
          · rename_i s' pc' hst; rw [hst] at this; exact this
          · rename_i s' f hst; rw [hst] at this; exact this
        · split
          · exact hI
          · rename_i c1 pc1 he
            rcases (eprStep_ok he).2 with h | ⟨κ, res, q, n, h⟩
            · show C13.Inv c1.s; rw [h]; exact hI
            · show C13.Inv c1.s; rw [h]; exact hI
          · exact hI

/-- (vi) for the controller's register-level waits: `wait_all` passes only if every entry of the Python
slice `array[lo:hi]` is defined, `wait_any` only if one is, `wait_single` only if the entry is. -/
theorem controller_wait_sound (ap : App) (a : Int) (lo hi ix : XReg) :
    (waitSlice true ap a lo hi = some (.ok true) →
      ∃ l h arr, ap.regs lo = some l ∧ ap.regs hi = some h ∧ ap.arrays a = some arr ∧
        ∀ x ∈ pySlice arr l h, x.isSome = true) ∧
    (waitSlice false ap a lo hi = some (.ok true) →
      ∃ l h arr, ap.regs lo = some l ∧ ap.regs hi = some h ∧ ap.arrays a = some arr ∧
        ∃ x ∈ pySlice arr l h, x.isSome = true) ∧
    (waitEntry ap a ix = .ok true →
      ∃ k arr p v, ap.regs ix = some k ∧ ap.arrays a = some arr ∧ pyIdx arr.length k = some p ∧
        arr[p]? = some (some v)) := by
  refine ⟨?_, ?_, ?_⟩
  · intro h
    unfold waitSlice at h
    split at h
    · rename_i l hh hl hhh
      split at h
      · cases h
      · rename_i arr harr
        simp only [if_true, Option.some.injEq, Except.ok.injEq] at h
        exact ⟨l, hh, arr, hl, hhh, harr, by simpa [List.all_eq_true] using h⟩
    · cases h
  · intro h
    unfold waitSlice at h
    split at h
    · rename_i l hh hl hhh
      split at h
      · cases h
      · rename_i arr harr
        simp only [Bool.false_eq_true, if_false, Option.some.injEq, Except.ok.injEq] at h
        exact ⟨l, hh, arr, hl, hhh, harr, by simpa [List.any_eq_true] using h⟩
    · cases h
  · intro h
    unfold waitEntry at h
    split at h
    · cases h
    · rename_i k hk
      split at h
      · cases h
      · rename_i arr harr
        split at h
        · cases h
        · rename_i p hp
          injection h with h
          cases hv : arr[p]? with
          | none => rw [hv] at h; cases h
          | some o =>
            cases o with
            | none => rw [hv] at h; cases h
            | some v => exact ⟨k, arr, p, v, hk, harr, hp, hv⟩

/-- a tick whose next instruction is an EPR or wait instruction is decided by `eprStep` -/
theorem tick_epr (cfg : Cfg) (c : CState) (i : Nat) (sb : CSub) (k : Nat) (ei : CInstr)
    (hs : c.subs[i]? = some sb) (hf : sb.fin = none) (hlt : ¬ sb.pc ≥ (sb.prog.length : Int))
    (hk : pyIdx sb.prog.length sb.pc = some k) (hei : sb.prog[k]? = some ei) (hnb : ∀ b, ei ≠ .base b) :
    Ctl.tick cfg c i = match eprStep cfg c i sb.a sb.pc ei with
      | .block => c
      | .ok c' pc' => { c' with subs := c'.subs.set i { sb with pc := pc', fin := afterFetch sb.prog pc' } }
      | .fault f => { c with subs := c.subs.set i { sb with fin := some (.fault f (some sb.pc)) } } := by
  unfold Ctl.tick
  rw [hs]
  simp only [hf, hlt, if_false, hk, Option.bind_some, hei]
  cases ei with
  | base b => exact absurd rfl (hnb b)
  | _ => rfl

/-- A faulting `create_epr` / `recv_epr` / `wait_*` (undefined register operand — `assert … is not None`
or RuntimeError —, argument / result / qubit-id array missing or of the wrong length, invalid request
type or random-basis value, index outside the array, unknown application) leaves the WHOLE controller
state — `Exec` state and EPR book — unchanged and is reported at the current line (`fault f (some pc)`);
no other subroutine is affected. (`fault_atomic` / `fault_names_line` of C04 for the EPR instructions.) -/
theorem epr_fault_atomic (cfg : Cfg) (c : CState) (i : Nat) (sb : CSub) (k : Nat) (ei : CInstr) (f : CFault)
    (hs : c.subs[i]? = some sb) (hf : sb.fin = none) (hlt : ¬ sb.pc ≥ (sb.prog.length : Int))
    (hk : pyIdx sb.prog.length sb.pc = some k) (hei : sb.prog[k]? = some ei) (hnb : ∀ b, ei ≠ .base b)
    (he : eprStep cfg c i sb.a sb.pc ei = .fault f) :
    (Ctl.tick cfg c i).s = c.s ∧ (Ctl.tick cfg c i).book = c.book ∧
    (Ctl.tick cfg c i).subs = c.subs.set i { sb with fin := some (.fault f (some sb.pc)) } := by
  rw [tick_epr cfg c i sb k ei hs hf hlt hk hei hnb, he]
  exact ⟨rfl, rfl, rfl⟩

/-- a wait whose condition does not hold is a pure yield point: nothing changes -/
theorem wait_block_unchanged (cfg : Cfg) (c : CState) (i : Nat) (sb : CSub) (k : Nat) (ei : CInstr)
    (hs : c.subs[i]? = some sb) (hf : sb.fin = none) (hlt : ¬ sb.pc ≥ (sb.prog.length : Int))
    (hk : pyIdx sb.prog.length sb.pc = some k) (hei : sb.prog[k]? = some ei) (hnb : ∀ b, ei ≠ .base b)
    (he : eprStep cfg c i sb.a sb.pc ei = .block) : Ctl.tick cfg c i = c := by
  rw [tick_epr cfg c i sb k ei hs hf hlt hk hei hnb, he]

/-- the stack refusing a request (fault at the environment boundary) leaves `Exec` state and book
unchanged in the combined model too -/
theorem controller_rejected_issue_unchanged (c : CState) (i : Nat) :
    (stackFault c i).s = c.s ∧ (stackFault c i).book = c.book := by
  unfold stackFault
  split
  · exact ⟨rfl, rfl⟩
  · split <;> exact ⟨rfl, rfl⟩

def R (i : Nat) (h : i < 16 := by omega) : XReg := ⟨0, ⟨i, h⟩⟩
def Q (i : Nat) (h : i < 16 := by omega) : XReg := ⟨2, ⟨i, h⟩⟩

/-- recv-keep for 1 pair into virtual qubit 1 (array @0 = [1], result array @1 of 2 entries, okf = 2),
response delivered before the instruction ran, then wait_all -/
def cdemo : List CAction :=
  [ .base (.init 0 2), .base .reserve,
    .deliver .K 7 7003 1 0 [5, 6],
    .spawn 0 [ .base (.set (R 0) 1), .base (.array (R 0) 0), .base (.set (R 1) 0), .base (.store (R 0) 0 (R 1)),
               .base (.set (R 0) 2), .base (.array (R 0) 1),
               .base (.set (R 0) 7), .base (.set (R 1) 3), .base (.set (R 2) 0), .base (.set (R 4) 1),
               .recvEpr (R 0) (R 1) (R 2) (R 4),
               .base (.set (R 0) 0), .base (.set (R 1) 2), .waitAll 1 (R 0) (R 1) ] ] ++
  (List.replicate 13 (.tick 0)) ++ [.tick 0, .poll, .tick 0]

def cdemoCfg : Cfg := ⟨2, false, fun r s => r * 1000 + s⟩

theorem controller_nonvacuous :
    ((Ctl.run cdemoCfg (Ctl.init 0) cdemo).map fun c =>
      (c.book.pending.length, c.book.log.map (fun e => (e.resp.id, e.req, e.k)))) = some (0, [(0, 0, 0)]) ∧
    ((Ctl.run cdemoCfg (Ctl.init 0) cdemo).bind fun c => (c.s.apps 0).bind fun ap => ap.arrays 1) =
      some [some 5, some 6] ∧
    ((Ctl.run cdemoCfg (Ctl.init 0) cdemo).bind fun c => (c.s.apps 0).map fun ap => ap.unit) =
      some [none, some 0] ∧
    ((Ctl.run cdemoCfg (Ctl.init 0) cdemo).map fun c => (c.s.reserved, c.subs.map (·.fin))) =
      some ([], [some .halted]) := by
  decide +kernel

end NQ.C12
