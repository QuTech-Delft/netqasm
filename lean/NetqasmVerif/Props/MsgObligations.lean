/-
Kernel-decided obligations about the message tables generated from /repo
(`Gen/MsgLayouts.lean`): well-formedness (`tables_wf`, in the form `wf` the hypothesis of the
round-trip lemmas), the probes recorded from the real classes (`encProbeOk` / `decProbeOk`), and
equality with the pinned formats of `Model/MsgSpec.lean` (`tables_eq_spec`).
-/
import NetqasmVerif.Lemmas.MsgRoundtrip
import NetqasmVerif.Gen.MsgLayouts
import NetqasmVerif.Model.MsgSpec
namespace NQ.MsgObl
open NQ NQ.Msg

/-- all side conditions of the round-trip theorems: every fixed message has its leaf fields
pairwise disjoint (sorted bit ranges) inside `sizeof` with the 8-bit `type` first; both dispatch
tables lead from every type byte to the class whose TYPE it is, no class reached twice -/
theorem tables_wf : WFTables Gen.msgTables = true := by decide +kernel

theorem wf : WF Gen.msgTables := wf_of _ tables_wf

/-- every fixed message: leaf fields pairwise disjoint (sorted bit ranges), inside
`sizeof`, 8-bit `type` first -/
theorem layouts_wf : Gen.msgTables.layouts.all WFLayout = true := List.all_eq_true.2 wf.layouts

/-- both dispatch tables: every type byte leads to the class whose TYPE it is, no class
is reached by two type bytes -/
theorem dispatch_ok : (dispatchOk Gen.msgTables Gen.msgTables.hostDispatch
    && dispatchOk Gen.msgTables Gen.msgTables.returnDispatch) = true := by rw [wf.host, wf.ret]; rfl

/-- ReturnArrayMessageHeader and OptionalInt are well-formed structs of the expected shape -/
theorem structs_wf : (WFStruct Gen.msgTables.retArrHeader && WFStruct Gen.msgTables.optionalInt
    && optShapeOk Gen.msgTables) = true := by rw [wf.hdr, wf.opt, wf.optShape]; rfl

def layoutByName (cls : String) : Option SLayout :=
  match layoutOf Gen.msgTables cls with
  | some M => some M.lay
  | none =>
    if cls == Gen.msgTables.retArrHeader.cls then some Gen.msgTables.retArrHeader
    else if cls == Gen.msgTables.optionalInt.cls then some Gen.msgTables.optionalInt
    else none

def encProbeOk (p : String × List Int × List Nat) : Bool :=
  match layoutByName p.1 with
  | some L => packStruct L p.2.1 == p.2.2
  | none => false

def decProbeOk (p : String × List Nat × List Int) : Bool :=
  match layoutByName p.1 with
  | some L => unpackStruct L p.2.1 == some p.2.2
  | none => false

/-- the model serialisation reproduces the real `bytes(m)` of every walking-one probe -/
theorem enc_probes_match : Gen.msgEncProbes.all encProbeOk = true := by decide +kernel

/-- the model deserialisation reproduces the real `deserialize_from` of every single
flipped wire bit -/
theorem dec_probes_match : Gen.msgDecProbes.all decProbeOk = true := by decide +kernel

/-- `ReturnArrayMessageHeader` and `OptionalInt`: the model reproduces the real `bytes(s)` of the
recorded boundary values, and reads them back -/
theorem struct_probes_match : Gen.structEncProbes.all
    (fun p => encProbeOk p && decProbeOk (p.1, p.2.2, p.2.1)) = true := by decide +kernel

/-- every ctypes message class of the tables has an encode and a decode probe -/
theorem probes_cover : Gen.msgTables.layouts.all (fun M =>
    Gen.msgEncProbes.any (fun p => p.1 == M.lay.cls) &&
    Gen.msgDecProbes.any (fun p => p.1 == M.lay.cls)) = true := by decide +kernel

/-- the generated tables and the pinned ones are the same term -/
theorem tables_eq_spec : Gen.msgTables = MsgSpec.tables := rfl

/-- the live message formats are the pinned ones: every message class with its type byte, size and
every leaf field (name, bit position, width, signedness), both dispatch tables, the array header,
`OptionalInt` and its tags.  A field narrowed / widened / moved / re-typed in /repo fails here. -/
theorem msg_layouts_pinned :
    (Gen.msgTables.layouts == MsgSpec.tables.layouts
      && Gen.msgTables.hostDispatch == MsgSpec.tables.hostDispatch
      && Gen.msgTables.returnDispatch == MsgSpec.tables.returnDispatch
      && Gen.msgTables.subroutineCls == MsgSpec.tables.subroutineCls
      && Gen.msgTables.subroutineTy == MsgSpec.tables.subroutineTy
      && Gen.msgTables.retArrCls == MsgSpec.tables.retArrCls
      && Gen.msgTables.retArrTy == MsgSpec.tables.retArrTy
      && Gen.msgTables.retArrHeader == MsgSpec.tables.retArrHeader
      && Gen.msgTables.optionalInt == MsgSpec.tables.optionalInt
      && Gen.msgTables.nullTag == MsgSpec.tables.nullTag
      && Gen.msgTables.intTag == MsgSpec.tables.intTag) = true := by
  simp only [tables_eq_spec, beq_self_eq_true, Bool.and_self]

end NQ.MsgObl
