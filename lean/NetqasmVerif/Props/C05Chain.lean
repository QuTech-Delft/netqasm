/-
C05 ∘ C03 ∘ C04 — the end-to-end chain

  host program ──C05 `emit_correct`──▶ proto-subroutines under ProtoExec (`Sdk.Steps`)
               ──`Bridge.bridge_run`──▶ the same subroutine, translated, under the executor machine
                                        `Asm.qMachine a` (source level: labels, literals)
               ──C03 `Asm.sim_run`────▶ the ASSEMBLED subroutine under `qMachine a`
               ──`Asm.stepCorr_q`─────▶ `Exec.stepLoc` (`XSteps`)
               ──C04 bridge `Exec.run_of_xsteps`──▶ the fuel interpreter `Exec.run`.

`flush_end_to_end` is the chain for ONE flush, with every link proved.  `emit_correct_end_to_end`
attaches it to every flush of a host program accepted by the builder, next to the conclusion of
`emit_correct` (trace / arrays / registers / host view of `HostSem`).

What this file leaves open, each as a named hypothesis of `FlushOnExec` (Props/C05Chain2.lean discharges
the first two groups for the subroutines of the builder model and closes the step between flushes):
* `Bridge.QSafe` — at `qalloc` / `qfree` / `init` / gates / `meas` the executor does take a step
  (virtual qubit free / allocated as needed, qubit register defined).  ProtoExec has no unit module
  (it performs these instructions unconditionally).  Proved for the builder's subroutines in
  Lemmas/SdkQSafe.lean.
* `Bridge.NameInj`, `Bridge.RegsInRange`, `Asm.LabelTargets` — static, decidable properties of the
  emitted subroutine (label names separate labels; registers within 4 × 16; branch targets are
  labels).  Derived from the builder model in Lemmas/SdkEmitted.lean.
* `hX` — the assembled instructions read as `Exec.Instr` (true whenever the mnemonics are those of
  the builder and registers are in range; instance: `nonvacuous_chain`).
* the shared-memory ARRAY view is not part of `Bridge.Rel`: ProtoExec copies on `ret_arr`, the
  executor shares the list object (F25), so the two views agree exactly when no write to the array
  follows its last `ret_arr` — `ViewsOK` of `emit_correct` speaks about ProtoExec's copy.
* between flushes: a flush ends with the executor agreeing with ProtoExec outside the scratch
  registers of that flush (`RelUpTo`), and the next flush needs agreement outside ITS scratch
  registers.  The step from one to the other ("a scratch register of an earlier flush is written
  before it is read later", guaranteed by `reserved_registers` = the builder's active registers, fix
  of F42) is `scratch_dead_across_flushes` in Props/C05Chain2.lean; `emit_correct_end_to_end` here
  states the per-flush guarantee for every flush separately.
-/
import NetqasmVerif.Lemmas.SdkAsmBridge
import NetqasmVerif.Lemmas.ExecAsmBridge
import NetqasmVerif.Props.C05Asm
namespace NQ.C05
open NQ

/-- ProtoExec state `s` and executor-machine state `t` agree up to the scratch registers of the
subroutine: some source-level machine state `u` carries exactly `s` (`Bridge.Rel`) and agrees with
`t` on memory and on every register except the unnamed, unreserved `R i` -/
def RelUpTo (sub : List Sdk.PCmd) (reserved : List Reg) (s : Sdk.St) (t : Asm.State Asm.XMem) : Prop :=
  ∃ u, Bridge.Rel s u ∧ Asm.AgreeOutsideScratch Gen.numScratch (Bridge.tr sub) u t reserved

/-- `SemBridge` in relational form (a function `abs` cannot exist: the
executor state has a unit module that ProtoExec does not determine). -/
theorem semBridge_rel (a : Nat) {P : List Sdk.PCmd} (hN : Bridge.NameInj P) (hR : Bridge.RegsInRange P)
    {s s' : Sdk.St} {n n' : Nat} {t : Asm.State Asm.XMem}
    (hs : Sdk.step P (s, n) = some (s', n')) (hrel : Bridge.Rel s t) (hq : Bridge.QStepOk a P t n) :
    ∃ t', Asm.step (Asm.qMachine a) (Bridge.tr P) t n = .next t' n' ∧ Bridge.Rel s' t' :=
  Bridge.bridge_step a hN hR hs hrel hq

/-- the chain for one flush, with the source-level run of `qMachine a` and its final state `u'` exposed -/
theorem flush_chain (a : Nat) (sub : List Sdk.PCmd) (reserved : List Reg)
    (hN : Bridge.NameInj sub) (hR : Bridge.RegsInRange sub)
    (hwf : Asm.LabelTargets (Asm.qMachine a) (Bridge.tr sub))
    (A : List Instr) (hA : Asm.assemble Gen.vanillaRows Gen.excTable Gen.numScratch (Bridge.tr sub) reserved = .ok A)
    (X : List Exec.Instr) (hX : A.map (Asm.embed Gen.vanillaRows) = X.map Asm.ofExecQ)
    {s s' : Sdk.St} (hrun : Sdk.Runs sub 0 sub.length s s')
    (u t : Asm.State Asm.XMem) (hrel : Bridge.Rel s u)
    (hag : Asm.AgreeOutsideScratch Gen.numScratch (Bridge.tr sub) u t reserved)
    (hsafe : Bridge.QSafe a sub u 0)
    (S : Exec.State) (hS : S.apps a = some (Asm.conc t).ap) (hloc : S.loc (Asm.conc t).ap = Asm.conc t) :
    ∃ fuel u' t', Asm.Steps (Asm.qMachine a) (Bridge.tr sub) (u, 0) (u', sub.length) ∧ Bridge.Rel s' u' ∧
      Asm.AgreeOutsideScratch Gen.numScratch (Bridge.tr sub) u' t' reserved ∧
      (Exec.run false a X fuel S 0).s = S.put a (Asm.conc t') ∧
      (Exec.run false a X fuel S 0).out = .halted ∧ (Exec.run false a X fuel S 0).pc ≥ X.length := by
  -- C05 → source level of C03
  have hrun' : Sdk.Steps sub (s, 0) (s', sub.length) := by simpa [Sdk.Runs] using hrun
  obtain ⟨u', hsrc, hrel'⟩ := Bridge.bridge_run a hN hR hrun' u hrel hsafe
  -- C03: source → assembled
  have hP2 := Asm.assemble_embed C03.tableOk_vanilla hA
  obtain ⟨t', hasm, hag'⟩ := Asm.sim_run (Asm.setOk_qMachine a) (Asm.excCovers_qMachine a) hwf hP2 hsrc t hag
  simp only at hasm
  -- the end position is past the end of the assembled subroutine
  have hhalt : Asm.step (Asm.qMachine a) (Bridge.tr sub) u' sub.length = .halt :=
    Asm.step_halt_of_ge (by simp [Bridge.tr])
  have hend := Asm.step_halt_inv (Asm.sim_halt (mc := Asm.qMachine a) (t := t') hP2 hhalt)
  -- C03 → C04: the machine on the read-back is `Exec.stepLoc`, and `XSteps` is `Exec.run`
  rw [hX] at hasm hend
  have h0 : Asm.tpos Gen.excTable (Bridge.tr sub) 0 = 0 := by simp [Asm.tpos]
  rw [h0] at hasm
  have hx : Asm.XSteps a X (Asm.conc t, (0 : Int))
      (Asm.conc t', ((Asm.tpos Gen.excTable (Bridge.tr sub) sub.length : Nat) : Int)) :=
    Asm.xsteps_of_steps_of (Asm.stepCorr_q a) X hasm
  obtain ⟨fuel, h1, h2, h3, _⟩ := Exec.run_of_xsteps hx S hS hloc
  simp only at h1 h2 h3
  have hge : ((Asm.tpos Gen.excTable (Bridge.tr sub) sub.length : Nat) : Int) ≥ (X.length : Int) := by
    have : X.length ≤ Asm.tpos Gen.excTable (Bridge.tr sub) sub.length := by simpa using hend
    exact_mod_cast this
  refine ⟨fuel, u', t', hsrc, hrel', hag', h1, ?_, ?_⟩
  · rw [h3]; simp [Exec.restOut, hge]
  · rw [h2]; exact hge

/-- One flush, end to end.  A ProtoExec run of the proto-subroutine `sub` from its first to past
its last command is reproduced by `Exec.run` on the ASSEMBLED subroutine `X`: started in any
controller state whose view of application `a` is `conc t` with `t` agreeing with the ProtoExec
state up to scratch registers, it halts (program counter at the end, outcome `halted`) in the state
whose view is `conc t'`, and `t'` agrees with the final ProtoExec state up to scratch registers. -/
theorem flush_end_to_end (a : Nat) (sub : List Sdk.PCmd) (reserved : List Reg)
    (hN : Bridge.NameInj sub) (hR : Bridge.RegsInRange sub)
    (hwf : Asm.LabelTargets (Asm.qMachine a) (Bridge.tr sub))
    (A : List Instr) (hA : Asm.assemble Gen.vanillaRows Gen.excTable Gen.numScratch (Bridge.tr sub) reserved = .ok A)
    (X : List Exec.Instr) (hX : A.map (Asm.embed Gen.vanillaRows) = X.map Asm.ofExecQ)
    {s s' : Sdk.St} (hrun : Sdk.Runs sub 0 sub.length s s')
    (u t : Asm.State Asm.XMem) (hrel : Bridge.Rel s u)
    (hag : Asm.AgreeOutsideScratch Gen.numScratch (Bridge.tr sub) u t reserved)
    (hsafe : Bridge.QSafe a sub u 0)
    (S : Exec.State) (hS : S.apps a = some (Asm.conc t).ap) (hloc : S.loc (Asm.conc t).ap = Asm.conc t) :
    ∃ fuel t', (Exec.run false a X fuel S 0).s = S.put a (Asm.conc t') ∧
      (Exec.run false a X fuel S 0).out = .halted ∧ (Exec.run false a X fuel S 0).pc ≥ X.length ∧
      RelUpTo sub reserved s' t' := by
  obtain ⟨fuel, u', t', _, hrel', hag', h1, h2, h3⟩ :=
    flush_chain a sub reserved hN hR hwf A hA X hX hrun u t hrel hag hsafe S hS hloc
  exact ⟨fuel, t', h1, h2, h3, u', hrel', hag'⟩

/-- the per-flush guarantee as a predicate on (subroutine, ProtoExec state before, after) -/
def FlushOnExec (a : Nat) (sub : List Sdk.PCmd) (s s' : Sdk.St) : Prop :=
  ∀ (reserved : List Reg), Bridge.NameInj sub → Bridge.RegsInRange sub →
    Asm.LabelTargets (Asm.qMachine a) (Bridge.tr sub) →
    ∀ (A : List Instr), Asm.assemble Gen.vanillaRows Gen.excTable Gen.numScratch (Bridge.tr sub) reserved = .ok A →
    ∀ (X : List Exec.Instr), A.map (Asm.embed Gen.vanillaRows) = X.map Asm.ofExecQ →
    ∀ (u t : Asm.State Asm.XMem), Bridge.Rel s u →
      Asm.AgreeOutsideScratch Gen.numScratch (Bridge.tr sub) u t reserved → Bridge.QSafe a sub u 0 →
    ∀ (S : Exec.State), S.apps a = some (Asm.conc t).ap → S.loc (Asm.conc t).ap = Asm.conc t →
    ∃ fuel t', (Exec.run false a X fuel S 0).s = S.put a (Asm.conc t') ∧
      (Exec.run false a X fuel S 0).out = .halted ∧ (Exec.run false a X fuel S 0).pc ≥ X.length ∧
      RelUpTo sub reserved s' t'

/-- `Q` holds of every flush of a `RunSubs` chain -/
def AllFlushes (Q : List Sdk.PCmd → Sdk.St → Sdk.St → Prop) :
    List (Option (List Sdk.PCmd)) → Sdk.St → List Sdk.St → Prop
  | [], _, _ => True
  | none :: rest, ts, mids => AllFlushes Q rest ts mids.tail
  | some sub :: rest, ts, mids =>
    match mids with
    | ts1 :: ms => Q sub ts ts1 ∧ AllFlushes Q rest ts1 ms
    | [] => False

theorem allFlushes_of_runSubs {C : List Sdk.PCmd → Prop} {Q : List Sdk.PCmd → Sdk.St → Sdk.St → Prop}
    (hQ : ∀ sub s s', C sub → Sdk.Runs sub 0 sub.length s s' → Q sub s s') :
    ∀ (subs : List (Option (List Sdk.PCmd))) (ts : Sdk.St) (mids : List Sdk.St) (tsEnd : Sdk.St),
      (∀ sub, some sub ∈ subs → C sub) → Sdk.RunSubs subs ts mids tsEnd → AllFlushes Q subs ts mids := by
  intro subs
  induction subs with
  | nil => intro ts mids tsEnd _ _; trivial
  | cons o rest ih =>
    intro ts mids tsEnd hC h
    cases o with
    | none =>
      obtain ⟨ms, rfl, hr⟩ := h
      exact ih ts ms tsEnd (fun s hs => hC s (by simp [hs])) hr
    | some sub =>
      obtain ⟨ts1, ms, hrun, rfl, hr⟩ := h
      exact ⟨hQ sub ts ts1 (hC sub (by simp)) hrun, ih ts1 ms tsEnd (fun s hs => hC s (by simp [hs])) hr⟩

/-- For every host program accepted by the builder (`hbuild`) on
which `HostSem` is defined (`hhost`): the subroutines of its flushes run under ProtoExec to states
`mids`, the last of which has the trace, outcomes, arrays, registers and host views of `HostSem`
(this is C05 `emit_correct`), AND every one of these flushes, assembled by `assemble_subroutine` and
run by the executor `Exec.run` from a state that agrees with the ProtoExec state before the flush up
to scratch registers, halts in a state that agrees with the ProtoExec state after the flush up to
scratch registers (`FlushOnExec`; hypotheses and the between-flush step: see the header). -/
theorem emit_correct_end_to_end (a : Nat) (segs : List (List Sdk.Host))
    (hwf : ∀ ops ∈ segs, ∀ op ∈ ops, Sdk.TopOK op)
    (hbuild : (Sdk.run (Sdk.flat segs)).err = none) (fuel : Nat) (outs : List Int) (hsEnd : Sdk.HSt)
    (hhost : (Sdk.hrun fuel outs (Sdk.flat segs)).final = some hsEnd) :
    ∃ mids tsEnd, Sdk.RunSubs (Sdk.run (Sdk.flat segs)).subs (Sdk.St.init outs) mids tsEnd ∧
      tsEnd.trace = hsEnd.trace ∧ tsEnd.outcomes = hsEnd.outcomes ∧ tsEnd.arrs = hsEnd.arrs ∧
      (∀ h v, hsEnd.hregs h = some v →
        ∃ r b, (Sdk.run (Sdk.flat segs)).mem.handles[h]? = some (r, b) ∧ tsEnd.regs r = some v) ∧
      Sdk.ViewsOK fuel Sdk.Mem.init 0 0 (Sdk.HSt.init outs) segs mids ∧
      AllFlushes (FlushOnExec a) (Sdk.run (Sdk.flat segs)).subs (Sdk.St.init outs) mids := by
  obtain ⟨mids, tsEnd, hrs, h1, h2, h3, h4, h5⟩ := emit_correct segs hwf hbuild fuel outs hsEnd hhost
  refine ⟨mids, tsEnd, hrs, h1, h2, h3, h4, h5, ?_⟩
  refine allFlushes_of_runSubs (C := fun _ => True) ?_ _ _ _ _ (fun _ _ => trivial) hrs
  intro sub s s' _ hrun reserved hN hR hlt A hA X hX u t hrel hag hsafe S hS hloc
  exact flush_end_to_end a sub reserved hN hR hlt A hA X hX hrun u t hrel hag hsafe S hS hloc

/-! ### non-vacuity: a subroutine with allocation, a gate, a measurement, a branch and a label -/

def demoSub : List Sdk.PCmd :=
  [.instr .set [.reg Sdk.Q0, .lit 0], .instr .qalloc [.reg Sdk.Q0], .instr .init [.reg Sdk.Q0],
   .instr (.gate 3) [.reg Sdk.Q0], .instr .meas [.reg Sdk.Q0, .reg (Sdk.M 0)], .instr .qfree [.reg Sdk.Q0],
   .instr .bez [.reg (Sdk.M 0), .lab ⟨0, 0⟩], .instr .set [.reg (Sdk.R 1), .lit 5], .label ⟨0, 0⟩,
   .instr .retReg [.reg (Sdk.M 0)]]

def demoX : List Exec.Instr :=
  [.set ⟨2, 0⟩ 0, .qalloc ⟨2, 0⟩, .q1 "init" ⟨2, 0⟩, .q1 "h" ⟨2, 0⟩, .meas ⟨2, 0⟩ ⟨3, 0⟩, .qfree ⟨2, 0⟩,
   .bez ⟨3, 0⟩ 8, .set ⟨0, 1⟩ 5, .retReg ⟨3, 0⟩]

/-- the hypotheses `hA`/`hX` of `flush_end_to_end` hold for `demoSub`: it assembles, and the assembled
instructions are the executor program `demoX` (the branch lands on the `ret_reg` after the label) -/
theorem nonvacuous_chain :
    (Asm.assemble Gen.vanillaRows Gen.excTable Gen.numScratch (Bridge.tr demoSub)).toOption.map
      (fun A => A.map (Asm.embed Gen.vanillaRows)) = some (demoX.map Asm.ofExecQ) := by decide +kernel

/-- … and ProtoExec runs it from the initial state to past its last command (outcome 0: the branch
is taken) -/
theorem nonvacuous_chain_run :
    ((Sdk.runFuel demoSub 9 (Sdk.St.init [0], 0)).2 == demoSub.length) = true := by decide +kernel

end NQ.C05
