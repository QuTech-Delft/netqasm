/-
C09 ↔ executor model: the allocation-relevant events of C09's model are exactly the unit-module
effects of the executor (`Model/Exec.lean`, C04/C13), so "the pending events run fault-free"
(`QM.Inv`, proved for every `good` history in Props/C09.lean) means "the executor raises no
allocation fault on what the SDK emitted" — the content of the `QSafe` / `QStepOk` hypothesis of the
end-to-end chain (Props/C05Chain.lean) as far as allocation is concerned.

What is and is not claimed:
* the events are executed as straight-line instruction sequences (`Bridge9.execEv`: `set Q0 v;
  qalloc Q0`, …) and environment actions (`reserve; keep`), i.e. the UNROLLED run of the
  subroutine, which is what C09's model produces (tied to the real pipeline by the C09
  correspondence); `qalloc_step_ok` / `qfree_step_ok` give the same fact per instruction for any
  register, program counter and mode — the form a `QStepOk` obligation has at `qalloc` / `qfree`;
* gates and measurements never fault in the base executor (its hooks only record); the check that a
  gate addresses an allocated qubit is the back end's `_get_position`, modelled by
  `Bridge9.position`;
* the composition with the chain's `Bridge.QSafe a P t n` for the proto-subroutines `P` of
  `Model/Sdk.lean` is NOT done here: that model covers a one-qubit fragment with its own emitted
  code, and relating its `P` to the event list needs the assembler/ProtoExec side of the chain.
-/
import NetqasmVerif.Lemmas.QubitExecBridge
namespace NQ.C09Bridge
open NQ NQ.Exec NQ.Bridge9

/-- **event_step_refines_exec** (`Bridge9.event_step_refines_exec` with `Refines` written out): from
related states, an event that succeeds in C09's model raises nothing on the executor and the states
stay related; an event that faults in the model faults on the executor, with the matching kind -/
theorem event_step_refines_exec (s : State) (a m : Nat) (u : List Nat) (hI : Exec.Inv s)
    (hA : Abs s a m u) (e : QM.Ev) :
    (∀ u', QM.step m u e = .ok u' → (execEv a s e).2 = none ∧ Abs (execEv a s e).1 a m u') ∧
    (∀ f, QM.step m u e = .error f → ∃ x, (execEv a s e).2 = some x ∧ kind x = some f) :=
  Bridge9.event_step_refines_exec hI hA e

/-- an event succeeds in C09's model iff the executor raises nothing on it -/
theorem event_ok_iff_exec_ok (s : State) (a m : Nat) (u : List Nat) (hI : Exec.Inv s)
    (hA : Abs s a m u) (e : QM.Ev) :
    (∃ u', QM.step m u e = .ok u') ↔ (execEv a s e).2 = none := by
  have h := Bridge9.event_step_refines_exec hI hA e
  constructor
  · rintro ⟨u', hu⟩; exact (h.1 u' hu).1
  · intro hn
    cases hs : QM.step m u e with
    | ok u' => exact ⟨u', rfl⟩
    | error f =>
      obtain ⟨x, hx, _⟩ := h.2 f hs
      rw [hn] at hx; cases hx

/-- C13's invariant of the controller is kept by every event -/
theorem exec_inv_preserved (s : State) (a : Nat) (hI : Exec.Inv s) (e : QM.Ev) :
    Exec.Inv (execEv a s e).1 := inv_execEv a hI e

/-- **events_safe_on_exec**: if the events run in C09's model, the executor raises no allocation
fault on the corresponding instruction sequence and ends with exactly that allocated set -/
theorem events_safe_on_exec (a m : Nat) (evs : List QM.Ev) (s : State) (u u' : List Nat)
    (hI : Exec.Inv s) (hA : Abs s a m u) (h : QM.run m u evs = .ok u') :
    (execEvs a s evs).2 = none ∧ Abs (execEvs a s evs).1 a m u' ∧ Exec.Inv (execEvs a s evs).1 :=
  (run_refines evs s u hI hA).1 u' h

/-- … and a fault of the model is a fault of the executor, of the matching kind -/
theorem events_fault_on_exec (a m : Nat) (evs : List QM.Ev) (s : State) (u : List Nat) (f : QM.Fault)
    (hI : Exec.Inv s) (hA : Abs s a m u) (h : QM.run m u evs = .error f) :
    ∃ x, (execEvs a s evs).2 = some x ∧ kind x = some f :=
  (run_refines evs s u hI hA).2 f h

/-- one flush: in any model state satisfying C09's invariant, on any related controller state,
the flushed subroutine raises no allocation fault and leaves the controller related to the model
state after the flush -/
theorem flush_qsafe (c : QM.Cfg) (st : QM.St) (s : State) (a : Nat) (hi : QM.Inv c st) (hR : Rel c st s a) :
    (execEvs a s st.evs).2 = none ∧ Rel c (QM.flushSt c st).1 (execEvs a s st.evs).1 a :=
  flush_safe hi hR

/-- **sdk_programs_qsafe**: for EVERY history satisfying `good` (any length; `close` excluded — it
ends the application), started on a controller where the application has just been registered,
every flushed subroutine runs on the executor without allocation fault, and model and controller
stay related (same unit-module size, same allocated set, C13's invariant) -/
theorem sdk_programs_qsafe (c : QM.Cfg) (ops : List QM.Op) (s0 : State) (a : Nat)
    (hI : Exec.Inv s0) (ha : a ∉ s0.registry)
    (hg : QM.good c QM.St.init ops = true) (hc : noClose ops = true) :
    let r := execHist a c (QM.St.init, (initApp s0 a c.maxq).1) ops
    r.2 = none ∧ Rel c r.1.1 r.1.2 a ∧ QM.Inv c r.1.1 :=
  hist_safe ops QM.St.init _ (QM.inv_init c) (rel_init c s0 a hI ha) hg hc

/-- per instruction, for any register / program counter / mode: the `QStepOk` facts at `qalloc`
and `qfree` -/
theorem qalloc_step_ok (hw : Bool) (a : Nat) (l : Loc) (r : XReg) (v m : Nat) (u u' : List Nat) (pc : Int)
    (hr : l.ap.regs r = some (v : Int)) (hU : AbsU l.ap.unit m u) (h : QM.step m u (.alloc v) = .ok u') :
    ∃ l', stepLoc hw a (.qalloc r) l pc = .ok l' (pc + 1) ∧ AbsU l'.ap.unit m u' ∧ l'.ap.regs = l.ap.regs := by
  obtain ⟨hv, hm, rfl⟩ := QM.step_alloc_inv h
  exact ⟨{ l with ap := { l.ap with unit := l.ap.unit.set v (some (firstUnused l.used)) },
                   used := sadd (firstUnused l.used) l.used },
    by rw [stepLoc_qalloc hw a pc hr hU, if_neg (Nat.not_le_of_lt hv), if_neg hm],
    absU_set_some hU hv, rfl⟩

theorem qfree_step_ok (hw : Bool) (a : Nat) (l : Loc) (r : XReg) (v m : Nat) (u u' : List Nat) (pc : Int)
    (hr : l.ap.regs r = some (v : Int)) (hU : AbsU l.ap.unit m u)
    (hused : ∀ q, l.ap.unit[v]?.join = some q → q ∈ l.used) (h : QM.step m u (.free v) = .ok u') :
    ∃ l', stepLoc hw a (.qfree r) l pc = .ok l' (pc + 1) ∧ AbsU l'.ap.unit m u' ∧ l'.ap.regs = l.ap.regs := by
  obtain ⟨hv, hm, rfl⟩ := QM.step_free_inv h
  obtain ⟨q, hq⟩ := absU_mem hU hm
  refine ⟨{ l with ap := { l.ap with unit := l.ap.unit.set v none }, used := srem q l.used }, ?_,
    absU_set_none hU hv, rfl⟩
  rw [stepLoc_qfree hw a pc hr hU.1, if_neg (Nat.not_le_of_lt hv)]
  simp only [hq, if_pos (hused q hq)]

/-- non-vacuity: a history with NV relocation, keep and a context block, executed on the executor
model from a fresh controller: no fault, and the controller ends with the model's allocated set -/
example :
    (execHist 0 ⟨true, false, 5⟩ (QM.St.init, (initApp init0 0 5).1)
      [.new, .new, .meas 1 false, .flush, .keep true 1, .ctx false 2 false ⟨1, .meas⟩, .flush]).2 = none ∧
    allocated (execHist 0 ⟨true, false, 5⟩ (QM.St.init, (initApp init0 0 5).1)
      [.new, .new, .meas 1 false, .flush, .keep true 1, .ctx false 2 false ⟨1, .meas⟩, .flush]).1.2 0 = [1, 2] := by
  decide +kernel

/-- … and a model fault is an executor fault: F30's witness faults on the executor with
`notAlloc` -/
example :
    ((execHist 0 ⟨true, true, 5⟩ (QM.St.init, (initApp init0 0 5).1)
      [.new, .new, .new, .meas 0 false, .gate2 1 2, .flush]).2.bind kind) = some .notAlloc := by decide +kernel

end NQ.C09Bridge
