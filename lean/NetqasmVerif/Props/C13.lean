/-
C13 — Qubit memory is safe and applications are isolated on the controller.

Model: `Model/Exec.lean` (multi-application layer: `initApp`, `stopApp`, `step`/`run` per
application, `reserveQ`, `keepResp`/`keepAt`), tied to the real `Executor`/`QNodeController` by the
`exec` correspondence stream and by the model-free invariant oracle of `checks/c13.py`.
The model is of the code *after* the repairs of F16 (stop releases the shared-memory key) and F27
(a second registration of a running id is rejected before any state is touched).
-/
import NetqasmVerif.Lemmas.ExecInvStep
namespace NQ.C13
open NQ.Exec

/-- The invariant (`NQ.Exec.Inv`):
* `inj`      — the map (application, virtual qubit) ↦ physical qubit is injective, across all applications;
* `used_iff` — a physical qubit is marked used iff it is mapped or held by the link layer (`reserved`);
* `disj`     — a qubit held by the link layer is not mapped;
* `reg`      — every registered application owns its shared-memory key. -/
abbrev Inv := Exec.Inv

/-- Environment hypothesis, stated on the action: a keep-response delivers a physical qubit that
the link layer obtained from this controller (through `reserve`) and has not delivered yet. -/
def envOk (s : State) : Op → Bool
  | .keep _ _ p => decide (p ∈ s.reserved)
  | .keepAt _ _ p => decide (p ∈ s.reserved)
  | _ => true

abbrev EnvOk (s : State) (op : Op) : Prop := envOk s op = true

theorem inv_init : Inv init0 := by
  constructor <;> simp [init0, phys, unitOf, physU]

theorem apply_exec (s : State) (hw a i pc) : apply s (.exec hw a i pc) = (step hw a i s pc).st := by
  simp only [apply]
  cases step hw a i s pc <;> rfl

/-- every operation preserves the invariant: init/stop application, any instruction (successful or
faulting — so in particular qalloc/qfree and all classical instructions), whole subroutines with any
step bound, the link layer reserving a qubit, keep-responses (under `EnvOk`), oracle scripting. -/
theorem inv_step (s : State) (op : Op) (hI : Inv s) (he : EnvOk s op) : Inv (apply s op) := by
  cases op with
  | init a n => exact inv_initApp' s a n hI
  | stop a => exact inv_stopApp' s a hI
  | exec hw a i pc => rw [apply_exec]; exact Exec.inv_step hw a i s pc hI
  | sub hw a prog fuel => exact inv_run hw a prog fuel s 0 hI
  | reserve => exact inv_reserveQ s hI
  | keep a v p => exact inv_keepResp s a v p hI (of_decide_eq_true he)
  | keepAt a qa p => exact inv_keepAt s a qa p hI (of_decide_eq_true he)
  | oracle os => exact inv_same hI rfl (fun _ => Iff.rfl) rfl rfl

/-- histories: the environment hypothesis along a list of operations -/
def envOkAll : State → List Op → Bool
  | _, [] => true
  | s, op :: rest => envOk s op && envOkAll (apply s op) rest

abbrev EnvOkAll (s : State) (ops : List Op) : Prop := envOkAll s ops = true

/-- the invariant holds after every history of any length -/
theorem reachable (ops : List Op) (s : State) (hI : Inv s) (he : EnvOkAll s ops) :
    Inv (ops.foldl apply s) := by
  induction ops generalizing s with
  | nil => exact hI
  | cons op rest ih =>
    have he' : envOk s op = true ∧ envOkAll (apply s op) rest = true := by
      have h2 : (envOk s op && envOkAll (apply s op) rest) = true := he
      simpa using h2
    exact ih (apply s op) (inv_step s op hI he'.1) he'.2

theorem reachable_from_init (ops : List Op) (he : EnvOkAll init0 ops) : Inv (ops.foldl apply init0) :=
  reachable ops init0 inv_init he

/-- memory safety, spelled out: in a reachable state no two allocated virtual qubits (of the same
or of different applications) share a physical qubit … -/
theorem no_sharing (s : State) (hI : Inv s) (a b va vb p : Nat) (h1 : phys s a va = some p)
    (h2 : phys s b vb = some p) : a = b ∧ va = vb := hI.inj a b va vb p h1 h2

/-- … and at quiescence (nothing held by the link layer) the set marked in use is exactly the set
currently mapped. -/
theorem used_exact (s : State) (hI : Inv s) (hq : s.reserved = []) (p : Nat) :
    p ∈ s.used ↔ ∃ a v, phys s a v = some p := by
  rw [hI.used_iff, hq]; simp

/-- in a reachable state `qfree` never hits the `set.remove` KeyError, so *every* fault is atomic
(C04.fault_atomic_reachable) -/
theorem no_usedKey (hw : Bool) (a : Nat) (i : Instr) (s s' : State) (pc : Int) (hI : Inv s) :
    step hw a i s pc ≠ .fault s' .usedKey := Exec.no_usedKey hw a i s s' pc hI

theorem run_apps_other (hw : Bool) (a : Nat) (prog : List Instr) (fuel : Nat) (s : State) (pc : Int)
    (b : Nat) (hb : b ≠ a) : (run hw a prog fuel s pc).s.apps b = s.apps b :=
  Exec.run_apps_other hw a prog fuel s pc b hb

def opApp : Op → Option Nat
  | .init a _ | .stop a | .exec _ a _ _ | .sub _ a _ _ | .keep a _ _ | .keepAt a _ _ => some a
  | .reserve | .oracle _ => none

theorem keepResp_apps_other (s : State) (a : Nat) (v : Int) (p b : Nat) (hb : b ≠ a) :
    (keepResp s a v p).1.apps b = s.apps b := by
  rcases keepResp_spec s a v p with h | ⟨h, _⟩ | ⟨ap, k, _, _, _, h⟩ <;> rw [h]
  exact upd_other _ _ _ _ hb

/-- One application's operations (registration, instructions, whole subroutines, deliveries, stop)
never change another application's registers, arrays, shared memory or unit module. -/
theorem isolation (s : State) (op : Op) (b : Nat) (hb : opApp op ≠ some b) :
    (apply s op).apps b = s.apps b := by
  have hne : ∀ a, opApp op = some a → b ≠ a := fun a h e => hb (e ▸ h)
  cases op with
  | init a n => simp only [apply, initApp]; split <;> simp [upd_other _ _ _ _ (hne a rfl)]
  | stop a => simp only [apply, stopApp]; split <;> simp [upd_other _ _ _ _ (hne a rfl)]
  | exec hw a i pc => rw [apply_exec]; exact step_apps_other hw a i s pc b (hne a rfl)
  | sub hw a prog fuel => exact run_apps_other hw a prog fuel s 0 b (hne a rfl)
  | keep a v p => exact keepResp_apps_other s a v p b (hne a rfl)
  | keepAt a qa p =>
    simp only [apply, keepAt]
    repeat' split
    all_goals first | rfl | exact keepResp_apps_other s a _ p b (hne a rfl)
  | reserve | oracle os => rfl

/-- After `stop a` (of a registered application, in a reachable state): no error, the application's
registers/arrays/shared memory/unit module are gone, every physical qubit it held is unused, the
invariant still holds, and the same id can be registered again (with any unit-module size). -/
theorem stop_releases (s : State) (a : Nat) (ap : App) (hI : Inv s) (h : s.apps a = some ap) :
    (stopApp s a).2 = none ∧ (stopApp s a).1.apps a = none ∧
    (∀ p ∈ mapped ap.unit, p ∉ (stopApp s a).1.used) ∧ Inv (stopApp s a).1 ∧
    ∀ n, (initApp (stopApp s a).1 a n).2 = none ∧
      ((initApp (stopApp s a).1 a n).1.apps a).map (·.unit) = some (List.replicate n none) := by
  refine ⟨?_, ?_, ?_, inv_stopApp' s a hI, ?_⟩
  · simp [stopApp, h]
  · simp [stopApp, h]
  · intro p hp; simp [stopApp, h, List.mem_filter, hp]
  · intro n
    have hnr : a ∉ (stopApp s a).1.registry := by simp [stopApp, h, List.mem_filter]
    simp [initApp, hnr, freshApp]

/-- physical qubits of *other* applications stay in use across a stop -/
theorem stop_keeps_others (s : State) (a b v p : Nat) (ap : App) (hI : Inv s) (h : s.apps a = some ap)
    (hb : b ≠ a) (hp : phys s b v = some p) : p ∈ (stopApp s a).1.used ∧ phys (stopApp s a).1 b v = some p := by
  have hu := unitOf_of_apps h
  constructor
  · simp only [stopApp, h, List.mem_filter]
    refine ⟨(hI.used_iff p).2 (Or.inl ⟨b, v, hp⟩), ?_⟩
    simp only [Bool.not_eq_true', List.contains_eq_mem, decide_eq_false_iff_not]
    rw [mem_mapped]
    rintro ⟨w, hw⟩
    have : phys s a w = some p := (phys_of_unit hu w).trans hw
    exact hb (hI.inj b a v w p hp this).1
  · simp only [stopApp, h]
    simp only [phys, unitOf] at hp ⊢
    simpa [upd_other _ _ _ _ hb] using hp

/-- a rejected operation leaves the state unchanged: second registration of a running id (F27),
stop of an unknown id -/
theorem rejected_unchanged (s : State) (a n : Nat) :
    ((initApp s a n).2 ≠ none → (initApp s a n).1 = s) ∧ ((stopApp s a).2 ≠ none → (stopApp s a).1 = s) := by
  constructor
  · unfold initApp; split <;> simp
  · unfold stopApp; split <;> simp

/-- a running application cannot be registered twice -/
theorem double_init_rejected (s : State) (a n : Nat) (hI : Inv s) (h : s.apps a ≠ none) :
    (initApp s a n).2 = some .alreadyReg ∧ (initApp s a n).1 = s := by
  have : a ∈ s.registry := hI.reg a (by simpa [unitOf] using h)
  simp [initApp, this]

/-- allocation picks the smallest unused physical qubit, and it is unused -/
theorem alloc_fresh (l : List Nat) : firstUnused l ∉ l ∧ ∀ q, q < firstUnused l → q ∈ l :=
  ⟨firstUnused_not_mem l, fun q => (firstUnusedFrom_spec l.length l 0 (Nat.le_refl _)).2.2 q (Nat.zero_le _)⟩

/-! ## Subroutines of several applications in flight at once

`execute_subroutine` is a generator; the runtime may start a subroutine of one application while
subroutines of others are suspended and resume them in any order.  `Exec.tick` advances one
in-flight subroutine by one instruction (the finest switching granularity, which includes every
yield point of the executor itself); a history is a list of `IOp`s: sequential operations,
`spawn`, `tick`.  Each tick is a step of ONE application against the shared controller state, so
the per-step theorems compose over every schedule. -/

theorem inv_tick (hw : Bool) (sys : Sys) (i : Nat) (hI : Inv sys.s) : Inv (tick hw sys i).s := by
  unfold tick
  split
  · exact hI
  · split
    · exact hI
    · exact inv_run hw _ _ 1 sys.s _ hI

/-- resuming a subroutine changes neither the application nor the code of any in-flight subroutine -/
theorem tick_subs_app (hw : Bool) (sys : Sys) (i j : Nat) :
    ((tick hw sys i).subs[j]?).map (fun sb => (sb.a, sb.prog)) = (sys.subs[j]?).map (fun sb => (sb.a, sb.prog)) := by
  unfold tick
  split
  · rfl
  · rename_i sb hsb
    split
    · rfl
    · simp only [List.getElem?_set]
      split
      · rename_i hij
        subst hij
        split
        · simp [hsb]
        · rename_i hlt
          have := List.getElem?_eq_none (Nat.le_of_not_lt hlt)
          simp [this] at hsb
      · rfl

/-- a tick of a subroutine that does not belong to application `b` leaves `b` unchanged -/
theorem tick_isolation (hw : Bool) (sys : Sys) (i b : Nat)
    (h : ∀ sb, sys.subs[i]? = some sb → sb.a ≠ b) : (tick hw sys i).s.apps b = sys.s.apps b := by
  unfold tick
  split
  · rfl
  · rename_i sb hsb
    split
    · rfl
    · exact Exec.run_apps_other hw sb.a sb.prog 1 sys.s sb.pc b (fun e => h sb hsb e.symm)

/-- … hence so does every schedule that resumes only subroutines of other applications, however
they are interleaved -/
theorem schedule_isolation (hw : Bool) (sched : List Nat) (sys : Sys) (b : Nat)
    (h : ∀ i ∈ sched, ∀ sb, sys.subs[i]? = some sb → sb.a ≠ b) :
    (sched.foldl (tick hw) sys).s.apps b = sys.s.apps b := by
  induction sched generalizing sys with
  | nil => rfl
  | cons i rest ih =>
    simp only [List.foldl_cons]
    rw [ih (tick hw sys i)]
    · exact tick_isolation hw sys i b (h i (by simp))
    · intro j hj sb hsb
      have h1 := tick_subs_app hw sys i j
      rw [hsb] at h1
      rcases h2 : sys.subs[j]? with _ | sb0
      · simp [h2] at h1
      · simp only [h2, Option.map_some, Option.some.injEq, Prod.mk.injEq] at h1
        have := h j (by simp [hj]) sb0 h2
        rw [h1.1]; exact this

def ienvOk (sys : Sys) : IOp → Bool
  | .base op => envOk sys.s op
  | _ => true

def ienvOkAll : Sys → List IOp → Bool
  | _, [] => true
  | sys, op :: rest => ienvOk sys op && ienvOkAll (iapply sys op) rest

theorem inv_istep (sys : Sys) (op : IOp) (hI : Inv sys.s) (he : ienvOk sys op = true) :
    Inv (iapply sys op).s := by
  cases op with
  | base op => exact inv_step sys.s op hI he
  | spawn a prog => exact hI
  | tick hw i => exact inv_tick hw sys i hI

/-- the invariant holds after every history in which subroutines of several applications are in
flight simultaneously and are advanced in an arbitrary order -/
theorem reachable_interleaved (iops : List IOp) (sys : Sys) (hI : Inv sys.s)
    (he : ienvOkAll sys iops = true) : Inv (iops.foldl iapply sys).s := by
  induction iops generalizing sys with
  | nil => exact hI
  | cons op rest ih =>
    have h2 : (ienvOk sys op && ienvOkAll (iapply sys op) rest) = true := he
    have he' : ienvOk sys op = true ∧ ienvOkAll (iapply sys op) rest = true := by simpa using h2
    exact ih (iapply sys op) (inv_istep sys op hI he'.1) he'.2

def iopApp (sys : Sys) : IOp → Option Nat
  | .base op => opApp op
  | .spawn _ _ => none
  | .tick _ i => (sys.subs[i]?).map (·.a)

theorem isolation_interleaved (sys : Sys) (op : IOp) (b : Nat) (hb : iopApp sys op ≠ some b) :
    (iapply sys op).s.apps b = sys.s.apps b := by
  cases op with
  | base op => exact isolation sys.s op b hb
  | spawn a prog => rfl
  | tick hw i =>
    apply tick_isolation
    intro sb hsb e
    apply hb
    simp [iopApp, hsb, e]

/-- dropping a suspended subroutine changes nothing of the controller state … -/
theorem abort_state (sys : Sys) (i : Nat) : (abort sys i).s = sys.s := by
  unfold abort; split <;> rfl

/-- … so the invariant survives an abort between two instructions, -/
theorem inv_abort (sys : Sys) (i : Nat) (hI : Inv sys.s) : Inv (abort sys i).s := by
  rw [abort_state]; exact hI

/-- and an abort at the yield point inside the next instruction (`qfree`'s reset hook): the mapping
and the used set were updated together before that yield, so used = mapped ∪ reserved still holds
and a later `stop`/allocation sees a consistent pool. -/
theorem inv_abortMid (hw : Bool) (sys : Sys) (i : Nat) (hI : Inv sys.s) : Inv (abortMid hw sys i).s := by
  unfold abortMid; rw [abort_state]; exact inv_tick hw sys i hI

/-- `qfree` is atomic with respect to (unit module, used): in the state any observer can see after
the instruction started, the freed physical qubit is neither mapped by the slot nor marked used -/
theorem qfree_atomic (hw a l l' pc pc' r) (h : stepLoc hw a (.qfree r) l pc = .ok l' pc') :
    ∃ p q, l.ap.unit[p]?.join = some q ∧ l'.ap.unit = l.ap.unit.set p none ∧ q ∉ l'.used := by
  obtain ⟨p, q, hq, _, h1, h2⟩ := (stepLoc_ok h).2.2.2
  exact ⟨p, q, hq, h1, by simp [h2, mem_srem]⟩

/-- a history may continue after an abort: a history, then `abortMid` of one subroutine, then a second
history (`inv_abortMid` between two uses of `reachable_interleaved`; apply again for further aborts) -/
theorem reachable_with_aborts (sys : Sys) (hI : Inv sys.s) (iops : List IOp)
    (he : ienvOkAll sys iops = true) (hw : Bool) (i : Nat) (iops' : List IOp)
    (he' : ienvOkAll (abortMid hw (iops.foldl iapply sys) i) iops' = true) :
    Inv (iops'.foldl iapply (abortMid hw (iops.foldl iapply sys) i)).s :=
  reachable_interleaved iops' _ (inv_abortMid hw _ i (reachable_interleaved iops sys hI he)) he'

/-- Several executors in one process: a step of executor `k` leaves every other executor's state
unchanged.  This is true by construction — the model has NO component shared between executors —
and is exactly what the correspondence stream checks of the real class (each real `Executor`
instance is compared with its own independent model copy while the instances are advanced
interleaved): any process-wide shared table in the code shows up as a disagreement. -/
theorem executors_independent (m : List Sys) (k j : Nat) (op : IOp) (h : j ≠ k) :
    (mapply m k op)[j]? = m[j]? := by
  unfold mapply
  split
  · rfl
  · rw [List.getElem?_set]
    simp [Ne.symm h]

/-- every executor keeps its own invariant -/
theorem inv_mapply (m : List Sys) (k : Nat) (op : IOp) (hI : ∀ sys ∈ m, Inv sys.s)
    (he : ∀ sys, m[k]? = some sys → ienvOk sys op = true) : ∀ sys ∈ mapply m k op, Inv sys.s := by
  unfold mapply
  split
  · exact hI
  · rename_i sys hk
    intro sys' hs'
    rcases List.mem_or_eq_of_mem_set hs' with h | h
    · exact hI sys' h
    · subst h
      exact inv_istep sys op (hI sys (List.mem_of_getElem? hk)) (he sys hk)

/-- a keep response whose virtual qubit is still allocated is parked: NOTHING changes — in particular
its physical qubit is not marked in use by the executor -/
theorem keepResp_parked_unchanged (s : State) (a : Nat) (ap : App) (v : Int) (p : Nat)
    (hap : s.apps a = some ap) (h0 : 0 ≤ v) (h1 : v < ap.unit.length)
    (hbusy : (ap.unit[v.toNat]?.join).isSome = true) : keepResp s a v p = (s, none) := by
  unfold keepResp
  simp only [hap]
  rw [if_pos ⟨h0, h1, hbusy⟩]

/-- histories WITHOUT pre-reservation (a stub network stack): the delivered physical qubit is any id
that is unused at the moment the response is handled.  A response that is handled successfully (or
parked) preserves the invariant; used stays exactly mapped ∪ reserved. -/
theorem inv_keepResp_fresh (s : State) (a : Nat) (v : Int) (p : Nat) (hI : Inv s) (hp : p ∉ s.used)
    (hok : (keepResp s a v p).2 = none) : Inv (keepResp s a v p).1 := by
  rcases keepResp_spec s a v p with h | ⟨_, h⟩ | ⟨ap, k, hap, hk, hn, h⟩
  · rw [h]; exact hI
  · exact absurd hok h
  · rw [h]
    have hu := unitOf_of_apps hap
    refine inv_alloc (q := p) hI hu hk hn (.inl hp) (unitOf_upd_apps ..) ?_ ?_ rfl
    · intro x; simp [mem_sadd]
    · intro x; simp [List.mem_filter]

/-! ## Non-vacuity: a concrete history with two applications, allocation, delivery, stop, re-registration -/

def q0 : XReg := ⟨2, 0⟩

def demoOps : List Op :=
  [.init 0 2, .init 1 1, .sub false 0 [.set q0 0, .qalloc q0] 10, .sub false 1 [.set q0 0, .qalloc q0] 10,
   .reserve, .keep 0 1 2, .stop 1, .init 1 3]

example : EnvOkAll init0 demoOps := by decide +kernel

example : phys (demoOps.foldl apply init0) 0 0 = some 0 ∧ phys (demoOps.foldl apply init0) 0 1 = some 2
    ∧ phys (demoOps.foldl apply init0) 1 0 = none
    ∧ (demoOps.foldl apply init0).used = [2, 0] ∧ (demoOps.foldl apply init0).reserved = [] := by decide +kernel

example : Inv (demoOps.foldl apply init0) := reachable_from_init demoOps (by decide +kernel)

/-- without the environment hypothesis the invariant can be broken: delivering a physical qubit that
is already mapped (so the hypothesis of `inv_step` for keep-responses is necessary) -/
example : let s := ([.init 0 2, .sub false 0 [.set q0 0, .qalloc q0] 10, .keep 0 1 0] : List Op).foldl apply init0
    phys s 0 0 = some 0 ∧ phys s 0 1 = some 0 := by decide +kernel

def r1 : XReg := ⟨0, 1⟩

/-- an interleaving: app 0 and app 1 both in flight, app 0 resumed while app 1 is suspended — app 1's
registers are untouched and app 0's write lands in app 0 -/
def demoIOps : List IOp :=
  [.base (.init 0 2), .base (.init 1 2), .spawn 0 [.set q0 0, .qalloc q0, .set r1 42],
   .spawn 1 [.set r1 7, .set q0 0, .qalloc q0], .tick false 0, .tick false 1, .tick false 0, .tick false 1,
   .tick false 0, .tick false 1]

example : let sys := demoIOps.foldl iapply sys0
    (sys.s.apps 0).bind (·.regs r1) = some 42 ∧ (sys.s.apps 1).bind (·.regs r1) = some 7 ∧
    phys sys.s 0 0 = some 0 ∧ phys sys.s 1 0 = some 1 := by decide +kernel

example : Inv (demoIOps.foldl iapply sys0).s := reachable_interleaved demoIOps sys0 inv_init (by decide +kernel)

end NQ.C13
