/-
C14 — Compiling never runs out of registers because of finished operations.

Model: `Model/Sdk.lean` (`emit`, `flush`, `runProg` mirror the SDK builder / memory manager of
/repo WITH the `fix:` commits for F17: the temporary of a unary condition on a Future, the loop
register of `loop_until` and the temporary of its exit condition are released).
The tie to the code is the syntactic correspondence stream of `checks/c14.py` / `checks/c05.py`.

Main results (all for arbitrary nesting, arbitrary `Mem`, no size bound): `balanced` (a completed operation
gives back every register it takes) and `depth_bound` (how many it needs in between) give `long_run_compiles`,
the closed form of the property; `temps_disjoint` / `temps_disjoint_code` (a temporary never collides with a
live register); `epr_sequence_compiles` (EPR operations, abstracted to the register events recorded from the
real builder, Gen/EprRegs.lean); `meas_sequence_compiles` (the M bank: at most 16 register outcomes between
two flushes, `MeasBudget`).
-/
import NetqasmVerif.Lemmas.Sdk
import NetqasmVerif.Lemmas.SdkWrites
import NetqasmVerif.Props.EprRegsObligations
import NetqasmVerif.Lemmas.SdkLack
import NetqasmVerif.Lemmas.SdkSimFlush
namespace NQ.C14
open NQ.Sdk

/-- For every completed host operation and every memory-manager state, compiling the
operation leaves the active-register set exactly as it was. -/
theorem balanced (op : Host) (m m' : Mem) (cs : List PCmd)
    (hc : Completed op) (h : emit m op = .ok (m', cs)) : m'.active = m.active :=
  emit_active op m m' cs hc h

theorem flush_balanced (m m' : Mem) (pend : List PCmd) (sub : Option (List PCmd))
    (h : flush m pend = .ok (m', sub)) : m'.active = m.active := flush_active h

/-- `new_register` is the one statement that is meant to keep a register: exactly one. -/
theorem newReg_takes_one (m m' : Mem) (v : Int) (cs : List PCmd)
    (h : emit m (.newReg v) = .ok (m', cs)) :
    ∃ i, m.active.getD i true = false ∧ m'.active = m.active.set i true := emit_newReg_active h

/-- "`op` does not run out of registers when compiled from register state `a`" (whatever the rest
of the memory manager looks like). -/
def RegOk (a : List Bool) (op : Host) : Prop := ∀ m : Mem, m.active = a → NoReg (emit m op)

/-- `runProg` reports the error `bad` at no step when some invariant `I` of the manager state, the pending
commands and the rest of the program rules `bad` out for the next operation or flush and is kept by its
successful run. `sequence_compiles` (R registers) and `meas_sequence_compiles` (M registers) are instances. -/
theorem runProg_avoids {bad : BuildError} {I : Mem → List PCmd → List Top → Prop}
    (hop : ∀ {m pend h rest}, I m pend (.op h :: rest) → (∀ e, emit m h = .error e → e ≠ bad) ∧
      ∀ m1 cs, emit m h = .ok (m1, cs) → I m1 (pend ++ cs) rest)
    (hfl : ∀ {m pend rest}, I m pend (.flush :: rest) → (∀ e, flush m pend = .error e → e ≠ bad) ∧
      ∀ m1 sub, flush m pend = .ok (m1, sub) → I m1 [] rest) :
    ∀ (p : List Top) (m : Mem) (pend : List PCmd) (step : Nat) (acc : RunOut), I m pend p →
      (∀ st, acc.err ≠ some (st, bad)) → ∀ st, (runProg m pend step acc p).err ≠ some (st, bad) := by
  intro p
  induction p with
  | nil => intro m pend step acc _ hacc st; exact hacc st
  | cons t rest ih =>
    intro m pend step acc hI hacc st
    cases t with
    | op h =>
      simp only [runProg]
      split
      · rename_i e he
        intro hc
        simp only [Option.some.injEq, Prod.mk.injEq] at hc
        exact (hop hI).1 e he hc.2
      · rename_i m1 cs h1
        exact ih _ _ _ _ ((hop hI).2 _ _ h1) (by exact hacc) st
    | flush =>
      simp only [runProg]
      split
      · rename_i e he
        intro hc
        simp only [Option.some.injEq, Prod.mk.injEq] at hc
        exact (hfl hI).1 e he hc.2
      · rename_i m1 sub h1
        exact ih _ _ _ _ ((hfl hI).2 _ _ h1) (by exact hacc) st

/-- A host program = any list of completed operations with flushes anywhere.
If each single operation compiles (register-wise) from the initial register state and one register
is free for the array-initialisation loop of a flush, then the whole program — whatever its length
and flush period — never raises "could not find an available loop register". -/
theorem sequence_compiles (p : List Top) :
    ∀ (m : Mem) (pend : List PCmd) (step : Nat) (acc : RunOut),
    0 < free m.active →
    (∀ op, Top.op op ∈ p → Completed op ∧ RegOk m.active op) →
    (∀ st, acc.err ≠ some (st, .noRegister)) →
    ∀ st, (runProg m pend step acc p).err ≠ some (st, .noRegister) := by
  intro m pend step acc hfree hops
  refine runProg_avoids (I := fun m _ p => 0 < free m.active ∧
    ∀ op, Top.op op ∈ p → Completed op ∧ RegOk m.active op) ?_ ?_ p m pend step acc ⟨hfree, hops⟩
  · intro m pend h rest ⟨hfree, hops⟩
    have ⟨hc, hok⟩ := hops h (List.mem_cons_self ..)
    refine ⟨hok m rfl, fun m1 cs h1 => ?_⟩
    rw [emit_active h m m1 cs hc h1]
    exact ⟨hfree, fun op hm => hops op (List.mem_cons_of_mem _ hm)⟩
  · intro m pend rest ⟨hfree, hops⟩
    refine ⟨flush_noReg m pend hfree, fun m1 sub h1 => ?_⟩
    rw [flush_active h1]
    exact ⟨hfree, fun op hm => hops op (List.mem_cons_of_mem _ hm)⟩

/-- The registers an operation needs are a function `need` of the operation
alone (its open nesting): with that many free registers it never runs out. -/
theorem compiles_of_need (op : Host) (m : Mem) (hc : Completed op) (h : need op ≤ free m.active) :
    NoReg (emit m op) := emit_noReg op m hc h

/-- nesting depth: number of enclosing loop-like operations (each holds one register) -/
def depth : Host → Nat
  | .seq a b => max (depth a) (depth b)
  | .ifc _ _ _ _ body => depth body
  | .loop _ _ _ _ body => 1 + depth body
  | .loopBody _ _ _ _ body => 1 + depth body
  | .foreach _ _ body => 1 + depth body
  | .loopUntil _ body _ _ cl => 1 + max (depth body) (depth cl)
  | .tryUntil _ body => depth body
  | _ => 0

def Val.fdepth : Val → Nat
  | .fut f => f.depth
  | _ => 0

/-- deepest future-indexed future mentioned anywhere in the operation -/
def fdepth : Host → Nat
  | .seq a b => max (fdepth a) (fdepth b)
  | .qop _ (.fut f) => f.depth
  | .addF f o _ => max f.depth (Val.fdepth o)
  | .addR _ o _ => Val.fdepth o
  | .ifc _ _ _ _ body => fdepth body
  | .loop _ _ _ _ body => fdepth body
  | .loopBody _ _ _ _ body => fdepth body
  | .foreach _ _ body => fdepth body
  | .loopUntil _ body _ _ cl => max (fdepth body) (fdepth cl)
  | .tryUntil _ body => fdepth body
  | _ => 0

/-- most registers held at once by an EPR operation inside `op` -/
def epeak : Host → Nat
  | .seq a b => max (epeak a) (epeak b)
  | .ifc _ _ _ _ body => epeak body
  | .loop _ _ _ _ body => epeak body
  | .loopBody _ _ _ _ body => epeak body
  | .foreach _ _ body => epeak body
  | .loopUntil _ body _ _ cl => max (epeak body) (epeak cl)
  | .tryUntil _ body => epeak body
  | .epr evs => peakEvs 0 evs
  | _ => 0

theorem tmp_le_one (v : Val) : v.tmp ≤ 1 := by cases v <;> simp [Val.tmp]
theorem addNeed_le (v : Val) : v.addNeed ≤ Val.fdepth v + 1 := by
  cases v <;> simp [Val.addNeed, Val.fdepth]

theorem bound_mono {n d f e d' f' e' : Nat} (h : n ≤ d + (2 + f) + e) (hd : d ≤ d') (hf : f ≤ f')
    (he : e ≤ e') : n ≤ d' + (2 + f') + e' := by omega

theorem bound_one (d f e : Nat) : 1 ≤ d + (2 + f) + e := by omega

theorem bound_open {n d f e : Nat} (h : n ≤ d + (2 + f) + e) : 1 + n ≤ 1 + d + (2 + f) + e := by omega

/-- Inside an operation of nesting depth `k` at most `1·k + (2 + fdepth)` registers
are taken on top of those active at its start: c = 1 per open loop-like operation, c' = 2
temporaries (two condition operands / the two operands of `add`) plus one per level of
future-indexed futures, plus — when EPR operations occur — the most registers such an operation holds
at once (`epeak`, from the recorded register events). -/
theorem depth_bound (op : Host) (hc : Completed op) : need op ≤ depth op + (2 + fdepth op) + epeak op := by
  induction op with
  | skip => exact Nat.zero_le _
  | seq a b iha ihb =>
    exact Nat.max_le.mpr
      ⟨bound_mono (iha hc.1) (Nat.le_max_left ..) (Nat.le_max_left ..) (Nat.le_max_left ..),
       bound_mono (ihb hc.2) (Nat.le_max_right ..) (Nat.le_max_right ..) (Nat.le_max_right ..)⟩
  | newArray => exact Nat.zero_le _
  | newReg => exact hc.elim
  | qop g t =>
    cases t with
    | fut f => show f.depth ≤ 0 + (2 + f.depth) + 0; omega
    | _ => exact Nat.zero_le _
  | addF f o md =>
    have := addNeed_le o
    show 1 + max f.depth o.addNeed ≤ 0 + (2 + max f.depth (Val.fdepth o)) + 0
    omega
  | addR h o md =>
    have := addNeed_le o
    show o.addNeed ≤ 0 + (2 + Val.fdepth o) + 0
    omega
  | ifc cb c a b body ih =>
    refine Nat.max_le.mpr ⟨ih hc, ?_⟩
    have := tmp_le_one a; have := tmp_le_one b
    split <;> omega
  | loop rg s e d body ih => exact bound_open (ih hc)
  | loopBody rg s e d body ih => exact bound_open (ih hc)
  | foreach a w body ih => exact bound_open (ih hc)
  | loopUntil n body ef ev cl ihb ihc =>
    exact bound_open (Nat.max_le.mpr
      ⟨bound_mono (ihb hc.1) (Nat.le_max_left ..) (Nat.le_max_left ..) (Nat.le_max_left ..),
       Nat.max_le.mpr ⟨Nat.le_trans (tmp_le_one ef) (bound_one ..),
        bound_mono (ihc hc.2) (Nat.le_max_right ..) (Nat.le_max_right ..) (Nat.le_max_right ..)⟩⟩)
  | tryUntil n body ih => exact ih hc
  | epr evs => exact Nat.le_add_left _ _

/-- The property in closed form: starting from a memory manager with `f`
free registers, every program made of completed operations of nesting depth `k`, future-index
depth `d` and EPR peak `e` (0 without EPR operations) with `k + 2 + d + e ≤ f`, of any length and with
flushes anywhere, never runs out of registers. (`Sdk.run` starts from the fresh manager: 16 free,
`fresh_has_16`.) -/
theorem long_run_compiles (p : List Top) (m : Mem) (pend : List PCmd) (step : Nat) (acc : RunOut)
    (hfree : 0 < free m.active)
    (hops : ∀ op, Top.op op ∈ p → Completed op ∧ depth op + (2 + fdepth op) + epeak op ≤ free m.active)
    (hacc : ∀ st, acc.err ≠ some (st, .noRegister)) :
    ∀ st, (runProg m pend step acc p).err ≠ some (st, .noRegister) := by
  refine sequence_compiles p m pend step acc hfree ?_ hacc
  intro op hmem
  have ⟨hc, hb⟩ := hops op hmem
  refine ⟨hc, ?_⟩
  intro m' hm'
  exact compiles_of_need op m' hc (by rw [hm']; have := depth_bound op hc; omega)

theorem fresh_has_16 : free Mem.init.active = 16 := by decide

/-- Every temporary and every loop register comes from `takeReg` /
`getInactive` + `activate` (the only places where `emit` picks a register): it is inactive at that
moment — hence different from every live loop/condition register of an enclosing operation, all of
which are active (a register stays flagged from `takeReg` to its `release`: the loop and `Took`
cases of `emit_spec`, whose part `act` is `balanced`) — and after the pick it is flagged, so no later pick
returns it until it is released. -/
theorem temps_disjoint (m m' : Mem) (i : Nat) (h : takeReg m = .ok (m', i)) :
    m.active.getD i true = false ∧
    (∀ j, m.active.getD j false = true → j ≠ i ∧ m'.active.getD j false = true) ∧
    m'.active.getD i false = true := by
  have s := takeReg_spec h
  refine ⟨s.1, ?_, ?_⟩
  · intro j hj
    have hne : j ≠ i := by
      intro e; subst e
      have hl := getD_true_false_lt s.1
      simp [List.getD, List.getElem?_eq_getElem hl] at s hj
      rw [s.1] at hj; cases hj
    refine ⟨hne, ?_⟩
    rw [s.2.1, getD_set_ne (Ne.symm hne)]; exact hj
  · rw [s.2.1]; exact getD_set_self (getD_true_false_lt s.1) _ _

/-- `temps_disjoint` on the EMITTED COMMANDS. Let `op` be any completed operation compiled from `m`.
No command emitted for it writes (`set`/`load`/`add`/`addm` destination) an R register that is active
in `m` — i.e. a live loop / condition register of an enclosing operation or a `new_register()`
register — except the `add` of a `RegFuture.add(h, …)` occurring in `op`, which writes the register
of its handle `h` on purpose (its owner). -/
theorem temps_disjoint_code (op : Host) (m m' : Mem) (cs : List PCmd) (hc : Completed op)
    (h : emit m op = .ok (m', cs)) :
    ∀ c ∈ cs, ∀ x, writeOf c = some x → x.bank = 0 → m.active.getD x.idx false = true →
      ∃ hh ∈ addTargets op, ∃ b, m'.handles[hh]? = some (x, b) :=
  emit_writes op m m' cs hc h

/-- non-vacuity: inside two nested loops a `Future.add` with a future-indexed operand writes only
R2/R3; the enclosing loop registers R0, R1 are never written by the inner operation -/
example : let inner : Host := .addF (.fut 0 (.lit 0 0)) (.fut (.lit 0 1)) none
    let m : Mem := { Mem.init with active := (Mem.init.active.set 0 true).set 1 true, arrLens := [2] }
    (match emit m inner with
      | .ok (_, cs) => cs.filterMap writeOf
      | .error _ => []) = [R 3, R 2, R 3, R 2, R 3] := by
  decide +kernel

/-- the un-activated pick used for the array-initialisation loop and for future-indexed futures -/
theorem temps_disjoint_pick (m : Mem) (i : Nat) (h : getInactive m = .ok i) :
    m.active.getD i true = false := getInactive_spec h

def ifEzOnFuture : Host :=
  .ifc false .ez (.fut (.lit 0 0)) (.lit 0) (.qop [0] .newFut)

def loopUntilOnce : Host :=
  .loopUntil 2 (.qop [] (.fut (.lit 0 0))) (.fut (.lit 0 0)) 0 .skip

def repeatTop (n : Nat) (h : Host) : List Top :=
  (List.replicate n [Top.op h, Top.flush]).flatten

/-- 40 `if_ez` on a Future with a flush after each (the unfixed builder fails at the 17th) -/
theorem f17_if_ez_40 :
    (Sdk.run (Top.op (.newArray 1 (some [some 0])) :: repeatTop 40 ifEzOnFuture)).err = none := by
  decide +kernel

/-- 20 `loop_until` (the unfixed builder fails at the 9th) -/
theorem f17_loop_until_20 :
    (Sdk.run (Top.op (.newArray 1 (some [some 0])) :: repeatTop 20 loopUntilOnce)).err = none := by
  decide +kernel

example : Completed ifEzOnFuture ∧ Completed loopUntilOnce := by simp [ifEzOnFuture, loopUntilOnce, Completed]

/-- non-vacuity of `long_run_compiles`' hypothesis: a depth-2 operation with a future-indexed future -/
example : let op : Host := .loop none 0 2 1 (.foreach 0 true (.addF (.fut 0 (.lit 0 0)) (.fut (.lit 0 1)) none))
    Completed op ∧ depth op + (2 + fdepth op) ≤ free Mem.init.active ∧ need op = 4 := by
  refine ⟨by simp [Completed], by decide, by decide⟩

/-- the bound of `need` is attained: 16 nested loops need 16 registers, the 17th level fails -/
def nest : Nat → Host → Host
  | 0, h => h
  | n + 1, h => .loop none 0 1 1 (nest n h)

def isOk {α : Type} : Except BuildError α → Bool
  | .ok _ => true
  | .error _ => false

def isNoReg {α : Type} : Except BuildError α → Bool
  | .error .noRegister => true
  | _ => false

theorem need_tight_16 : isOk (emit Mem.init (nest 16 (.qop [] .newFut))) = true
    ∧ isNoReg (emit Mem.init (nest 17 (.qop [] .newFut))) = true := by
  decide +kernel

def isRegState {α : Type} : Except BuildError α → Bool
  | .error .regState => true
  | _ => false

/-- `conn.loop_body(fn, 3, loop_register="R0")` at top level with a body that needs a temporary: the
explicitly named register is taken into use, so the temporary of `Future.add` is R1 and R0 is written
only by the loop's own `set` and `add` (a builder that does not take the named register into use puts
the temporary into R0). -/
theorem explicit_register_protected :
    (match emit { Mem.init with arrLens := [3] }
        (.loopBody (some 0) 0 3 1 (.addF (.lit 0 0) (.lit 1) none)) with
      | .ok (_, cs) => cs.filterMap writeOf
      | .error _ => []) = [R 0, R 1, R 1, R 0] := by
  decide +kernel

/-- an explicit loop register that is in use (here: R0 of the enclosing loop) is rejected, in both
forms — it is never silently shared -/
theorem explicit_register_in_use_rejected :
    isRegState (emit Mem.init (.loop none 0 2 1 (.loopBody (some 0) 0 3 1 (.qop [] .newFut)))) = true ∧
    isRegState (emit Mem.init (.loop none 0 2 1 (.loop (some 0) 0 3 1 (.qop [] .newFut)))) = true ∧
    isOk (emit Mem.init (.loop none 0 2 1 (.loop (some 1) 0 3 1 (.qop [] .newFut)))) = true := by
  decide +kernel

/-- An EPR operation — abstracted to the register events recorded from the real
builder (`take` = lowest free register, `rel p` = release of the p-th held register) — whose events
give back everything they take (`heldLen 0 evs = some 0`) leaves the active registers as they were,
from EVERY memory-manager state. (It is the `epr` case of `balanced`; the generated table
`Gen.eprForms` is shown balanced form by form in `Props/EprRegsObligations`.) -/
theorem balanced_epr (evs : List EprEv) (m m' : Mem) (cs : List PCmd) (hb : heldLen 0 evs = some 0)
    (h : emit m (.epr evs) = .ok (m', cs)) : m'.active = m.active :=
  balanced (.epr evs) m m' cs hb h

/-- the seeded shape C14_4 (two registers taken, never released) is not balanced and exhausts the pool -/
theorem epr_leak_witness :
    heldLen 0 [EprEv.take, .take, .take, .rel 0] = some 2 ∧
    isNoReg (emitEprH Mem.init [] ((List.replicate 8 [EprEv.take, .take, .take, .rel 0]).flatten ++ [.take])) = true := by
  decide +kernel

/-- every EPR API form of the generated table (create/recv × keep plain / post routine / sequential /
with_info / rsp / measure / context block × expect_phi_plus × min_fidelity_all_at_end × number 1..3 ×
generic / NV / NV-compiler) is a completed operation that needs at most 10 registers -/
theorem epr_forms_completed : ∀ f ∈ Gen.eprForms, Completed (Host.epr f.2) ∧ need (Host.epr f.2) ≤ 10 := by
  intro f hf
  have h1 := List.all_eq_true.mp EprRegs.eprForms_balanced f hf
  have h2 := List.all_eq_true.mp EprRegs.eprForms_peak f hf
  exact ⟨by simpa [Completed] using h1, by simpa [need] using h2⟩

/-- EPR operations in `sequence_compiles`. Any program — any length, flushes anywhere — whose
operations are EPR operations of the table or other completed operations needing at most the free
registers never runs out of registers, provided 10 registers are free. -/
theorem epr_sequence_compiles (p : List Top) (m : Mem) (pend : List PCmd) (step : Nat) (acc : RunOut)
    (hfree : 10 ≤ free m.active)
    (hops : ∀ op, Top.op op ∈ p →
      (∃ f ∈ Gen.eprForms, op = Host.epr f.2) ∨ (Completed op ∧ need op ≤ free m.active))
    (hacc : ∀ st, acc.err ≠ some (st, .noRegister)) :
    ∀ st, (runProg m pend step acc p).err ≠ some (st, .noRegister) := by
  refine sequence_compiles p m pend step acc (by omega) ?_ hacc
  intro op hmem
  rcases hops op hmem with ⟨f, hf, rfl⟩ | ⟨hc, hn⟩
  · have := epr_forms_completed f hf
    exact ⟨this.1, fun m' hm' => compiles_of_need _ m' this.1 (by rw [hm']; omega)⟩
  · exact ⟨hc, fun m' hm' => compiles_of_need _ m' hc (by rw [hm']; exact hn)⟩

/-- A flush that sends a subroutine leaves every M register free
(`MemoryManager.reset` → `reset_used_meas_registers`). -/
theorem meas_registers_released_at_flush (m m' : Mem) (pend cmds : List PCmd)
    (h : flush m pend = .ok (m', some cmds)) : m'.measUsed = List.replicate 16 false := by
  obtain ⟨_, _, _, ⟨_, hn, _⟩ | ⟨rfl, _⟩⟩ := flush_eq_ok h
  · cases hn
  · rfl

/-- the M-bank analogue of `balanced`: an operation that keeps no outcome in a register (no
`measure(store_array=False)` inside) leaves the M flags exactly as they were — the M register of a
measurement into an array entry is given back at once -/
theorem meas_balanced (op : Host) (m m' : Mem) (cs : List PCmd) (hb : BodyOK op)
    (h : emit m op = .ok (m', cs)) : m'.measUsed = m.measUsed := ((emit_stat op m m' cs h).body hb).1

/-- `measure(store_array=False)` takes exactly one M register (kept until the next flush) -/
theorem reg_outcome_takes_one (m m' : Mem) (g : List Nat) (cs : List PCmd)
    (h : emit m (.qop g .newReg) = .ok (m', cs)) :
    ∃ k, m.measUsed.getD k true = false ∧ m'.measUsed = m.measUsed.set k true ∧ cs ≠ [] := by
  obtain ⟨m1, k, h1, rfl, rfl⟩ := emitQop_newReg_eq_ok h
  obtain ⟨hk, rfl⟩ := firstUnusedMeas_spec h1
  exact ⟨k, hk, rfl, by simp [measHead]⟩

/-- with one M register free, no top-level operation fails with "Ran out of M-registers" -/
theorem meas_compiles (op : Host) (m : Mem) (ht : TopOK op) (h : 0 < free m.measUsed) : NoMeas (emit m op) := by
  rcases ht with hb | ⟨v, rfl⟩ | ⟨g, rfl⟩
  · exact emit_noMeas op m hb h
  · intro e he
    simp only [emit] at he
    split at he
    · rename_i e' he'; cases he; exact takeReg_noMeas m _ he'
    · cases he
  · exact emitQop_noMeas _ _ _ h

/-- at most 16 register outcomes per subroutine, and an M register free whenever an operation starts:
`c` = register outcomes since the last flush -/
def MeasBudget : Nat → List Top → Prop
  | _, [] => True
  | _, .flush :: rest => MeasBudget 0 rest
  | c, .op h :: rest => c ≤ 15 ∧ MeasBudget (c + (mHandlesOf 0 h).length) rest

theorem free_replicate16 : free (List.replicate 16 false) = 16 := by decide

/-- The M-bank analogue of `sequence_compiles`: a program of top-level
operations (`TopOK`) of ANY length with flushes anywhere never fails with "Ran out of M-registers" as
long as no more than 16 register outcomes are taken between two flushes (`MeasBudget`): how many
`measure(store_array=False)` the connection has completed before does not matter. -/
theorem meas_sequence_compiles (p : List Top) :
    ∀ (m : Mem) (pend : List PCmd) (step : Nat) (acc : RunOut) (c : Nat),
    (∀ op, Top.op op ∈ p → TopOK op) → MeasBudget c p → 16 ≤ free m.measUsed + c →
    (0 < c → pend ≠ []) → (∀ st, acc.err ≠ some (st, .noMeasRegister)) →
    ∀ st, (runProg m pend step acc p).err ≠ some (st, .noMeasRegister) := by
  intro m pend step acc c htop hb hfree hpend
  refine runProg_avoids (I := fun m pend p => ∃ c, (∀ op, Top.op op ∈ p → TopOK op) ∧ MeasBudget c p ∧
    16 ≤ free m.measUsed + c ∧ (0 < c → pend ≠ [])) ?_ ?_ p m pend step acc ⟨c, htop, hb, hfree, hpend⟩
  · intro m pend h rest ⟨c, htop, ⟨hc, hb'⟩, hfree, hpend⟩
    have ht := htop h (List.mem_cons_self ..)
    refine ⟨meas_compiles h m ht (by omega), fun m1 cs h1 =>
      ⟨c + (mHandlesOf 0 h).length, fun o ho => htop o (List.mem_cons_of_mem _ ho), hb', ?_, ?_⟩⟩
    · rcases ht with hbo | ⟨v, rfl⟩ | ⟨g, rfl⟩
      · rw [meas_balanced h m m1 cs hbo h1, mHandlesOf_bodyOK h 0 hbo]; exact hfree
      · obtain ⟨m2, i, h2, rfl, _⟩ := emit_newReg_eq_ok h1
        exact (takeReg_same h2).meas ▸ hfree
      · obtain ⟨k, hk, hm, _⟩ := reg_outcome_takes_one m m1 g cs h1
        have := free_set_true _ _ hk
        rw [hm]
        show 16 ≤ _ + (c + 1)
        omega
    · intro hpos
      rcases ht with hbo | ⟨v, rfl⟩ | ⟨g, rfl⟩
      · rw [mHandlesOf_bodyOK h 0 hbo] at hpos
        exact fun e => hpend hpos (List.append_eq_nil_iff.mp e).1
      · exact fun e => hpend hpos (List.append_eq_nil_iff.mp e).1
      · obtain ⟨_, _, _, hne⟩ := reg_outcome_takes_one m m1 g cs h1
        exact fun e => hne (List.append_eq_nil_iff.mp e).2
  · intro m pend rest ⟨c, htop, hb, hfree, hpend⟩
    refine ⟨(flush_lack (q := False) m pend).noMeas id, fun m1 sub h1 =>
      ⟨0, fun o ho => htop o (List.mem_cons_of_mem _ ho), hb, ?_, fun h0 => absurd h0 (Nat.lt_irrefl 0)⟩⟩
    cases sub with
    | some cmds => rw [meas_registers_released_at_flush m m1 pend cmds h1, free_replicate16]; omega
    | none =>
      -- nothing was sent: nothing was pending, so no register outcome was taken in this segment
      obtain ⟨_, _, hini, ⟨rfl, _, hp⟩ | ⟨_, hs⟩⟩ := flush_eq_ok h1
      · have hc0 : c = 0 := Nat.eq_zero_of_not_pos fun h0 => hpend h0 hp
        rw [(initArrays_spec _ hini).same.meas]
        omega
      · cases hs

theorem meas_fresh_16 : free Mem.init.measUsed = 16 := by decide

theorem budget_one_per_flush (g : List Nat) : ∀ (n c : Nat), c ≤ 15 →
    MeasBudget c ((List.replicate n [Top.op (.qop g .newReg), Top.flush]).flatten)
  | 0, c, _ => by simp [MeasBudget]
  | n + 1, c, hc => by
    simp only [List.replicate_succ, List.flatten_cons, List.cons_append, List.nil_append, MeasBudget]
    exact ⟨hc, budget_one_per_flush g n 0 (by omega)⟩

/-- 40 register outcomes with a flush after each satisfy the budget and compile in the model (with the
seeded shape C14_5, M flags that survive the flush, the 17th fails although every subroutine holds one) -/
theorem meas_budget_example :
    MeasBudget 0 ((List.replicate 40 [Top.op (.qop [] .newReg), Top.flush]).flatten) ∧
    (Sdk.run ((List.replicate 40 [Top.op (.qop [] .newReg), Top.flush]).flatten)).err = none :=
  ⟨budget_one_per_flush [] 40 0 (by omega), by decide +kernel⟩

end NQ.C14
