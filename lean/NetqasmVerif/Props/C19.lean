/-
C19 — Float angles are approximated within tolerance by encodable rotations.

Model: `Model/Angle.lean` (the code AFTER the fixes of F19a/b/c).  All statements are over exact
dyadic values read in an arbitrary linearly ordered field `K` (ℚ, ℝ):
    rest = val E r = r / 2^E ,  tol_pi = val E t = t / 2^E ,  a step (n, d) is worth n / 2^d
(units of π; `result_within_radians` multiplies by any positive `π`).

PARTIAL, labelled: the three floating-point operations before the loop (`angle % 2π`, `angle / π`,
`tol / π`) round; the theorems start from the doubles the code holds after them.  The loop body is
exact in binary64; the rounding of `log2` is absorbed by the relation `Run` (any allowed exponent).
-/
import NetqasmVerif.Lemmas.Angle
namespace NQ.C19
open NQ.Angle

variable {K : Type} [Field K] [LinearOrder K] [IsStrictOrderedRing K]

/-- `step_valid`: for `tol < rest ≤ 2` every allowed step has `127 ≤ n ≤ 255` (8-bit range),
`d ≥ 6`, and `n/2^d ≤ rest < (n+1)/2^d`. -/
theorem step_valid (E t r d : Nat) (_htol : t < r) (h2 : r ≤ 2 * 2 ^ E) (ha : Allowed E r d) :
    127 ≤ numer E r d ∧ numer E r d ≤ 255 ∧ 6 ≤ d ∧
    (stepVal (numer E r d, d) : K) ≤ val E r ∧ (val E r : K) < ((numer E r d : K) + 1) / 2 ^ d :=
  ⟨ha.1, ha.2, allowed_d_ge E r d h2 ha, numer_val_le E r d, val_lt_numer_succ E r d⟩

/-- the code's own choice `⌊log2(255/rest)⌋`, computed exactly, is an allowed step
(so the `assert` cannot fail) for every `0 < rest ≤ 255` -/
theorem choice_allowed (E r : Nat) (h0 : 0 < r) (h255 : r ≤ 255 * 2 ^ E) :
    Allowed E r (dChoice E r) := by
  -- `c = ⌊log2 q⌋` for `q = ⌊255·2^E / r⌋ ≥ 1`: `2^c ≤ q < 2^(c+1)`, multiplied out by `r`
  have hq : 255 * 2 ^ E / r ≠ 0 := Nat.pos_iff_ne_zero.mp (Nat.div_pos h255 h0)
  have hlo := (Nat.le_div_iff_mul_le h0).mp (Nat.log2_self_le hq)
  have hhi := (Nat.div_lt_iff_lt_mul h0).mp (Nat.lt_log2_self (n := 255 * 2 ^ E / r))
  rw [Nat.pow_succ, Nat.mul_right_comm] at hhi
  rw [allowed_iff, dChoice, Nat.mul_comm r]
  exact ⟨by omega, by omega⟩

/-- `progress`: after an allowed step `rest = n/2^d + rest'` exactly, `rest' < 2^-d`, the scaled
remainder strictly decreases (the termination measure of `expand`) and `127·rest' < rest`
(so the loop runs O(log(rest/tol)) times). -/
theorem progress (E r d : Nat) (hr : 0 < r) (ha : Allowed E r d) :
    (val E r : K) = stepVal (numer E r d, d) + val E (restAfter E r d) ∧
    (val E (restAfter E r d) : K) < 1 / 2 ^ d ∧
    restAfter E r d < r ∧ 127 * restAfter E r d < r := by
  refine ⟨step_val E r d, restAfter_val_lt E r d,
    restAfter_lt E r d hr (by have := ha.1; omega), ?_⟩
  -- 127·rest'·2^d < 127·2^E ≤ rest·2^d
  have h1 := restAfter_mul_lt E r d
  have h2 := ((allowed_iff E r d).mp ha).1
  exact Nat.lt_of_mul_lt_mul_right (a := 2 ^ d) (by rw [Nat.mul_assoc]; omega)

/-- termination + no assertion failure: the executable loop (a fuel-free well-founded recursion
on the remainder, see `Model/Angle.expand`) returns a list for every `rest ≤ 255`, every `tol` -/
theorem expand_isSome (E t : Nat) : ∀ r, r ≤ 255 * 2 ^ E → (expand E t r).isSome = true := by
  intro r h255
  fun_induction expand E t r with
  | case1 => rfl
  | case2 r h ha hx ih =>
    have := restAfter_lt E r (dChoice E r) (by omega) (by have := ha.1; omega)
    rw [hx] at ih
    cases ih (by omega)
  | case3 r h ha => exact absurd (choice_allowed E r (by omega) h255) ha
  | case4 => rfl

/-- the executable loop is one run of the relation -/
theorem expand_run (E t r : Nat) (l : List (Nat × Nat)) (hl : expand E t r = some l) :
    ∃ r', Run E t r l r' := by
  fun_induction expand E t r generalizing l with
  | case1 r h ha l' hx ih =>
    obtain ⟨r', hr'⟩ := ih l' hx
    cases hl
    exact ⟨r', Run.step r _ l' r' h ha hr'⟩
  | case2 => cases hl
  | case3 => cases hl
  | case4 r h => cases hl; exact ⟨r, Run.done r (Nat.le_of_not_lt h)⟩

/-- `sum_inv`: `rest₀ = Σ nᵢ/2^dᵢ + rest` along every run, and on exit `rest ≤ tol_pi`. -/
theorem sum_inv (E t r r' : Nat) (steps : List (Nat × Nat)) (h : Run E t r steps r') :
    (val E r : K) = sumVal steps + val E r' ∧ r' ≤ t := by
  induction h with
  | done r h => exact ⟨by simp [sumVal], h⟩
  | step r d steps r' _ _ _ ih =>
    refine ⟨?_, ih.2⟩
    rw [sumVal_cons, step_val (K := K) E r d, ih.1, add_assoc]

theorem run_steps (E t r r' : Nat) (steps : List (Nat × Nat)) (h : Run E t r steps r') :
    ∀ p ∈ steps, ∃ r₁, t < r₁ ∧ r₁ ≤ r ∧ Allowed E r₁ p.2 ∧ p.1 = numer E r₁ p.2 := by
  induction h with
  | done r h => intro p hp; cases hp
  | step r d steps r' hr ha _ ih =>
    intro p hp
    rcases List.mem_cons.mp hp with rfl | hp
    · exact ⟨r, hr, Nat.le_refl r, ha, rfl⟩
    · obtain ⟨r₁, h1, h2, h3, h4⟩ := ih p hp
      have := restAfter_lt E r d (by omega) (by have := ha.1; omega)
      exact ⟨r₁, h1, by omega, h3, h4⟩

/-- `simplify_sound`: halving keeps the value, never increases n or d, never produces a negative
exponent (`d' : Nat`, the loop stops at 0), keeps n positive, and ends odd or at `d' = 0`. -/
theorem simplify_sound (n d : Nat) :
    (stepVal (simplify n d) : K) = stepVal (n, d) ∧ (simplify n d).1 ≤ n ∧ (simplify n d).2 ≤ d ∧
    (0 < n → 0 < (simplify n d).1) ∧ ((simplify n d).1 % 2 = 1 ∨ (simplify n d).2 = 0) :=
  ⟨simplify_val n d, simplify_spec n d⟩

/-- every returned `(n, d)` fits the two 8-bit instruction fields, with `n ≥ 1` — for EVERY run,
every tolerance (the filter drops what does not fit). -/
theorem fields_fit (E t r r' : Nat) (steps : List (Nat × Nat)) (h : Run E t r steps r') :
    ∀ p ∈ finish steps, 1 ≤ p.1 ∧ p.1 ≤ 255 ∧ p.2 ≤ 255 := by
  intro p hp
  unfold finish at hp
  obtain ⟨hp1, hk⟩ := List.mem_filter.mp hp
  obtain ⟨q, hq, rfl⟩ := List.mem_map.mp hp1
  obtain ⟨r₁, _, _, ha, hn⟩ := run_steps E t r r' steps h q hq
  obtain ⟨hle, _, hpos, _⟩ := simplify_spec q.1 q.2
  have hq : 127 ≤ q.1 ∧ q.1 ≤ 255 := by rw [hn]; exact ha
  exact ⟨hpos (by omega), Nat.le_trans hle hq.2, of_decide_eq_true hk⟩

/-- when `tol_pi ≥ 2^-247` (the property asks for tol ≥ 1e-9) the filter drops nothing -/
theorem finish_keeps_all (E t r r' : Nat) (steps : List (Nat × Nat)) (h : Run E t r steps r')
    (ht : 2 ^ E ≤ t * 2 ^ 247) :
    finish steps = steps.map (fun p => simplify p.1 p.2) := by
  unfold finish
  apply List.filter_eq_self.mpr
  intro p hp
  obtain ⟨q, hq, rfl⟩ := List.mem_map.mp hp
  obtain ⟨r₁, h1, _, ha, _⟩ := run_steps E t r r' steps h q hq
  have hd := allowed_d_le E t r₁ q.2 ht h1 ha
  exact decide_eq_true (Nat.le_trans (simplify_spec q.1 q.2).2.1 (by omega))

theorem sumVal_map_simplify (steps : List (Nat × Nat)) :
    (sumVal (steps.map (fun p => simplify p.1 p.2)) : K) = sumVal steps := by
  induction steps with
  | nil => rfl
  | cons p l ih =>
    rw [List.map_cons, sumVal_cons, sumVal_cons, ih, simplify_val]

/-- with `tol_pi ≥ 2^-247` the error of the returned list is exactly the remainder the loop stopped at -/
theorem result_error (E t r r' : Nat) (steps : List (Nat × Nat)) (h : Run E t r steps r')
    (ht : 2 ^ E ≤ t * 2 ^ 247) : (val E r : K) - sumVal (finish steps) = val E r' := by
  rw [finish_keeps_all E t r r' steps h ht, sumVal_map_simplify, (sum_inv E t r r' steps h).1,
    add_sub_cancel_left]

/-- `result_within` (units of π): for every run of the loop — whatever allowed exponents were
picked — with `tol_pi ≥ 2^-247`, the returned list under-approximates `rest` by at most `tol_pi`,
and all its entries fit the 8-bit fields. -/
theorem result_within (E t r r' : Nat) (steps : List (Nat × Nat)) (h : Run E t r steps r')
    (ht : 2 ^ E ≤ t * 2 ^ 247) :
    (0 : K) ≤ val E r - sumVal (finish steps) ∧ (val E r : K) - sumVal (finish steps) ≤ val E t ∧
    ∀ p ∈ finish steps, 1 ≤ p.1 ∧ p.1 ≤ 255 ∧ p.2 ≤ 255 := by
  rw [result_error E t r r' steps h ht]
  exact ⟨val_nonneg E r', val_le_val E r' t (sum_inv (K := K) E t r r' steps h).2,
    fields_fit E t r r' steps h⟩

/-- `result_within` in radians: with any positive `π`, the rotation angles `nᵢ·π/2^dᵢ` add up to
`rest·π` within `tol_pi·π` (= the stated tolerance up to the rounding of `tol / π`). -/
theorem result_within_radians (E t r r' : Nat) (steps : List (Nat × Nat)) (h : Run E t r steps r')
    (ht : 2 ^ E ≤ t * 2 ^ 247) (π : K) (hπ : 0 < π) :
    |(val E r : K) * π - sumVal (finish steps) * π| ≤ val E t * π := by
  obtain ⟨h0, h1, _⟩ := result_within (K := K) E t r r' steps h ht
  rw [← sub_mul, abs_of_nonneg (mul_nonneg h0 hπ.le)]
  exact mul_le_mul_of_nonneg_right h1 hπ.le

/-- the function the driver runs (`spec`) satisfies all of the above -/
theorem spec_within (E t r : Nat) (l : List (Nat × Nat)) (hs : spec E t r = some l)
    (ht : 2 ^ E ≤ t * 2 ^ 247) :
    (0 : K) ≤ val E r - sumVal l ∧ (val E r : K) - sumVal l ≤ val E t ∧
    ∀ p ∈ l, 1 ≤ p.1 ∧ p.1 ≤ 255 ∧ p.2 ≤ 255 := by
  obtain ⟨steps, hx, rfl⟩ := Option.map_eq_some_iff.mp hs
  obtain ⟨r', hr'⟩ := expand_run E t r steps hx
  exact result_within E t r r' steps hr' ht

theorem finish_cons (p : Nat × Nat) (l : List (Nat × Nat)) :
    finish (p :: l) = if keep (simplify p.1 p.2) then simplify p.1 p.2 :: finish l else finish l := by
  unfold finish
  rw [List.map_cons, List.filter_cons]

/-- soundness of the correspondence checker: a list it accepts is the output of some run of the
relation (so the real function's output, once accepted, enjoys `result_within`). -/
theorem accepts_sound (E t : Nat) : ∀ fuel r target, accepts E t fuel r target = true →
    ∃ steps r', Run E t r steps r' ∧ finish steps = target := by
  intro fuel
  induction fuel with
  | zero => intro r target h; cases h
  | succ fuel ih =>
    intro r target h
    unfold accepts at h
    split at h
    · rename_i hr
      obtain ⟨d, _, hd⟩ := List.any_eq_true.mp h
      rw [Bool.and_eq_true] at hd
      obtain ⟨ha, hd⟩ := hd
      -- whatever is accepted for the remainder extends by the step `d`
      have ext : ∀ tgt, accepts E t fuel (restAfter E r d) tgt = true →
          ∃ steps r', Run E t r ((numer E r d, d) :: steps) r' ∧ finish steps = tgt := by
        intro tgt h'
        obtain ⟨steps, r', hrun, hfin⟩ := ih _ _ h'
        exact ⟨steps, r', Run.step r d steps r' hr (of_decide_eq_true ha) hrun, hfin⟩
      split at hd
      · rename_i hk
        cases target with
        | nil => cases hd
        | cons q qs =>
          rw [Bool.and_eq_true, beq_iff_eq] at hd
          obtain ⟨steps, r', hrun, hfin⟩ := ext qs hd.2
          exact ⟨_, r', hrun, by rw [finish_cons, if_pos hk, hfin, hd.1]⟩
      · rename_i hk
        obtain ⟨steps, r', hrun, hfin⟩ := ext target hd
        exact ⟨_, r', hrun, by rw [finish_cons, if_neg hk, hfin]⟩
    · rename_i hr
      exact ⟨[], r, Run.done r (Nat.le_of_not_lt hr), (List.isEmpty_iff.mp h).symm⟩

/-! ### The three floating-point operations before the loop, with an explicit error term

`A` = the requested angle, `π` = the real number, `P = fl(π)` (`np.pi`), `a' = A % (2P)` (Python's float `%`:
`fmod` is exact, `a' = A − kk·2P` for an integer `kk`, but for a negative `A` the divisor is added back with one
rounding — hence an absolute error ≤ u·2P; integrality of `kk` is not needed for the bound), `rest = fl(a'/P)`,
`tolπ = fl(tol/P)`, `u = 2^-53` the unit round-off.  The hypotheses are the standard model of IEEE-754
round-to-nearest for one division each (relative error ≤ u, plus the absolute underflow term `η ≤ u·P`
for denormal quotients) and for the constant `np.pi`; the harness re-checks every one of them, with exact
rationals, on every case of the stream. -/

/-- `T1`: `rest = fl(a'/P)` read against the true `π`, by the triangle inequality through `rest·P`.
The division itself is off by at most `u·a' + η ≤ 3uP`, and replacing `P` by `π` costs
`rest·|P − π| ≤ (2 + 3u)·uπ`, since `rest·P ≤ a'(1 + u) + η ≤ (2 + 3u)·P`. -/
theorem rest_error {π P u a' rest η : K} (hπ : 0 < π) (hu : 0 ≤ u) (hP : 0 < P)
    (hδ : |P - π| ≤ u * π) (ha2 : a' ≤ 2 * P) (hη : η ≤ u * P)
    (hdiv : |a' - rest * P| ≤ u * a' + η) (hrest0 : 0 ≤ rest) :
    |a' - rest * π| ≤ 6 * π * u * (1 + u) := by
  have hrest2 : rest ≤ 2 + 3 * u :=
    le_of_mul_le_mul_right (by linear_combination neg_le_of_abs_le hdiv + (1 + u) * ha2 + hη) hP
  have huπ : 0 ≤ u * π := mul_nonneg hu hπ.le
  have h := abs_sub_le a' (rest * P) (rest * π)
  rw [← mul_sub, abs_mul, abs_of_nonneg hrest0] at h
  calc |a' - rest * π| ≤ |a' - rest * P| + rest * |P - π| := h
    _ ≤ u * (2 * P) + u * P + (2 + 3 * u) * (u * π) :=
      add_le_add (hdiv.trans (add_le_add (mul_le_mul_of_nonneg_left ha2 hu) hη))
        ((mul_le_mul_of_nonneg_left hδ hrest0).trans (mul_le_mul_of_nonneg_right hrest2 huπ))
    _ ≤ 6 * π * u * (1 + u) := by linear_combination 3 * u * ((le_abs_self _).trans hδ) + huπ

/-- `T2`: `tolπ = fl(tol/P)` in radians: `tolπ·π·(1 − u) ≤ tolπ·P ≤ tol·(1 + u) ≤ tol·(1 + 4u)(1 − u)`,
the last step because `(1 + 4u)(1 − u) − (1 + u) = 4u·(1/2 − u)`. -/
theorem tol_error {π P u tolπ tol : K} (hu : 0 ≤ u) (hu2 : u ≤ 1 / 2) (hP : 0 < P)
    (hP1 : π - P ≤ u * π) (htp0 : 0 ≤ tolπ) (htol : tolπ * P ≤ tol * (1 + u)) :
    tolπ * π ≤ tol * (1 + 4 * u) := by
  have htol0 : 0 ≤ tol :=
    nonneg_of_mul_nonneg_left (le_trans (mul_nonneg htp0 hP.le) htol) (by positivity)
  exact le_of_mul_le_mul_right (by linear_combination tolπ * hP1 + htol + (4 * tol * u) * hu2)
    (sub_pos.mpr (hu2.trans_lt one_half_lt_one))

theorem abs_add_four_le {a b c d A B C D : K} (ha : |a| ≤ A) (hb : |b| ≤ B) (hc : |c| ≤ C)
    (hd : |d| ≤ D) : |a + b + c + d| ≤ A + B + C + D :=
  (abs_add_le _ _).trans (add_le_add ((abs_add_three a b c).trans (add_le_add_three ha hb hc)) hd)

/-- The bound over plain field elements, with the rounding hypotheses in their usual form:
`|P − π| ≤ uπ` (`np.pi`), `|A − kk·2P − a'| ≤ u·2P` (`%`), `|a' − rest·P| ≤ u·a' + η` (`/`).
The error splits into `T0 = A − kk·2P − a'`, `T1 = a' − rest·π`, `T2 = (rest − S)·π` and
`T3 = kk·2(P − π)`; their bounds add up to the claim once `2uP ≤ 2πu(1 + u)`. -/
theorem float_error_bound {A π P a' kk rest S tolπ tol u η : K}
    (hπ : 0 < π) (hu : 0 ≤ u) (hu2 : u ≤ 1 / 2) (hδ : |P - π| ≤ u * π)
    (hmod : |A - kk * (2 * P) - a'| ≤ u * (2 * P)) (ha2 : a' ≤ 2 * P)
    (hη : η ≤ u * P) (hdiv : |a' - rest * P| ≤ u * a' + η) (htol : tolπ * P ≤ tol * (1 + u))
    (hD0 : 0 ≤ rest - S) (hD1 : rest - S ≤ tolπ) (hrest0 : 0 ≤ rest) :
    |A - kk * (2 * π) - S * π| ≤ tol * (1 + 4 * u) + 8 * π * u * (1 + u) + 2 * |kk| * u * π := by
  obtain ⟨hP2, hP1⟩ := abs_sub_le_iff.mp hδ
  have h1u : 0 < 1 - u := sub_pos.mpr (hu2.trans_lt one_half_lt_one)
  have hP : 0 < P := lt_of_lt_of_le (mul_pos hπ h1u) (by linear_combination hP1)
  have h1 := rest_error hπ hu hP hδ ha2 hη hdiv hrest0
  have h2 : |(rest - S) * π| ≤ tol * (1 + 4 * u) := by
    rw [abs_of_nonneg (mul_nonneg hD0 hπ.le)]
    exact (mul_le_mul_of_nonneg_right hD1 hπ.le).trans
      (tol_error hu hu2 hP hP1 (hD0.trans hD1) htol)
  have h3 : |kk * (2 * (P - π))| ≤ |kk| * (2 * (u * π)) := by
    rw [abs_mul, abs_mul, abs_two]
    exact mul_le_mul_of_nonneg_left (mul_le_mul_of_nonneg_left hδ zero_le_two) (abs_nonneg kk)
  have hX : A - kk * (2 * π) - S * π =
      A - kk * (2 * P) - a' + (a' - rest * π) + (rest - S) * π + kk * (2 * (P - π)) := by ring
  rw [hX]
  exact (abs_add_four_le hmod h1 h2 h3).trans (by linear_combination 2 * u * hP2)

/-- `result_within_float`: for every run of the loop, the emitted/returned steps approximate the
REQUESTED angle `A` modulo `2π` within `tol·(1+4u) + 8πu(1+u) + 2|kk|uπ` radians — the stated tolerance
plus an explicit bound on the three roundings (`|kk| ≈ |A|/2π` periods removed by the float `%`). -/
theorem result_within_float (E t r r' : Nat) (steps : List (Nat × Nat)) (h : Run E t r steps r')
    (ht : 2 ^ E ≤ t * 2 ^ 247) (A π P a' kk tol u : K)
    (hπ : 0 < π) (hu : 0 ≤ u) (hu4 : u ≤ 1 / 4)
    (hP1 : π * (1 - u) ≤ P) (hP2 : P ≤ π * (1 + u))
    (hmod1 : A - kk * (2 * P) - a' ≤ u * (2 * P)) (hmod2 : a' - (A - kk * (2 * P)) ≤ u * (2 * P))
    (ha0 : 0 ≤ a') (ha2 : a' ≤ 2 * P)
    (η : K) (hη : η ≤ u * P)
    (hdiv1 : val E r * P - a' ≤ u * a' + η) (hdiv2 : a' - val E r * P ≤ u * a' + η)
    (htol : val E t * P ≤ tol * (1 + u)) :
    |A - kk * (2 * π) - sumVal (finish steps) * π| ≤
      tol * (1 + 4 * u) + 8 * π * u * (1 + u) + 2 * |kk| * u * π := by
  obtain ⟨h0, h1, _⟩ := result_within (K := K) E t r r' steps h ht
  exact float_error_bound hπ hu (hu4.trans (by norm_num))
    (abs_sub_le_iff.mpr ⟨by linear_combination hP2, by linear_combination hP1⟩)
    (abs_sub_le_iff.mpr ⟨hmod1, hmod2⟩) ha2 hη (abs_sub_le_iff.mpr ⟨hdiv2, hdiv1⟩) htol h0 h1
    (val_nonneg E r)

/-- the rotation instructions the builder emits carry exactly the steps, in order (one instruction per
step, nothing dropped, nothing added) -/
theorem emitted_operands (axis vq : Nat) (steps : List (Nat × Nat)) :
    rotOperands axis (emitRot axis vq steps) = steps := by
  induction steps with
  | nil => rfl
  | cons p l ih =>
    have : emitRot axis vq (p :: l) = [Cmd.setQ 0 vq, Cmd.rot axis 0 p.1 p.2] ++ emitRot axis vq l := by
      simp [emitRot]
    rw [this]
    unfold rotOperands at ih ⊢
    rw [List.filterMap_append, ih]
    simp

/-- `emitted_within`: the (n, d) operands of the rotation instructions EMITTED by
`q.rot_X/Y/Z(angle=…)` under-approximate `rest` by at most `tol_pi` and fit the 8-bit fields. -/
theorem emitted_within (axis vq E t r : Nat) (cmds : List Cmd) (hs : emitSpec axis vq E t r = some cmds)
    (ht : 2 ^ E ≤ t * 2 ^ 247) :
    (0 : K) ≤ val E r - sumVal (rotOperands axis cmds) ∧
    (val E r : K) - sumVal (rotOperands axis cmds) ≤ val E t ∧
    ∀ p ∈ rotOperands axis cmds, 1 ≤ p.1 ∧ p.1 ≤ 255 ∧ p.2 ≤ 255 := by
  obtain ⟨l, hx, rfl⟩ := Option.map_eq_some_iff.mp hs
  rw [emitted_operands]
  exact spec_within E t r l hx ht

/-! ### Sequences of rotation calls

`q.rot_A(...)` called several times appends, call after call, the commands of each call and nothing else: the
emitted steps of a SEQUENCE of calls are the CONCATENATION of the per-call steps (this is the model property the
`angle.sequence` stream ties to the real builder; a peephole that merged or rewrote neighbouring rotations would
break it), hence the total rotation of a same-axis run is the sum of the per-call totals. -/

theorem rotOperands_append (axis : Nat) (a b : List Cmd) :
    rotOperands axis (a ++ b) = rotOperands axis a ++ rotOperands axis b := by
  unfold rotOperands; rw [List.filterMap_append]

theorem sumVal_append (a b : List (Nat × Nat)) : (sumVal (a ++ b) : K) = sumVal a + sumVal b := by
  unfold sumVal; rw [List.map_append, List.sum_append]

/-- `emitted_seq_operands`: the rotation instructions emitted for a sequence of calls about one axis carry exactly
the concatenation of the per-call step lists, in order -/
theorem emitted_seq_operands (axis vq : Nat) (calls : List (List (Nat × Nat))) :
    rotOperands axis (calls.flatMap (emitRot axis vq)) = calls.flatten := by
  induction calls with
  | nil => rfl
  | cons c cs ih =>
    rw [List.flatMap_cons, rotOperands_append, emitted_operands, ih, List.flatten_cons]

/-- `emitted_seq_within`: a run of calls `(E, t, r)` (exact loop inputs of each float angle) about one axis: the
total of all emitted steps under-approximates the SUM of the requested remainders by at most the SUM of the
tolerances, and every emitted step fits the 8-bit fields. -/
theorem emitted_seq_within (axis vq : Nat) (calls : List ((Nat × Nat × Nat) × List (Nat × Nat)))
    (hs : ∀ c ∈ calls, spec c.1.1 c.1.2.1 c.1.2.2 = some c.2 ∧ 2 ^ c.1.1 ≤ c.1.2.1 * 2 ^ 247) :
    let emitted := rotOperands axis ((calls.map (·.2)).flatMap (emitRot axis vq))
    (0 : K) ≤ (calls.map (fun c => (val c.1.1 c.1.2.2 : K))).sum - sumVal emitted ∧
    (calls.map (fun c => (val c.1.1 c.1.2.2 : K))).sum - sumVal emitted ≤ (calls.map (fun c => (val c.1.1 c.1.2.1 : K))).sum ∧
    ∀ p ∈ emitted, 1 ≤ p.1 ∧ p.1 ≤ 255 ∧ p.2 ≤ 255 := by
  simp only [emitted_seq_operands]
  induction calls with
  | nil => simp [sumVal]
  | cons c cs ih =>
    obtain ⟨hc, ht⟩ := hs c List.mem_cons_self
    obtain ⟨h0, h1, h2⟩ := spec_within (K := K) _ _ _ _ hc ht
    obtain ⟨g0, g1, g2⟩ := ih fun x hx => hs x (List.mem_cons_of_mem _ hx)
    simp only [List.map_cons, List.sum_cons, List.flatten_cons, sumVal_append, add_sub_add_comm]
    exact ⟨add_nonneg h0 g0, add_le_add h1 g1,
      fun p hp => (List.mem_append.mp hp).elim (h2 p) (g2 p)⟩

/-! ### Consecutive rotations about one axis compose to one rotation by the sum

A rotation about axis `a` by θ is `cos(θ/2)·1 − sin(θ/2)·J` with `J = i·σ_a`, `J² = −1`; everything
lives in the commutative algebra generated by `J`.  `addPair` is the angle-addition law on
(cos, sin) pairs (standard trigonometry, not re-proved: `addPair (cos α, sin α) (cos β, sin β) =
(cos (α+β), sin (α+β))`). -/

section Rot
variable {A : Type} [CommRing A]

def addPair (a b : A × A) : A × A := (a.1 * b.1 - a.2 * b.2, a.2 * b.1 + a.1 * b.2)
def rotOf (J : A) (a : A × A) : A := a.1 - a.2 * J

theorem rotation_pair (J : A) (hJ : J * J = -1) (a b : A × A) :
    rotOf J a * rotOf J b = rotOf J (addPair a b) := by
  unfold rotOf addPair
  linear_combination (a.2 * b.2) * hJ

/-- `rotation_sum`: the product of the emitted rotations is the single rotation whose
(cos, sin) pair is the fold of the angle-addition law over the list. -/
theorem rotation_sum (J : A) (hJ : J * J = -1) (l : List (A × A)) :
    (l.map (rotOf J)).prod = rotOf J (l.foldr addPair (1, 0)) := by
  induction l with
  | nil => simp [rotOf]
  | cons a l ih => rw [List.map_cons, List.prod_cons, ih, List.foldr_cons, rotation_pair J hJ]

end Rot

/-- a concrete run: rest = 20/16 = 1.25, tol_pi = 1/16: one step (160, 7) → simplified (5, 2) -/
example : Run 4 1 20 [(160, 7)] 0 ∧ finish [(160, 7)] = [(5, 2)] ∧ 2 ^ 4 ≤ 1 * 2 ^ 247 :=
  ⟨Run.step 20 7 [] 0 (by decide) (by decide) (Run.done 0 (by decide)), by decide, by norm_num⟩

/-- a two-step run with a remainder above zero: rest = 1333/1024, tol_pi = 3/1024 -/
example : Run 10 3 1333 [(166, 7), (160, 15)] 0 :=
  Run.step 1333 7 [(160, 15)] 0 (by decide) (by decide)
    (Run.step (E := 10) (t := 3) 5 15 [] 0 (by decide) (by decide)
      (Run.done (E := 10) (t := 3) 0 (by decide)))

/-- the two choices near a power of two: rest = 255/128 allows d = 6 (n = 127) and d = 7 (n = 255) -/
example : Allowed 7 255 6 ∧ Allowed 7 255 7 ∧ numer 7 255 6 = 127 ∧ numer 7 255 7 = 255 := by decide

/-- F19b shape: rest = 2 gives the raw step (128, 6) and the fixed simplification stops at (2, 0) -/
example : Allowed 0 2 6 ∧ numer 0 2 6 = 128 ∧ simplify 128 6 = (2, 0) := by decide

/-- `addPair` on the half-angle pairs (cos, sin) = (0, 1) of two rotations by π: (−1, 0), the pair of the rotation
by 2π -/
example : addPair ((0 : Int), (1 : Int)) (0, 1) = (-1, 0) := by decide

end NQ.C19
