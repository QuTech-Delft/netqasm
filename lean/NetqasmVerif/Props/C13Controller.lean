/-
C13 over histories WITH entanglement deliveries through the executor's pending-response list.

`Model/Controller.lean` composes `Model/Exec.lean` (this property's model) with the EPR bookkeeping of
`Model/Epr.lean`: `deliver` appends a response to `_pending_epr_responses` and runs the loop of
`_handle_pending_epr_responses` (a response that cannot be handled yet — no request posted, virtual
qubit still allocated — stays parked, possibly ahead of one that can), `poll` re-runs the loop.
The per-action preservation lemmas are in `Props/C12Controller.lean`; here they are composed into the
history theorem the C13 correspondence stream `ctl` is tied to.
-/
import NetqasmVerif.Props.C12Controller
namespace NQ.C13
open NQ NQ.Exec NQ.Ctl

/-- Environment hypothesis of one controller action, stated on the action: sequential operations as
in `envOk`; for a delivery, every keep response in the pending list INCLUDING the new one carries a
physical qubit the link layer reserved on this controller (`reserve`), no two of them the same one.
(For `poll` the hypothesis on the current list is the separate hypothesis `hp` of `inv_controller_action`
and the second conjunct of `CEnvOkAll`.) -/
def CEnvOk (c : CState) : CAction → Prop
  | .base op => envOk c.s op = true
  | .deliver ty remote purpose dir phys fields =>
    C12.PendingEnvOk { c with book := { c.book with
      pending := c.book.pending ++ [⟨c.book.nextResp, ty, remote, purpose, dir, phys, fields⟩],
      nextResp := c.book.nextResp + 1,
      delivered := c.book.delivered ++ [⟨c.book.nextResp, ty, remote, purpose, dir, phys, fields⟩] } }
  | _ => True

/-- the part of the link layer's hypothesis that survives from action to action -/
def PendingReserved (c : CState) : Prop := C12.PendingEnvOk c

theorem stackFault_pending (c : CState) (i : Nat) : (Ctl.stackFault c i).book = c.book :=
  (C12.controller_rejected_issue_unchanged c i).2

/-- every controller action preserves the invariant (the pending-list hypothesis is only needed, and
re-established, by the actions that run the response loop) -/
theorem inv_controller_action {cfg : Cfg} {c c' : CState} (a : CAction) (hI : Inv c.s)
    (he : CEnvOk c a) (hp : a = .poll → C12.PendingEnvOk c) (h : Ctl.apply cfg c a = some c') :
    Inv c'.s := by
  cases a with
  | base op =>
    simp only [Ctl.apply, Option.some.injEq] at h
    subst h
    exact inv_step c.s op hI he
  | spawn a prog =>
    simp only [Ctl.apply, Option.some.injEq] at h
    subst h; exact hI
  | tick i =>
    simp only [Ctl.apply, Option.some.injEq] at h
    subst h; exact C12.inv_controller_tick cfg c i hI
  | stackFault i =>
    simp only [Ctl.apply, Option.some.injEq] at h
    subst h; rw [(C12.controller_rejected_issue_unchanged c i).1]; exact hI
  | deliver ty remote purpose dir phys fields =>
    exact (C12.inv_controller_deliver ty remote purpose dir phys fields hI he h).1
  | poll =>
    exact (C12.inv_controller_handlePending hI (hp rfl) h).1

/-- histories: the hypotheses along a list of controller actions -/
def CEnvOkAll (cfg : Cfg) : CState → List CAction → Prop
  | _, [] => True
  | c, a :: rest =>
    CEnvOk c a ∧ (a = .poll → C12.PendingEnvOk c) ∧
      ∀ c', Ctl.apply cfg c a = some c' → CEnvOkAll cfg c' rest

/-- **C13 over controller histories.**  After every history of life-cycle operations, instructions of
subroutines of several applications in flight (classical, allocation, `create_epr`/`recv_epr`/waits),
network-stack faults, response deliveries through the pending list and polls — of any length —
no two allocated virtual qubits share a physical qubit and the used set is exactly the mapped set
plus the qubits the link layer still holds. -/
theorem reachable_controller (cfg : Cfg) (acts : List CAction) (c c' : CState) (hI : Inv c.s)
    (he : CEnvOkAll cfg c acts) (h : Ctl.run cfg c acts = some c') : Inv c'.s := by
  induction acts generalizing c with
  | nil => simp only [Ctl.run, Option.some.injEq] at h; subst h; exact hI
  | cons a rest ih =>
    simp only [Ctl.run] at h
    split at h
    · cases h
    · rename_i c1 h1
      exact ih c1 (inv_controller_action a hI he.1 he.2.1 h1) (he.2.2 c1 h1) h

theorem reachable_controller_from_init (cfg : Cfg) (node : Int) (acts : List CAction) (c' : CState)
    (he : CEnvOkAll cfg (Ctl.init node) acts) (h : Ctl.run cfg (Ctl.init node) acts = some c') :
    Inv c'.s :=
  reachable_controller cfg acts (Ctl.init node) c' inv_init he h

/-- an action that raises (`none`) leaves no new state: the history stops there -/
theorem controller_raise_stops (cfg : Cfg) (c : CState) (a : CAction) (rest : List CAction)
    (h : Ctl.apply cfg c a = none) : Ctl.run cfg c (a :: rest) = none := by
  simp [Ctl.run, h]

/-- isolation for deliveries: a consumed response changes only the application of the request at the
head of its queue (the application of the subroutine that issued it) -/
theorem controller_consume_isolation {cfg : Cfg} {c c' : CState} {r : Epr.Resp}
    (h : Ctl.tryHandle cfg c r = .yes c') :
    ∃ hd rest app, Epr.getQ c.book.queues (Epr.keyOf c.book.nodeId r) = hd :: rest ∧
      Ctl.liveApp c hd.sub = some app ∧ ∀ b, b ≠ app → c'.s.apps b = c.s.apps b := by
  obtain ⟨hd, rest, app, ap, e', arr', ev, s1, ap1, hh⟩ := Ctl.tryHandle_yes h
  refine ⟨hd, rest, app, hh.queue, hh.live, ?_⟩
  intro b hb
  rw [hh.eq]
  unfold commit
  simp only [upd_other _ _ _ _ hb]
  rw [hh.exec]
  cases ev.vq with
  | none => rfl
  | some pos =>
    simp only
    have := isolation c.s (.keep app pos r.phys.toNat) b (by simp [opApp]; exact fun e => hb e.symm)
    simpa [Exec.apply] using this

end NQ.C13
