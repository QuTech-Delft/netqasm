/-
Obligations about the data generated from /repo's instruction classes (shared by C01 and
C02).  The probes are compared with the closed form of `Lemmas/Probe.lean`; coverage follows
from the order in which the translator lists the classes.
-/
import NetqasmVerif.Lemmas.Probe
import NetqasmVerif.Gen.InstrTable
namespace NQ.Wire
open NQ

/-- the model codec reproduces every single-bit probe (encode and decode) and the
all-zero encoding of every real instruction class -/
theorem probes_match : Gen.probes.all probeOk = true :=
  List.all_eq_true.2 fun p hp => probeOk_of_spec p
    (List.all_eq_true.1 (by decide +kernel : Gen.probes.all probeSpecOk = true) p hp)

theorem mem_rows {r : Row} (h : r ∈ Gen.vanillaRows ++ Gen.nvRows ++ Gen.reidsRows) :
    r ∈ Gen.coreRows ++ Gen.vanillaSpecific ++ Gen.nvSpecific ++ Gen.reidsSpecific := by
  simp only [Gen.vanillaRows, Gen.nvRows, Gen.reidsRows, List.mem_append] at h ⊢
  rcases h with ((h | h) | (h | h)) | (h | h) <;> simp [h]

theorem probes_rows : Gen.probes.map (·.row)
    = Gen.coreRows ++ Gen.vanillaSpecific ++ Gen.nvSpecific ++ Gen.reidsSpecific := rfl

theorem probes_cover :
    (Gen.vanillaRows ++ Gen.nvRows ++ Gen.reidsRows).all
      (fun r => Gen.probes.any (fun p => p.row == r)) = true := by
  rw [List.all_eq_true]
  intro r hr
  obtain ⟨p, hp, rfl⟩ := List.mem_map.1 (probes_rows ▸ mem_rows hr)
  exact List.any_eq_true.2 ⟨p, hp, beq_self_eq_true _⟩

theorem shapes_fit :
    (Gen.vanillaRows ++ Gen.nvRows ++ Gen.reidsRows).all
      (fun r => decide (shapeSize r.shape ≤ 6) && decide (r.opcode < 256)) = true := by decide +kernel

end NQ.Wire
