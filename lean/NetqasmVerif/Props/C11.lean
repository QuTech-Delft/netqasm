/-
C11 — EPR requests and results cross the SDK/controller boundary intact.

Model: `Model/EprReq.lean` (`serializeReq` = what `serialize_request` writes into the argument array,
`getCreateRequest` = what `_get_create_request` reads back and hands to the network stack, `storeEntInfo`
= the slice `_store_ent_info` writes, `keepHandleIndex` / `measureHandleIndex` / `entInfoIndex` = the array
index each host-side handle reads). Every position and enum numbering comes from `Gen/EprTables.lean`,
regenerated from /repo on every run.

F15 (fixed, /repo commit "fix: pass random basis choices …"): before the fix `random_basis_local/remote`
reached the stack as bare ints (`FVal.int`), and `request_to_qlink_1_0` raised AttributeError on `.value`.
The model is of the fixed code; `request_roundtrip` would be false for `rbl = some v` otherwise.
-/
import NetqasmVerif.Lemmas.EprReq
namespace NQ.C11
open NQ NQ.EprReq NQ.Gen.Epr

/-! ### Decisions built into the specification `expectedCreate` (Lemmas/EprReqSpec.lean)

1. TIME UNIT. `serialize_request` writes `time_unit` and `max_time` only when `max_time ≠ 0`; with
   `max_time = 0` the stack receives the default unit (0, microseconds) whatever unit the application
   named. `expectedCreate` therefore requires `time_unit = (if max_time = 0 then 0 else unit)`: a limit of
   zero "of any unit" is the same value — no limit — so no information the application passed is lost.
   Read literally ("the time unit the application passed is the one the stack receives") the property
   would fail for `max_time = 0 ∧ unit ≠ MICRO_SECONDS`; this reading is NOT taken, deliberately.
2. MINIMUM FIDELITY. `EPRSocket(min_fidelity=…)` is a constructor argument of the socket, sent to the
   controller in `OpenEPRSocketMessage` when the socket is opened; it is not a parameter of a create or
   receive call and `serialize_request` never writes `SER_CREATE_IDX_MINIMUM_FIDELITY`, so every
   `LinkLayerCreate` carries `minimum_fidelity = 0` (the default). `expectedCreate` pins the field to that
   default, like `priority`, `atomic`, `consecutive` and the four probability-distribution fields, for
   which the API has no parameter at all. C11's statement lists the call parameters (type, pairs, time
   limit/unit, rotations/bases, random-basis sets, socket and node ids) — min_fidelity is not among them;
   recorded here as an observation (a stack that wants the socket's fidelity must take it from the
   socket registration, not from the request).
3. R-TYPE REQUESTS. `request_to_qlink_1_0` has branches for `RequestType.K`, `.M` and `.RECV` only and
   raises `ValueError` for every R request, whatever its fields: the conversion to qlink-interface 1.0
   simply does not cover remote state preparation (`qlink_interface.ReqRemoteStatePrep` exists but is never
   constructed). "A form the link-layer interface accepts" is therefore decided for R by the same
   criteria the M branch applies: `type` is a `RequestType` member (so typed in `expectedCreate`) and both
   random-basis fields are `RandomBasis` members (`qlink_enum_fields_typed`, for all three types; the harness
   oracle builds a `ReqRemoteStatePrep` by hand from the request). The missing branch is an observation
   about the compatibility layer, not counted against C11.
4. NAMED BASES / ROTATIONS. `basis_local=…` is resolved by the SDK with `basis_to_rotation`; the
   harness resolves it independently from the documented table (X (0,24,0), Y (8,0,0), Z (0,0,0),
   MX (0,8,0), MY (24,0,0), MZ (16,0,0)) and `named_bases_in_range` ties the generated table to 0..31.
   Keep requests carry no rotations or random-basis sets (the API has no such parameters): `expectedCreate`
   has defaults there.
-/

/-! ### generated obligations (decided by the kernel over the tables read from /repo) -/

/-- shape of the tables: 22 create fields with one default each, 20 of them in the argument array,
every `SER_CREATE_IDX_*` inside the array, the three OK tuples' lengths as the code's constants say,
and the executor's slice width equals both SDK widths. -/
theorem tables_wellformed :
    createFields.length = createDefaults.length ∧ createFieldsN + 2 = createFields.length ∧
    serCreateLen = createFieldsN ∧ serCreate.all (fun p => decide (p.2 < serCreateLen)) = true ∧
    okK.length = okFieldsK ∧ okM.length = okFieldsM ∧
    okFieldsK = okFieldsExec ∧ okFieldsM = okFieldsExec ∧
    serKeepLen = okFieldsExec ∧ serMeasureLen = okFieldsExec ∧
    (eprType.map (·.2)) = [0, 1, 2] ∧
    eprType.all (fun p => requestType.contains p) = true := by decide

/-- `SER_CREATE_IDX_<NAME>` is the position of field `<name>` of `LinkLayerCreate` minus the two leading
immediates (remote node, purpose): the constants, in index order 0..19, carry the names of fields
2..21 in order (the translator pairs names modulo case and the `PROBABLIITY` spelling). Detects any
swapped or shifted index. -/
theorem ser_create_matches_fields :
    serCreateField.map (·.2) = createFields.drop 2 ∧
    serCreateField.map (·.1) = serCreate.map (·.1) ∧
    serCreate.map (·.2) = List.range serCreateLen := ⟨rfl, rfl, rfl⟩

/-- which link-layer response field each attribute of the host-side handles stands for (the
specification: qubit i, remote node, duration, Bell state, outcome) -/
def keepSpec : List (String × String) :=
  [("qubit_id", "logical_qubit_id"), ("remote_node_id", "remote_node_id"),
   ("generation_duration", "goodness"), ("raw_bell_state", "bell_state")]

def measureSpec : List (String × String) :=
  [("raw_measurement_outcome", "measurement_outcome"), ("remote_node_id", "remote_node_id"),
   ("generation_duration", "goodness"), ("raw_bell_state", "bell_state")]

/-- the indices the real deserialisers asked for (recorded for 3 pairs) are the model's handle indices,
the `SER_RESPONSE_*_IDX_*` constants are the positions of the named fields in the OK tuples, and
`Qubit.entanglement_info` field j of pair i reads entry `i·OK_FIELDS + j`. -/
theorem handles_match_fields :
    keepHandles.all (fun (i, attr, idx) => keepHandleIndex attr i == some idx) = true ∧
    measureHandles.all (fun (i, attr, idx) => measureHandleIndex attr i == some idx) = true ∧
    entInfoHandles.all (fun (i, f, idx) => entInfoIndex (okK.idxOf f) i == idx && okK.contains f) = true ∧
    keepSpec.all (fun (attr, f) => (keepConst attr).bind (lookupNat serKeep) == some (okK.idxOf f)
      && decide (okK.idxOf f < okFieldsK)) = true ∧
    measureSpec.all (fun (attr, f) => (measureConst attr).bind (lookupNat serMeasure) == some (okM.idxOf f)
      && decide (okM.idxOf f < okFieldsM)) = true ∧
    serKeep.map (·.2) = List.range okK.length ∧ serMeasure.map (·.2) = List.range okM.length := by
  decide +kernel

/-- the fields `request_to_qlink_1_0` dereferences with `.value` are exactly the two random-basis
fields, which `expectedCreate` types as `RandomBasis` members -/
theorem qlink_enum_fields_typed :
    qlinkEnumFields = ["random_basis_local", "random_basis_remote"] ∧
    ∀ tp remote purpose p, ∀ f ∈ qlinkEnumFields,
      ∃ v, (expectedCreate tp remote purpose p).find? (·.1 == f) = some (f, .randBasis v) := by
  refine ⟨by decide, ?_⟩
  intro tp remote purpose p f hf
  simp only [qlinkEnumFields, List.mem_cons, List.mem_nil_iff, or_false] at hf
  rcases hf with rfl | rfl
  · exact ⟨_, rfl⟩
  · exact ⟨_, rfl⟩

/-- For every request type K/M/R (`tp` = 0/1/2), every pair count, time unit and limit, rotation
triples (any integers, in particular 0..31 and the six named bases), random-basis sets (any `RandomBasis`
member or none), socket (purpose) and node ids: what the executor hands to the network stack is exactly
`expectedCreate` — link-layer typed, SDK-unset fields at the `LinkLayerCreate` defaults. -/
theorem request_roundtrip (tp : Int) (htp : tp = 0 ∨ tp = 1 ∨ tp = 2) (remote purpose : Int)
    (p : ReqParams) (hl : ValidRB p.rbl) (hr : ValidRB p.rbr) :
    (serializeReq tp p).bind (getCreateRequest remote purpose) = some (expectedCreate tp remote purpose p) :=
  EprReq.roundtrip tp htp remote purpose p (fun _ => hl) (fun _ => hr)

/-- The purpose id is whatever the network stack assigns to (remote node, local EPR socket id):
`_get_purpose_id` must ask the stack with BOTH. For an ARBITRARY assignment `f` (parameter), the request
for socket `socket` towards `remote` carries exactly `remote_node_id = remote` and
`purpose_id = f remote socket` — nothing remembered from another socket or another remote node. -/
theorem request_ids_exact (f : Int → Int → Int) (tp : Int) (htp : tp = 0 ∨ tp = 1 ∨ tp = 2)
    (remote socket : Int) (p : ReqParams) (hl : ValidRB p.rbl) (hr : ValidRB p.rbr) :
    ∃ kw, (serializeReq tp p).bind (getCreateRequest remote (f remote socket)) = some kw ∧
      kw.find? (·.1 == "remote_node_id") = some ("remote_node_id", .int remote) ∧
      kw.find? (·.1 == "purpose_id") = some ("purpose_id", .int (f remote socket)) := by
  exact ⟨_, request_roundtrip tp htp remote (f remote socket) p hl hr, rfl, rfl⟩

/-- if the stack's assignment is injective per remote node, the key (remote node, purpose) under which the
controller files requests and matches responses (C12's queue key) determines the application's
(remote node, socket): two sockets never share a queue, whatever their local ids. -/
theorem queue_key_determines_socket (f : Int → Int → Int) (hinj : ∀ r s s', f r s = f r s' → s = s')
    (r r' s s' : Int) (h : (r, f r s) = (r', f r' s')) : r = r' ∧ s = s' := by
  simp only [Prod.mk.injEq] at h
  obtain ⟨h1, h2⟩ := h
  subst h1
  exact ⟨rfl, hinj r s s' h2⟩

/-- non-vacuity: the harness stack's assignment `remote·1000 + socket` is injective per remote node, and
two sockets with the SAME local id 0 towards remote nodes 1 and 2 get different purposes -/
example : (∀ r s s' : Int, r * 1000 + s = r * 1000 + s' → s = s') ∧ (1 * 1000 + 0 : Int) ≠ 2 * 1000 + 0 :=
  ⟨fun r s s' h => by omega, by decide⟩

/-- the six named bases are rotation triples the theorem covers (values 0..31) -/
theorem named_bases_in_range : basisRot.all (fun (_, a, b, c) =>
    decide (0 ≤ a ∧ a < 32 ∧ 0 ≤ b ∧ b < 32 ∧ 0 ≤ c ∧ c < 32)) = true := by decide

/-- non-vacuity: a measure request with a random-basis set, a named basis (X = (0,24,0)) and a time
limit; every `RandomBasis` member is valid -/
example : (serializeReq 1 ⟨2, 1, 5, some 1, none, (0, 24, 0), (0, 0, 0)⟩).bind (getCreateRequest 7 3) =
    some (expectedCreate 1 7 3 ⟨2, 1, 5, some 1, none, (0, 24, 0), (0, 0, 0)⟩) ∧
    (randomBasis.map (·.2)).all isRandBasis = true ∧ ValidRB (some 3) ∧ ValidRB none := by
  have hv : ∀ v, isRandBasis v = true → ValidRB (some v) := fun v h x hx => Option.some.inj hx ▸ h
  have hn : ValidRB none := fun x hx => nomatch hx
  exact ⟨request_roundtrip 1 (by decide) 7 3 _ (hv 1 (by decide)) hn, by decide, hv 3 (by decide), hn⟩

/-- Result handles, keep type (`EprKeepResult`; also R-type receivers): for EVERY number of pairs, after
the responses `rs` (each of `OK_FIELDS` values, enums as their `.value`) were stored at pair indices
0, 1, …, the handle attribute `attr` of pair `i` reads the field of response `i` that `keepSpec` names. -/
theorem result_handles_keep (rs : List (List Int)) (arr arr' : List (Option Int))
    (hlen : ∀ r ∈ rs, r.length = okFieldsExec) (h : storeAll okFieldsExec arr 0 rs = some arr')
    (i : Nat) (r : List Int) (hr : rs[i]? = some r) (attr field : String) (hs : (attr, field) ∈ keepSpec) :
    ∃ idx v, keepHandleIndex attr i = some idx ∧ r[okK.idxOf field]? = some v ∧
      arr'[idx]? = some (some v) := by
  obtain ⟨hc, hj⟩ : (keepConst attr).bind (lookupNat serKeep) = some (okK.idxOf field) ∧
      okK.idxOf field < okFieldsK := by
    simpa using List.all_eq_true.1 handles_match_fields.2.2.2.1 _ hs
  obtain ⟨v, hv, ha⟩ := storeAll_read rs arr arr' hlen h i r hr _ hj
  refine ⟨_, v, ?_, hv, ha⟩
  cases hk : keepConst attr with
  | none => rw [hk] at hc; cases hc
  | some c => rw [hk, Option.bind_some] at hc; rw [keepHandleIndex, hk, Option.bind_some, hc]; rfl

/-- Result handles, measure type (`EprMeasureResult`, used for M and for the creator of R). -/
theorem result_handles_measure (rs : List (List Int)) (arr arr' : List (Option Int))
    (hlen : ∀ r ∈ rs, r.length = okFieldsExec) (h : storeAll okFieldsExec arr 0 rs = some arr')
    (i : Nat) (r : List Int) (hr : rs[i]? = some r) (attr field : String) (hs : (attr, field) ∈ measureSpec) :
    ∃ idx v, measureHandleIndex attr i = some idx ∧ r[okM.idxOf field]? = some v ∧
      arr'[idx]? = some (some v) := by
  obtain ⟨hc, hj⟩ : (measureConst attr).bind (lookupNat serMeasure) = some (okM.idxOf field) ∧
      okM.idxOf field < okFieldsM := by
    simpa using List.all_eq_true.1 handles_match_fields.2.2.2.2.1 _ hs
  obtain ⟨v, hv, ha⟩ := storeAll_read rs arr arr' hlen h i r hr _ hj
  refine ⟨_, v, ?_, hv, ha⟩
  cases hk : measureConst attr with
  | none => rw [hk] at hc; cases hc
  | some c => rw [hk, Option.bind_some] at hc; rw [measureHandleIndex, hk, Option.bind_some, hc]; rfl

/-- `Qubit.entanglement_info` of pair `i`: field number `j` of the `LinkLayerOKTypeK` of futures reads
field `j` of response `i`, for every number of pairs and every `j < OK_FIELDS`. -/
theorem result_handles_ent_info (rs : List (List Int)) (arr arr' : List (Option Int))
    (hlen : ∀ r ∈ rs, r.length = okFieldsExec) (h : storeAll okFieldsExec arr 0 rs = some arr')
    (i : Nat) (r : List Int) (hr : rs[i]? = some r) (j : Nat) (v : Int) (hv : r[j]? = some v) :
    arr'[entInfoIndex j i]? = some (some v) := by
  have hget := (storeAll_get rs arr arr' 0 hlen h).1 i r hr j v hv
  simpa [entInfoIndex, okFieldsK, okFieldsExec] using hget

/-- `Qubit.entanglement_info` on hardware with ONE communication qubit (NV), all `n` pairs requested at
once: pair `i` is generated in virtual qubit 0 and ends up in virtual qubit `nvPairLocation n i`; exactly
one returned qubit (number `i`) carries that virtual id, ids of returned qubits are pairwise distinct and
below `n`, and field `j` of ITS `entanglement_info` reads field `j` of response `i` — for every `n`. -/
theorem result_handles_ent_info_nv (rs : List (List Int)) (arr arr' : List (Option Int))
    (hlen : ∀ r ∈ rs, r.length = okFieldsExec) (h : storeAll okFieldsExec arr 0 rs = some arr')
    (i : Nat) (r : List Int) (hr : rs[i]? = some r) (j : Nat) (v : Int) (hv : r[j]? = some v) :
    nvHandleId rs.length i = nvPairLocation rs.length i ∧ nvHandleId rs.length i < rs.length ∧
    (∀ i', i' < rs.length → nvHandleId rs.length i' = nvPairLocation rs.length i → i' = i) ∧
    arr'[entInfoIndex j (handleSlice i)]? = some (some v) := by
  have hi : i < rs.length := (List.getElem?_eq_some_iff.1 hr).1
  refine ⟨?_, ?_, ?_, result_handles_ent_info rs arr arr' hlen h i r hr j v hv⟩
  · unfold nvHandleId nvPairLocation
    split
    · next e => rw [e, Nat.sub_self]
    · rfl
  · exact Nat.lt_of_le_of_lt (Nat.sub_le _ _) (Nat.sub_lt (Nat.zero_lt_of_lt hi) Nat.one_pos)
  · intro i' hi'
    unfold nvHandleId nvPairLocation
    split <;> omega

/-- non-vacuity / the recorded NV layout for 3 pairs: returned qubits get virtual ids 2, 1, 0 and the
pairs end in 2, 1, 0 -/
example : (List.range 3).map (nvHandleId 3) = [2, 1, 0] ∧ (List.range 3).map (nvPairLocation 3) = [2, 1, 0] ∧
    (List.range 3).map (fun i => handleLayout true false 3 i) = [(2, 0), (1, 1), (0, 2)] := by decide

/-- VALUE RANGE: the result theorems are over `Int` — the model stores the response fields as unbounded
integers, exactly the value the link layer delivered, with no wrap at 32 or 64 bits (a generation
duration of 5 s in ns, a 32-bit create id with the top bit set, 2^63−1 …). Any narrowing in the code
(`c_int32(...)`, truncation on the way to the host) breaks the correspondence and the handle oracle, which
draws fields from the classes 0, 1, 2^31−1, 2^31, 2^32−1, 2^32, 5·10^9, 2^63−1. -/
example : (storeAll okFieldsExec (List.replicate 10 none) 0
    [[0, 4294967296, 5, 1, 9223372036854775807, 1000, 1, 5000000000, 2147483648, 3]]).map
      (fun a => (a[7]?, a[8]?, a[4]?, a[1]?)) =
    some (some (some 5000000000), some (some 2147483648), some (some 9223372036854775807),
          some (some 4294967296)) := by decide

/-- non-vacuity of the result theorems: two responses stored into a fresh array of 20 entries -/
example : (storeAll okFieldsExec (List.replicate 20 none) 0
    [[0, 1, 102, 0, 4, 5, 6, 7, 8, 3], [0, 2, 103, 0, 5, 5, 6, 70, 80, 1]]).map (fun a => a[1 * 10 + 7]?) =
    some (some (some 70)) := by decide

end NQ.C11
