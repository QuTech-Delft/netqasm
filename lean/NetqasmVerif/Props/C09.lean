/-
C09 — SDK and controller agree on which virtual qubits exist.

Model: `Model/QubitMgr.lean` (SDK handles with mutable virtual ids, lowest-unused id choice, the NV
relocation with its peephole as coded after the `fix:` commits for F11/F13, EPR handle creation
(and release at the end of loop constructs, as coded after the fixes for F12/F29) on
both hardware configs, and the controller's unit module with K-type delivery).  A pending
subroutine is its list of allocation-relevant events; `run` executes them on the unit module and
returns `.error` exactly when an instruction addresses an unallocated / out-of-range virtual
qubit, a `qalloc` targets an allocated one, or a delivery can never be handled.

FULL STATEMENT (property C09): for every history `ops` of host operations (creation, gates,
in-place and destructive measurement, free, EPR keep / sequential / context on both roles,
flushes) that keeps at most `limit c` qubits alive (`maxq`, one fewer on NV), on generic and NV
configurations, with and without the NV transpiler:
  `(runOps c St.init ops).2.fatal = false ∧ Inv c (runOps c St.init ops).1`.
The code (after the `fix:` commits for F11, F13, F12, F29 and the NV context block) still violates
it in two ways (open findings, counter-examples proved below):
  F28 NV multi-pair keep asserts when an id in 1..n-1 is taken,
  F30 the NV transpiler's carbon–carbon gates use virtual qubit 0 even if it is not allocated.
`good` (`opOk` per operation, Lemmas/QubitMgr.lean) spells out these two hypotheses besides the
budget and "gates on live handles, two-qubit gates on two different handles"; it further asks that a
loop construct handling all its pairs in ONE id keeps at most one pair alive (a second pair could
never be delivered: `.fault .blocked` below; the sequential retry form must consume every pair),
that a keep asks for at least one pair, and that the retry forms end with a successful attempt
(`retry_exhausted_witness`).  Sequential keeps and context blocks (both roles, sequential or not,
any number of pairs) are inside the proved part:
when their loop bodies consume each pair the placeholders' ids are released at the end of the
construct (F12/F29 fixed), and on single-communication-qubit hardware a context block handles its
pairs in virtual qubit 0.

Where the words of the statements are defined: `Cfg`, `St`, `Op`, `apply`, `runOps`, `run`,
`activeIds`, `lowestUnused` in Model/QubitMgr.lean; `limit`, `Inv`, `opOk`, `good` at the top of
Lemmas/QubitMgr.lean; `Agree` below.
-/
import NetqasmVerif.Lemmas.QubitMgr
namespace NQ.C09
open NQ.QM

/-- after a flush: the SDK's active ids are exactly the controller's allocated virtual ids, and
no two live handles share an id -/
def Agree (st : St) : Prop :=
  (activeIds st.hs).Nodup ∧ ∀ v, v ∈ st.unit ↔ v ∈ activeIds st.hs

/-- meaning of "`run` succeeds": every `qalloc` hits a free address inside the unit module … -/
theorem step_alloc_ok {m : Nat} {u u' : List Nat} {v : Nat} (h : step m u (.alloc v) = .ok u') :
    v < m ∧ v ∉ u :=
  ⟨(step_alloc_inv h).1, (step_alloc_inv h).2.1⟩

/-- … and every other instruction addresses an allocated virtual qubit -/
theorem step_use_ok {m : Nat} {u u' : List Nat} {v : Nat} (h : step m u (.use v) = .ok u') :
    v < m ∧ v ∈ u :=
  ⟨(step_use_inv h).1, (step_use_inv h).2.1⟩

theorem step_free_ok {m : Nat} {u u' : List Nat} {v : Nat} (h : step m u (.free v) = .ok u') :
    v < m ∧ v ∈ u :=
  ⟨(step_free_inv h).1, (step_free_inv h).2.1⟩

theorem inv_init (c : Cfg) : Inv c St.init := QM.inv_init c

/-- **agree_preserved** (partial: `good` excludes the open findings F28 and F30 only).
For histories of ANY length (induction over the history): no operation faults and the joint
invariant — pending events run fault-free from the controller's unit module and end in exactly
the SDK's active id set; ids pairwise distinct, inside the unit module, within the budget — is
preserved, for creation, gates, in-place/destructive measurement, free, keep, sequential keep
with post routine, context blocks (both roles), the min-fidelity retry forms of keep (any number
of too slow attempts before a successful one), flush and close.  Generic and NV configurations,
with and without the transpiler. -/
theorem agree_preserved_partial (c : Cfg) (ops : List Op) (hg : good c St.init ops = true) :
    (runOps c St.init ops).2.fatal = false ∧ Inv c (runOps c St.init ops).1 :=
  let h := inv_runOps ops St.init (QM.inv_init c) hg
  ⟨h.2, h.1⟩

/-- one step of the induction, for an arbitrary reachable state -/
theorem agree_step_partial (c : Cfg) (st : St) (op : Op) (hi : Inv c st) (hok : opOk c st op = true) :
    Inv c (apply c st op).1 ∧ (apply c st op).2.fatal = false := inv_apply hi hok

/-- within a subroutine: the emitted instructions run without any allocation fault -/
theorem no_alloc_fault (c : Cfg) (st : St) (hi : Inv c st) :
    ∃ u, run c.maxq st.unit st.evs = .ok u := by
  obtain ⟨u, hu, _⟩ := hi.runs; exact ⟨u, hu⟩

/-- after every flush `Agree` holds (and the flush itself does not fault) -/
theorem agree_after_flush (c : Cfg) (st : St) (hi : Inv c st) :
    (flushSt c st).2 = .ok ∧ Agree (flushSt c st).1 := by
  obtain ⟨i1, i2, i3, _⟩ := inv_flush hi
  exact ⟨i2, i1.nodup, i3⟩

/-- **id_reuse**: after `free()` or a destructive measurement the id is unused on the SDK side,
so the id choice hands out an id no larger than it — and exactly it as soon as all smaller ids
are in use. -/
theorem id_reuse_free (c : Cfg) (st : St) (h : Nat) (q : Handle) (hi : Inv c st)
    (hq : st.hs[h]? = some q) (hact : q.active = true) :
    q.id ∉ activeIds (apply c st (.free h)).1.hs ∧
    lowestUnused (activeIds (apply c st (.free h)).1.hs) ≤ q.id :=
  have h := (free_spec hi hq).2.2 hact
  ⟨h, lowestUnused_le _ _ h⟩

theorem id_reuse_meas (c : Cfg) (st : St) (h : Nat) (q : Handle) (hi : Inv c st)
    (hq : st.hs[h]? = some q) (hact : q.active = true) :
    q.id ∉ activeIds (apply c st (.meas h false)).1.hs ∧
    lowestUnused (activeIds (apply c st (.meas h false)).1.hs) ≤ q.id :=
  have h := (meas_spec hi hq).2.2 hact rfl
  ⟨h, lowestUnused_le _ _ h⟩

/-- the id handed out is the lowest unused one: `v` itself once everything below is taken -/
theorem id_choice (ids : List Nat) (v : Nat) (hv : v ∉ ids) (hb : ∀ w, w < v → w ∈ ids) :
    lowestUnused ids = v := by
  have h1 := lowestUnused_le ids v hv
  have h2 := lowestUnused_not_mem ids
  rcases Nat.lt_or_ge (lowestUnused ids) v with h | h
  · exact absurd (hb _ h) h2
  · omega

/-! ### non-vacuity: `good` histories exist on every configuration and exercise the NV
relocation (peephole and move), keep, gates, in-place and destructive measurement, free -/

example : good ⟨true, false, 5⟩ St.init
    [.new, .new, .meas 1 false, .flush, .new, .meas 2 true, .keep true 1, .gate2 0 3, .free 0,
     .flush, .new, .close] = true := by decide +kernel
example : good ⟨true, true, 3⟩ St.init
    [.new, .keep false 1, .gate2 0 1, .meas 0 false, .gate 1, .flush] = true := by decide +kernel
example : good ⟨false, false, 2⟩ St.init
    [.keep false 2, .free 0, .new, .meas 1 false, .new, .flush, .gate2 2 3, .flush] = true := by decide +kernel
example : good ⟨true, false, 5⟩ St.init
    [.keep true 3, .gate2 0 2, .meas 1 false, .flush, .keep false 2, .flush, .close] = true := by decide +kernel
/-- NV keep of three pairs: memory ids 2 and 1 are allocated, each pair arrives in id 0 and all
but the last are moved -/
example : ((runOps ⟨true, false, 5⟩ St.init [.keep true 3]).1.evs
    = [.alloc 2, .use 2, .alloc 1, .use 1, .deliver 0, .use2 0 2, .free 0, .deliver 0, .use2 0 1,
       .free 0, .deliver 0]) := by decide +kernel
/-- the peephole really fires in the first example: after `new; new; meas 1` on NV the
allocation of handle 0 has been re-addressed to id 2 -/
example : ((runOps ⟨true, false, 5⟩ St.init [.new, .new, .meas 1 false]).1.evs
    = [.alloc 0, .use 0, .alloc 1, .use 1, .alloc 2, .use 2, .use2 0 2, .free 0, .use 1, .free 1]) := by
  decide +kernel
example : ((runOps ⟨true, false, 5⟩ St.init [.new, .keep false 1]).1.evs
    = [.alloc 1, .use 1, .deliver 0]) := by decide +kernel

/-- non-vacuity for the retry forms (`min_fidelity_all_at_end`, `max_tries`): plain and sequential,
generic and NV (with a live qubit on id 0 that is relocated once, before the loop), slow first attempts -/
example : good ⟨false, false, 5⟩ St.init
    [.new, .keepr true 2 1 3, .seqr true 2 ⟨1, .meas⟩ 2 3, .flush, .free 1, .new, .flush, .close] = true := by
  decide +kernel
example : good ⟨true, false, 5⟩ St.init
    [.keepr false 2 1 2, .flush, .new, .seqr true 3 ⟨0, .meas⟩ 1 2, .meas 1 false, .flush] = true := by decide +kernel
/-- NV, live qubit on id 0, first attempt too slow: the relocation (here through the peephole)
happens once, before the loop; NV, two pairs: each attempt allocates memory qubit 1 and the
clean-up frees both pairs -/
example : ((runOps ⟨true, false, 5⟩ St.init [.new, .keepr false 1 1 2]).1.evs
    = [.alloc 1, .use 1, .deliver 0, .free 0, .deliver 0]) := by decide +kernel
example : ((runOps ⟨true, false, 5⟩ St.init [.keepr false 2 1 2]).1.evs
    = [.alloc 1, .use 1, .deliver 0, .use2 0 1, .free 0, .deliver 0, .free 1, .free 0,
       .alloc 1, .use 1, .deliver 0, .use2 0 1, .free 0, .deliver 0]) := by decide +kernel

/-- why `good` asks for `fails < tries`: when every attempt is too slow the last clean-up frees
the pairs, yet the request has returned live handles — outside the statement (the request
failed), recorded here as a proved fact about the code -/
theorem retry_exhausted_witness :
    activeIds (runOps ⟨false, false, 5⟩ St.init [.keepr true 2 2 2, .flush]).1.hs = [0, 1] ∧
    (runOps ⟨false, false, 5⟩ St.init [.keepr true 2 2 2, .flush]).1.unit = [] := by decide +kernel

/-- non-vacuity: a post routine that only applies gates (non-sequential request, two pairs, generic
hardware: two live handles with distinct ids), a context block whose body measures in place, a
sequential request of one pair kept alive on NV; afterwards a new qubit gets a fresh id -/
example : good ⟨false, false, 5⟩ St.init
    [.postk true 2 ⟨1, .none⟩, .ctx false 2 false ⟨0, .inplace⟩, .flush, .new, .gate2 0 4, .meas 1 false,
     .flush, .close] = true := by decide +kernel
example : (activeIds (runOps ⟨false, false, 5⟩ St.init
    [.postk true 2 ⟨1, .none⟩, .ctx false 2 false ⟨0, .inplace⟩, .flush, .new]).1.hs = [0, 1, 2, 3, 4]) ∧
    ((runOps ⟨false, false, 5⟩ St.init
    [.postk true 2 ⟨1, .none⟩, .ctx false 2 false ⟨0, .inplace⟩, .flush]).1.unit.length = 4) := by decide +kernel
example : good ⟨true, false, 4⟩ St.init
    [.new, .seq false 1 ⟨2, .none⟩, .ctx true 1 false ⟨0, .inplace⟩, .flush, .meas 1 false, .flush] = true := by
  decide +kernel
/-- all pairs in ONE id and a body that keeps them: only one pair can ever arrive (why `good` asks
for `n ≤ 1` there) -/
example : (runOps ⟨false, false, 5⟩ St.init [.seq false 2 ⟨0, .none⟩, .flush]).2 = .fault .blocked := by decide +kernel

/-- **connections_independent**: whatever the interleaving of the operations of two connections
(including one connection acting while a context block of the other is open), the joint state
is the pair of the states each connection reaches on its own operations alone -/
theorem connections_independent (cs : Cfg × Cfg) (h : List (Bool × Op)) (s : St × St) :
    runJ cs s h = (foldOps cs.1 s.1 (projOps false h), foldOps cs.2 s.2 (projOps true h)) := by
  induction h generalizing s with
  | nil => rfl
  | cons e es ih =>
    obtain ⟨i, op⟩ := e
    cases i with
    | true => simp only [runJ, applyJ, if_true, ih, projOps]; rfl
    | false => simp only [runJ, applyJ, Bool.false_eq_true, if_false, ih, projOps]; rfl

/-- hence the invariant holds for both connections under any interleaving -/
theorem agree_preserved_two_partial (cs : Cfg × Cfg) (h : List (Bool × Op))
    (h1 : good cs.1 St.init (projOps false h) = true) (h2 : good cs.2 St.init (projOps true h) = true) :
    Inv cs.1 (runJ cs (St.init, St.init) h).1 ∧ Inv cs.2 (runJ cs (St.init, St.init) h).2 := by
  rw [connections_independent]
  exact ⟨inv_foldOps _ _ (QM.inv_init _) h1, inv_foldOps _ _ (QM.inv_init _) h2⟩

example : good ⟨false, false, 5⟩ St.init (projOps false
    [(false, .new), (true, .ctx true 2 false ⟨1, .meas⟩), (false, .ctx false 2 false ⟨1, .meas⟩),
     (true, .flush), (false, .flush)]) = true := by decide +kernel

/-- F28: NV, five qubits, one live qubit: `recv_keep(number=2)` trips the assertion in
`_create_ent_qubits` although 3 ≤ 4 qubits are needed -/
theorem f28_counterexample :
    (runOps ⟨true, false, 5⟩ St.init [.new, .keep true 2]).2 = .assertion := by decide +kernel

/-- F30: NV transpiler, ids 1 and 2 live, id 0 free: a cnot between them addresses virtual
qubit 0 -/
theorem f30_counterexample :
    (runOps ⟨true, true, 5⟩ St.init
      [.new, .new, .new, .meas 0 false, .gate2 1 2, .flush]).2 = .fault .notAlloc := by decide +kernel

/-- F12 (fixed): two `create_context(number=3)` blocks on five qubits now run: after each block
and flush neither side holds an id -/
theorem f12_fixed_witness :
    let c : Cfg := ⟨false, false, 5⟩
    let blk : Op := .ctx false 3 false ⟨1, .meas⟩
    good c St.init [blk, .flush, blk, .flush] = true ∧
    activeIds (runOps c St.init [blk, .flush]).1.hs = [] ∧
    (runOps c St.init [blk, .flush, blk, .flush]).2 = .ok ∧
    (runOps c St.init [blk, .flush, blk, .flush]).1.unit = [] := by decide +kernel

/-- F29 (fixed): after a sequential keep whose post routine measures each pair no handle is
active, the id is handed out again, and a later NV relocation has nothing to move -/
theorem f29_fixed_witness :
    activeIds (runOps ⟨false, false, 2⟩ St.init [.seq false 2 ⟨0, .meas⟩, .flush]).1.hs = [] ∧
    good ⟨true, false, 5⟩ St.init
      [.seq false 3 ⟨0, .meas⟩, .flush, .new, .new, .meas 4 false, .flush] = true ∧
    (runOps ⟨true, false, 5⟩ St.init
      [.seq false 3 ⟨0, .meas⟩, .flush, .new, .new, .meas 4 false, .flush]).2 = .ok := by decide +kernel

/-- NV non-sequential context block with three pairs and a live qubit: the live qubit is
relocated from id 0 and every pair is handled in id 0 (fixed; used to block forever) -/
theorem nv_context_fixed_witness :
    good ⟨true, false, 5⟩ St.init [.new, .ctx false 3 false ⟨1, .meas⟩, .flush, .close] = true ∧
    (runOps ⟨true, false, 5⟩ St.init [.new, .ctx false 3 false ⟨1, .meas⟩, .flush]).1.unit = [1] ∧
    (runOps ⟨true, false, 5⟩ St.init [.new, .ctx false 3 false ⟨1, .meas⟩]).1.evs
      = [.alloc 1, .use 1, .deliver 0, .use 0, .use 0, .free 0, .deliver 0, .use 0, .use 0, .free 0,
         .deliver 0, .use 0, .use 0, .free 0] := by decide +kernel

end NQ.C09
