/-
C06 — Pre-compiled templated subroutines equal direct compilation.

Models: `Model/Template.lean`.  Three layers:
 (1) assembled instructions: `instantiate σ` replaces template operands by immediates, so the
     instantiated subroutine is *the same instruction list* as the one written with the values —
     hence the same bytes through the codec of C01/C02 (`instantiate_encode`);
 (2) assembler: the constant-replacement pass commutes with substitution as long as templates
     sit at positions of the exception table (`subst_assemble`); the live exception table, the
     positions at which `from_operands` keeps a Template and the positions at which the builder
     emits one are regenerated from /repo (Gen/TemplateTable.lean) and the two inclusions are
     decided by the kernel;
 (3) connection/builder bookkeeping: `compile_commit_eq_flush` — for EVERY history of segments
     (any builder activity, then `flush()` or `compile(); instantiate σ; commit_subroutine()`),
     the subroutines sent to the controller and the final bookkeeping of the pre-compiled flow
     equal those of the flow written with the concrete values and ordinary flushes (induction
     over the history).  `compile()` is the code after the `fix:` for F7; `f7_old_counterexample`
     shows the statement is false for `compile()` without `_reset()`.

What is and is not proved in (3): in the model `compileOp` and `flushOp` are the same text
(`Tpl.compileOp_eq_flushOp := rfl`), so that the real `compile()` does what `flush()` does minus the
send is a modelling decision, tied to the code by the C06 correspondence, not a theorem.  The theorems
show that substituting the values commutes with the builder operations and with the flush, over
whole histories.  Likewise `instantiate_encode` only says that equal instruction lists encode equally
(the content of layer (1) is `instantiate_concrete` / `instantiate_rotation`), and `instantiate_pure`,
`instantiate_failed_unchanged` read off the definition of `instCall` (the model of `instantiate`
working on a copy); the informative statements there are `instantiate_reuse` and
`inplace_counterexample`.
-/
import NetqasmVerif.Lemmas.Template
import NetqasmVerif.Model.Codec
import NetqasmVerif.Gen.TemplateTable
namespace NQ.C06
open NQ NQ.Tpl

/-- instantiating a subroutine that has no templates changes nothing -/
theorem instantiate_concrete (σ : String → Int) (is : List Instr) :
    instantiate σ (is.map embed) = is := by
  simp [instantiate, embed, Function.comp_def, instOp]

/-- a rotation with a template angle numerator instantiates to the rotation with that value:
the operand order is kept and only the template position changes -/
theorem instantiate_rotation (σ : String → Int) (cls n : String) (q : Reg) (d : Int) :
    instantiate σ [⟨cls, [.op (.reg q), .tmpl n, .op (.imm d)]⟩] =
      [⟨cls, [.reg q, .imm (σ n), .imm d]⟩] := rfl

/-- **instantiate then encode = encode the program written with the values** (any table, any
version/app id): both sides are the codec of C01/C02 applied to the same instruction list -/
theorem instantiate_encode (T : Table) (σ : String → Int) (v0 v1 app : Nat) (P : List TInstr)
    (direct : List Instr) (h : instantiate σ P = direct) :
    encodeSub T ⟨v0, v1, app, instantiate σ P⟩ = encodeSub T ⟨v0, v1, app, direct⟩ := by rw [h]

/-- generated obligation: every position at which the SDK builder emits a Template is one at
which the instruction classes keep it in `from_operands` … -/
theorem builder_positions_accepted :
    Gen.builderTemplatePositions.all (fun p => Gen.acceptsTemplate.contains p) = true := by decide +kernel

/-- … and every such position is exempt from constant replacement in the assembler -/
theorem accepted_positions_exempt :
    Gen.acceptsTemplate.all (fun p => Gen.replaceConstantsException.contains p) = true := by decide +kernel

theorem templatesExempt_mono (P E : List (String × Nat)) (hPE : P.all (fun p => E.contains p) = true)
    (name : String) : ∀ (os : List POp) (j : Nat), templatesExempt P name j os = true →
      templatesExempt E name j os = true := by
  intro os
  induction os with
  | nil => intro j _; rfl
  | cons o os ih =>
    intro j h
    simp only [templatesExempt, Bool.and_eq_true] at h ⊢
    refine ⟨?_, ih (j + 1) h.2⟩
    cases o with
    | int v => rfl
    | txt s => rfl
    | tmpl n =>
      have h1 : P.contains (name, j) = true := h.1
      rw [List.all_eq_true] at hPE
      exact hPE (name, j) (by simpa using h1)

/-- **subst_assemble**: for a command whose templates sit where the builder can emit them, the
assembler's constant replacement (live exception table) commutes with substitution:
assembling the template command and then instantiating = assembling the command written with
the values -/
theorem subst_assemble (fresh : List String) (σ : String → Int) (c : PCmd)
    (h : templatesExempt Gen.builderTemplatePositions c.name 0 c.ops = true) :
    replCmd Gen.replaceConstantsException fresh (substCmd σ c) =
      (replCmd Gen.replaceConstantsException fresh c).map (substCmd σ) := by
  apply replCmd_subst
  apply templatesExempt_mono Gen.acceptsTemplate _ accepted_positions_exempt
  exact templatesExempt_mono Gen.builderTemplatePositions _ builder_positions_accepted _ _ _ h

/-- non-vacuity: a rotation with template numerator satisfies the hypothesis, and a constant in a
non-exempt position of the same command list is really replaced -/
example : templatesExempt Gen.builderTemplatePositions "ROT_X" 0 [.txt "Q0", .tmpl "a", .int 4] = true := by
  decide +kernel
example : replCmd Gen.replaceConstantsException ["R0", "R1"] ⟨"STORE", [.int 7, .txt "@0[R5]"]⟩
    = [⟨"SET", [.txt "R0", .int 7]⟩, ⟨"STORE", [.txt "R0", .txt "@0[R5]"]⟩] := by decide +kernel
/-- the hypothesis is needed: a template in a non-exempt position does not commute -/
example : replCmd Gen.replaceConstantsException ["R0"] (substCmd (fun _ => 7) ⟨"STORE", [.tmpl "a", .txt "@0[R5]"]⟩)
    ≠ (replCmd Gen.replaceConstantsException ["R0"] ⟨"STORE", [.tmpl "a", .txt "@0[R5]"]⟩).map (substCmd (fun _ => 7)) := by
  decide +kernel

/-- **compile_commit_eq_flush**: for every history of segments starting from a state without
pending commands (the initial one, or any state after a flush/compile), the pre-compiled flow
(`compile; instantiate σ; commit_subroutine` where the segment says so) sends the same
subroutines and ends in the same bookkeeping as the program written with the concrete values and
flushed.  In particular a later flush (e.g. the one in `close()`) neither re-declares nor
returns again an array whose result was already returned. -/
theorem compile_commit_eq_flush (segs : List Seg) (b : Bk) (hb : b.pending = []) :
    runSegs compileOp b (segs.map directSeg) = runSegs compileOp b segs := by
  induction segs generalizing b with
  | nil => rfl
  | cons s ss ih =>
    simp only [List.map_cons, runSegs]
    rw [endSeg_direct b hb s]
    have hp := endSeg_pending (buildAll b s.body) s.term
    generalize endSeg compileOp (buildAll b s.body) s.term = r at hp
    obtain ⟨out, b2⟩ := r
    simp only at hp ⊢
    rw [ih b2 hp]

theorem compile_commit_eq_flush_init (segs : List Seg) :
    runSegs compileOp Bk.init (segs.map directSeg) = runSegs compileOp Bk.init segs :=
  compile_commit_eq_flush segs Bk.init rfl

/-- after either flow nothing is left to be declared or returned again -/
theorem nothing_left_after (b : Bk) (t : Term) (cs : List PCmd)
    (h : (endSeg compileOp b t).1 = some cs) :
    (endSeg compileOp b t).2.arrays = [] ∧ (endSeg compileOp b t).2.regs = [] ∧
    (endSeg compileOp b t).2.pending = [] := by
  -- something was sent, so there were commands, so the flush/compile went on to `reset`
  have h1 : allCmds b ≠ [] := by
    intro h0
    cases t <;> simp [endSeg, compileOp_eq_flushOp, flushOp_eq, h0] at h
  have h2 : (endSeg compileOp b t).2 = (flushOp b).2 := by cases t <;> rfl
  rw [h2, flushOp_eq, if_neg h1]
  exact ⟨rfl, rfl, rfl⟩

private def measCmds : List PCmd :=
  [⟨"SET", [.txt "Q0", .int 0]⟩, ⟨"ROT_X", [.txt "Q0", .tmpl "a", .int 4]⟩,
   ⟨"MEAS", [.txt "Q0", .txt "M0"]⟩, ⟨"QFREE", [.txt "Q0"]⟩, ⟨"STORE", [.txt "M0", .txt "@0[0]"]⟩]

/-- non-vacuity + F7: on `q.rot_X(Template a); m = q.measure(); compile; instantiate; commit;
close()` the fixed `compile()` sends nothing on the closing flush, the old one re-declares and
returns `@0` (so the returned outcome became undefined) — the statement was false before the fix -/
theorem f7_old_counterexample :
    (runSegs compileOp Bk.init [⟨[.meas .array measCmds], .pre (fun _ => 16)⟩, ⟨[], .flush⟩]).1.getLast?
      = some none ∧
    (runSegs compileOld Bk.init [⟨[.meas .array measCmds], .pre (fun _ => 16)⟩, ⟨[], .flush⟩]).1.getLast?
      = some (some [declCmd ⟨0, 1⟩, retArrCmd ⟨0, 1⟩]) := by
  constructor <;> rfl

example : (runSegs compileOp Bk.init [⟨[.meas .array measCmds], .pre (fun _ => 16)⟩]).1
    = [some ([declCmd ⟨0, 1⟩] ++ measCmds.map (substCmd (fun _ => 16)) ++ [retArrCmd ⟨0, 1⟩])] := by rfl

/-- **compile_commit_eq_flush, any interleaving**: histories in which the host keeps building
operations between `compile()` and `commit_subroutine()` and holds several compiled-but-
uncommitted subroutines (committed oldest first; ordinary flushes only while nothing is
uncommitted — `runH` is `none` otherwise).  Whenever the pre-compiled flow ends in `s'`, the
program written with the concrete values and ordinary flushes (`directH`: every `compile`
becomes a `flush`) ends in the same bookkeeping and has sent exactly the subroutines the
pre-compiled flow has sent followed by those it still holds compiled.  Induction over the
history. -/
theorem compile_commit_eq_flush_interleaved (es : List HEv) (b : Bk) (hb : b.pending = [])
    (s' : HSt) (h : runH false ⟨b, [], []⟩ es = some s') :
    runH false ⟨b, [], []⟩ (directH es) = some ⟨s'.bk, [], s'.sent ++ s'.queue⟩ := by
  have := runH_direct es ⟨b, [], []⟩ s' h
  simpa [substBk?_of_pending_nil _ b hb] using this

private def measCmds2 : List PCmd :=
  [⟨"SET", [.txt "Q0", .int 1]⟩, ⟨"MEAS", [.txt "Q0", .txt "M0"]⟩, ⟨"STORE", [.txt "M0", .txt "@1[0]"]⟩]

private def interleaved : List HEv :=
  [.build (.meas .array measCmds), .compile (fun _ => 5), .build (.meas .array measCmds2),
   .commit, .flush]

/-- non-vacuity: an interleaved history inside the vocabulary, and what it sends -/
example : (runH false ⟨Bk.init, [], []⟩ interleaved).map (·.sent) =
    some [[declCmd ⟨0, 1⟩] ++ measCmds.map (substCmd (fun _ => 5)) ++ [retArrCmd ⟨0, 1⟩],
          [declCmd ⟨1, 1⟩] ++ measCmds2 ++ [retArrCmd ⟨1, 1⟩]] := by rfl

/-- the hypothesis "reset at compile time" is what makes it true: with `_reset()` moved into
`commit_subroutine` the array queued between compile and commit is neither declared nor
returned by the next flush -/
theorem reset_at_commit_counterexample :
    (runH true ⟨Bk.init, [], []⟩ interleaved).map (·.sent) =
      some [[declCmd ⟨0, 1⟩] ++ measCmds.map (substCmd (fun _ => 5)) ++ [retArrCmd ⟨0, 1⟩],
            measCmds2] := by rfl

/-- **instantiate_pure**: a call of `instantiate` on (a shallow copy of) the template returns the
instance determined by (template, σ) alone and leaves the shared template as it was — also when
it fails with a missing argument. -/
theorem instantiate_pure (t : List TInstr) (σ : String → Option Int) :
    (instCall t σ).1 = instantiate? σ t ∧ (instCall t σ).2 = t := ⟨rfl, rfl⟩

/-- a failed instantiate (KeyError) leaves the template unchanged -/
theorem instantiate_failed_unchanged (t : List TInstr) (σ : String → Option Int)
    (_h : instantiate? σ t = none) : (instCall t σ).2 = t := rfl

/-- **instantiate_reuse**: ANY sequence of instantiations of one compiled template — complete or
failing, in any order — yields for each call exactly the instance of that call's own values, and
the template is still the template afterwards (induction over the sequence).  In particular two
instantiations with σ₁, σ₂ give the σ₁- and the σ₂-program, and a retry after a failed attempt
gives the program of the retry's values. -/
theorem instantiate_reuse (t : List TInstr) (σs : List (String → Option Int)) :
    instCalls instCall t σs = (σs.map (fun σ => instantiate? σ t), t) := by
  induction σs with
  | nil => rfl
  | cons σ σs ih => simp only [instCalls, instCall, ih, List.map_cons]

/-- with complete values every instance is the program written with those values (layer (1)) -/
theorem instantiate_reuse_total (t : List TInstr) (σ₁ σ₂ : String → Int) :
    (instCalls instCall t [fun n => some (σ₁ n), fun n => some (σ₂ n)]).1 =
      [some (instantiate σ₁ t), some (instantiate σ₂ t)] := by
  rw [instantiate_reuse]; simp [instantiate?_total]

private def rotT : List TInstr :=
  [⟨"RotZ", [.op (.reg ⟨2, 0⟩), .tmpl "a", .op (.imm 4)]⟩,
   ⟨"RotX", [.op (.reg ⟨2, 0⟩), .tmpl "b", .op (.imm 3)]⟩]
private def σab (a b : Int) : String → Option Int := fun n => if n = "a" then some a else if n = "b" then some b else none
private def σa (a : Int) : String → Option Int := fun n => if n = "a" then some a else none

/-- non-vacuity: two rounds and a failed-then-retried instantiate on a two-rotation template -/
example : (instCalls instCall rotT [σab 3 1, σa 1, σab 9 5]).1 =
    [some [⟨"RotZ", [.reg ⟨2, 0⟩, .imm 3, .imm 4]⟩, ⟨"RotX", [.reg ⟨2, 0⟩, .imm 1, .imm 3]⟩],
     none,
     some [⟨"RotZ", [.reg ⟨2, 0⟩, .imm 9, .imm 4]⟩, ⟨"RotX", [.reg ⟨2, 0⟩, .imm 5, .imm 3]⟩]] := by decide +kernel

/-- the statement is about the code as it is: an `instantiate` that fills the shared instruction
objects in place sends the FIRST round's values again in the second round, and a retry after a
failed attempt keeps the numerator of the failed attempt -/
theorem inplace_counterexample :
    (instCalls instCallInPlace rotT [σab 3 1, σab 9 5]).1 =
      [some [⟨"RotZ", [.reg ⟨2, 0⟩, .imm 3, .imm 4]⟩, ⟨"RotX", [.reg ⟨2, 0⟩, .imm 1, .imm 3]⟩],
       some [⟨"RotZ", [.reg ⟨2, 0⟩, .imm 3, .imm 4]⟩, ⟨"RotX", [.reg ⟨2, 0⟩, .imm 1, .imm 3]⟩]] ∧
    (instCalls instCallInPlace rotT [σa 1, σab 5 7]).1 =
      [none,
       some [⟨"RotZ", [.reg ⟨2, 0⟩, .imm 1, .imm 4]⟩, ⟨"RotX", [.reg ⟨2, 0⟩, .imm 7, .imm 3]⟩]] := by
  decide +kernel

/-- label assignment commutes with instantiation for EVERY template name and every label table —
a template called `LOOP_EXIT`, `IF_EXIT1`, `R0` … is not a label -/
theorem assignLabel_subst (L : List (String × Int)) (σ : String → Int) (o : POp) :
    substOp σ (assignLabel L o) = assignLabel L (substOp σ o) := by
  cases o with
  | int v => rfl
  | tmpl n => rfl
  | txt s =>
    simp only [assignLabel, substOp]
    cases L.lookup s <;> rfl

/-- with a by-name lookup a template named like a generated label is frozen to the label's line
and the supplied value is ignored -/
theorem label_named_template_counterexample :
    substOp (fun _ => 5) (assignLabelByName [("LOOP_EXIT", 12)] (.tmpl "LOOP_EXIT")) = .int 12 ∧
    assignLabelByName [("LOOP_EXIT", 12)] (substOp (fun _ => 5) (.tmpl "LOOP_EXIT")) = .int 5 := by
  decide +kernel

/-- the same block built and compiled twice (identical text, same template name) with different
values: each compiled instance carries its own value — `compile` yields a fresh subroutine every
time, so instantiating the first cannot leak into the second -/
example :
    (runH false ⟨Bk.init, [], []⟩
      [.build (.cmds [⟨"ROT_Z", [.txt "Q0", .tmpl "a", .int 4]⟩]), .compile (fun _ => 3), .commit,
       .build (.cmds [⟨"ROT_Z", [.txt "Q0", .tmpl "a", .int 4]⟩]), .compile (fun _ => 200), .commit]).map (·.sent)
      = some [[⟨"ROT_Z", [.txt "Q0", .int 3, .int 4]⟩], [⟨"ROT_Z", [.txt "Q0", .int 200, .int 4]⟩]] := by rfl

end NQ.C06
