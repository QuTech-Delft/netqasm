/-
C05 ∘ C03: the composition of `emit_correct` (proto-subroutines under `ProtoExec`) with C03's
`assemble_simulates_run` (assembled subroutine under C03's parametric machine).

PARTIAL: the composition is proved for any machine `mc`, translation `tr` and state abstraction `abs`
that form a *bridge* (`SemBridge`: every `ProtoExec` step is a step of `mc` on the translated
program). For the executor machine (`Asm.qMachine`, which also tracks the qubit unit module that
`ProtoExec` abstracts into a trace) the bridge is not stated with a FUNCTION `abs`: the executor state is
not determined by the ProtoExec state. The bridge in relational form (`Bridge.bridge_step`,
Lemmas/SdkAsmBridge.lean) and the chain built on it are in Props/C05Chain.lean and Props/C05Chain2.lean;
the check also ties the two ends empirically (stream `protoexec-vs-executor`: ProtoExec on the model's
proto-subroutines against the real assembler + real Executor).
-/
import NetqasmVerif.Props.C03
import NetqasmVerif.Props.C05
namespace NQ.C05
open NQ

structure SemBridge {M : Type} (mc : Asm.Machine M) (tr : List Sdk.PCmd → List Asm.PCmd)
    (abs : Sdk.St → Asm.State M) : Prop where
  step : ∀ (P : List Sdk.PCmd) (s s' : Sdk.St) (n n' : Nat),
    Sdk.step P (s, n) = some (s', n') → Asm.step mc (tr P) (abs s) n = .next (abs s') n'

theorem bridge_steps {M : Type} {mc : Asm.Machine M} {tr : List Sdk.PCmd → List Asm.PCmd}
    {abs : Sdk.St → Asm.State M} (hb : SemBridge mc tr abs) {P : List Sdk.PCmd} {c c' : Sdk.St × Nat}
    (h : Sdk.Steps P c c') : Asm.Steps mc (tr P) (abs c.1, c.2) (abs c'.1, c'.2) := by
  induction h with
  | refl c => exact Asm.Steps.refl _
  | @next a b d hs _ ih =>
    obtain ⟨a1, a2⟩ := a
    obtain ⟨b1, b2⟩ := b
    exact Asm.Steps.step (hb.step P a1 b1 a2 b2 hs) ih

/-- Whatever `ProtoExec` run of a proto-subroutine `emit_correct`
provides, the ASSEMBLED subroutine (`assemble_subroutine`: literals into scratch registers, labels
into addresses) reproduces it on C03's machine between the images of the two positions, states
agreeing outside the scratch registers — provided the two label-level semantics are bridged. -/
theorem emit_correct_assembled_partial {M : Type} {mc : Asm.Machine M}
    {tr : List Sdk.PCmd → List Asm.PCmd} {abs : Sdk.St → Asm.State M} (hb : SemBridge mc tr abs)
    (hm : C03.StdLike mc) (P : List Sdk.PCmd) (A : List Instr) (hwf : Asm.LabelTargets mc (tr P))
    (hA : Asm.assemble Gen.vanillaRows Gen.excTable Gen.numScratch (tr P) = .ok A)
    {s s' : Sdk.St} {n n' : Nat} (hrun : Sdk.Steps P (s, n) (s', n')) {t : Asm.State M}
    (hag : Asm.AgreeOutsideScratch Gen.numScratch (tr P) (abs s) t) :
    ∃ t', Asm.Steps mc (A.map (Asm.embed Gen.vanillaRows))
        (t, Asm.tpos Gen.excTable (tr P) n) (t', Asm.tpos Gen.excTable (tr P) n') ∧
      Asm.AgreeOutsideScratch Gen.numScratch (tr P) (abs s') t' :=
  C03.assemble_simulates_run hm hwf hA (bridge_steps hb hrun) hag

end NQ.C05
