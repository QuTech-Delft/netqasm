/-
C04 — Executor implements the NetQASM classical semantics and faults precisely.

`Model/Exec.lean` is the reference interpreter (the specification written from the property
statement, instruction by instruction); the correspondence stream `exec` ties it to the real
`Executor` after every subroutine.  The theorems below hold for every state, every program and every
instruction (no size, depth or step bound).
-/
import NetqasmVerif.Lemmas.ExecRun
import NetqasmVerif.Props.C13
import NetqasmVerif.Lemmas.ExecAsmBridge
namespace NQ.C04
open NQ.Exec

/-- A faulting instruction leaves registers, arrays, shared memory, unit modules of *all*
applications, the used-qubit set, the reserved set and the registry unchanged.  (`usedKey` is the
`set.remove` KeyError inside `qfree`, raised after the unit module was already edited; it needs a
mapped physical id that is not marked used, which C13.reachable excludes.) -/
theorem fault_atomic (hw : Bool) (a : Nat) (i : Exec.Instr) (s s' : State) (pc : Int) (f : Fault)
    (h : step hw a i s pc = .fault s' f) (hk : f ≠ .usedKey) :
    s'.apps = s.apps ∧ s'.used = s.used ∧ s'.reserved = s.reserved ∧ s'.registry = s.registry := by
  rcases step_fault_inv h with ⟨_, rfl, _⟩ | ⟨ap, l, hap, hl, rfl⟩
  · exact ⟨rfl, rfl, rfl, rfl⟩
  · rcases stepLoc_fault hl with ⟨_, h1, h2, _⟩ | ⟨e, _⟩
    · refine ⟨?_, h2, rfl, rfl⟩
      funext b
      simp only [State.put, upd]
      split
      · rename_i hb; rw [hb, hap]; exact congrArg some h1
      · rfl
    · exact absurd e hk

/-- **No side condition on reachable states.**  Under the C13 invariant (which holds after every
history, `C13.reachable`) the `set.remove` KeyError cannot occur, so every fault of every
instruction is atomic. -/
theorem fault_atomic_inv (hw : Bool) (a : Nat) (i : Exec.Instr) (s s' : State) (pc : Int) (f : Fault)
    (hI : Exec.Inv s) (h : step hw a i s pc = .fault s' f) :
    s'.apps = s.apps ∧ s'.used = s.used ∧ s'.reserved = s.reserved ∧ s'.registry = s.registry := by
  apply fault_atomic hw a i s s' pc f h
  intro e
  subst e
  exact Exec.no_usedKey hw a i s s' pc hI h

/-- the property's fault clause as stated, over histories: after ANY history of operations from
the initial controller state (keep-responses delivering qubits the link layer holds), an
instruction that faults leaves registers, arrays, shared memory, unit modules and the used set of
all applications unchanged -/
theorem fault_atomic_reachable (ops : List Op) (he : C13.EnvOkAll init0 ops) (hw : Bool) (a : Nat)
    (i : Exec.Instr) (s' : State) (pc : Int) (f : Fault)
    (h : step hw a i (ops.foldl apply init0) pc = .fault s' f) :
    s'.apps = (ops.foldl apply init0).apps ∧ s'.used = (ops.foldl apply init0).used ∧
    s'.reserved = (ops.foldl apply init0).reserved ∧ s'.registry = (ops.foldl apply init0).registry :=
  fault_atomic_inv hw a i _ s' pc f (C13.reachable_from_init ops he) h

/-- … also with subroutines of several applications in flight (any interleaving) -/
theorem fault_atomic_interleaved (iops : List IOp) (he : C13.ienvOkAll sys0 iops = true) (hw : Bool)
    (a : Nat) (i : Exec.Instr) (s' : State) (pc : Int) (f : Fault)
    (h : step hw a i (iops.foldl iapply sys0).s pc = .fault s' f) :
    s'.apps = (iops.foldl iapply sys0).s.apps ∧ s'.used = (iops.foldl iapply sys0).s.used :=
  let r := fault_atomic_inv hw a i _ s' pc f (C13.reachable_interleaved iops sys0 C13.inv_init he) h
  ⟨r.1, r.2.1⟩

/-- … and for every instruction but `meas` (whose hook `_do_meas` has already run when the
outcome turns out not to fit) the complete state, trace and oracle included, is unchanged. -/
theorem fault_atomic_strict (hw : Bool) (a : Nat) (i : Exec.Instr) (s s' : State) (pc : Int) (f : Fault)
    (h : step hw a i s pc = .fault s' f) (hk : f ≠ .usedKey) (hm : ∀ q c, i ≠ .meas q c) : s' = s := by
  rcases step_fault_inv h with ⟨_, rfl, _⟩ | ⟨ap, l, hap, hl, rfl⟩
  · rfl
  · rcases stepLoc_fault hl with ⟨_, _, _, h1⟩ | ⟨e, _⟩
    · rw [h1 hm]; exact put_loc_self s a ap hap
    · exact absurd e hk

/-- The line named by a fault is the program counter where execution stopped, which is the last
instruction started. -/
theorem fault_names_line (hw : Bool) (a : Nat) (prog : List Exec.Instr) (fuel : Nat) (s : State) (pc : Int)
    (f : Fault) (ln : Int) (h : (run hw a prog fuel s pc).out = .fault f (some ln)) :
    (run hw a prog fuel s pc).pc = ln ∧ (run hw a prog fuel s pc).visited.getLast? = some ln := by
  fun_induction run hw a prog fuel s pc with
  | case1 | case2 | case3 | case4 | case5 => cases h
  | case6 _ _ _ _ _ _ _ _ _ _ _ _ ih => exact ⟨(ih h).1, by rw [List.getLast?_cons, (ih h).2]; rfl⟩
  | case7 => cases h; exact ⟨rfl, rfl⟩

/-- "Execution stops at that instruction": once a fault is reported no further instruction is ever
executed, whatever the step budget — the run with any larger budget is the same run, with the same
single report, the same final program counter and the same visited lines.  (The real executor is
checked against this also with a `_handle_command_exception` hook that records and returns instead
of raising: exactly one report, the loop ends.) -/
theorem fault_stops (hw : Bool) (a : Nat) (prog : List Exec.Instr) (fuel k : Nat) (s : State) (pc : Int)
    (f : Fault) (ln : Option Int) (h : (run hw a prog fuel s pc).out = .fault f ln) :
    run hw a prog (fuel + k) s pc = run hw a prog fuel s pc :=
  Exec.run_fuel_mono hw a prog fuel k s pc (by rw [h]; simp)

/-! ### one lemma per fault cause of the statement (instruction of a registered application) -/

theorem store_undefined_faults (hw a l pc r ad ix) (h : l.ap.regs r = none) :
    stepLoc hw a (.store r ad ix) l pc = .fault l .undefReg := by
  simp [stepLoc, h]

theorem load_undefined_faults (hw a l pc r ad ix) (k : Int) (arr : List Val) (p : Nat)
    (hi : l.ap.regs ix = some k) (hf : fits hw ad = true) (ha : l.ap.arrays ad = some arr)
    (hp : pyIdx arr.length k = some p) (hv : arr[p]?.join = none) :
    stepLoc hw a (.load r ad ix) l pc = .fault l .undefEntry := by
  simp [stepLoc, hi, hf, ha, hp, hv]

theorem ret_undefined_faults (hw a l pc r) (h : l.ap.regs r = none) :
    stepLoc hw a (.retReg r) l pc = .fault l .undefReg := by
  simp [stepLoc, h]

theorem addm_bad_modulus_faults (hw a l pc d x y m) (mv : Int) (hm : l.ap.regs m = some mv) (h : mv < 1) :
    stepLoc hw a (.addm d x y m) l pc = .fault l .badModulus := by
  simp [stepLoc, arithm, hm, h]

theorem subm_bad_modulus_faults (hw a l pc d x y m) (mv : Int) (hm : l.ap.regs m = some mv) (h : mv < 1) :
    stepLoc hw a (.subm d x y m) l pc = .fault l .badModulus := by
  simp [stepLoc, arithm, hm, h]

theorem double_alloc_faults (hw a l pc r) (v : Int) (p q : Nat) (hr : l.ap.regs r = some v)
    (hlt : v < l.ap.unit.length) (hp : pyIdx l.ap.unit.length v = some p)
    (hq : l.ap.unit[p]?.join = some q) :
    stepLoc hw a (.qalloc r) l pc = .fault l .doubleAlloc := by
  have : ¬ v ≥ l.ap.unit.length := Int.not_le.mpr hlt
  simp [stepLoc, hr, this, hp, hq]

theorem free_unallocated_faults (hw a l pc r) (v : Int) (p : Nat) (hr : l.ap.regs r = some v)
    (hp : pyIdx l.ap.unit.length v = some p) (hq : l.ap.unit[p]?.join = none) :
    stepLoc hw a (.qfree r) l pc = .fault l .notAlloc := by
  simp [stepLoc, hr, hp, hq]

theorem store_past_end_faults (hw a l pc r ad ix) (v k : Int) (arr : List Val)
    (hr : l.ap.regs r = some v) (hi : l.ap.regs ix = some k)
    (hf : (fits hw ad && fits hw v && fits hw k) = true)
    (ha : l.ap.arrays ad = some arr) (hk : (arr.length : Int) ≤ k) :
    stepLoc hw a (.store r ad ix) l pc = .fault l .index := by
  simp [stepLoc, hr, hi, hf, ha, pyIdx_past_end hk]

theorem load_past_end_faults (hw a l pc r ad ix) (k : Int) (arr : List Val)
    (hi : l.ap.regs ix = some k) (hf : fits hw ad = true)
    (ha : l.ap.arrays ad = some arr) (hk : (arr.length : Int) ≤ k) :
    stepLoc hw a (.load r ad ix) l pc = .fault l .index := by
  simp [stepLoc, hi, hf, ha, pyIdx_past_end hk]

theorem undef_past_end_faults (hw a l pc ad ix) (k : Int) (arr : List Val)
    (hi : l.ap.regs ix = some k) (hf : fits hw ad = true)
    (ha : l.ap.arrays ad = some arr) (hk : (arr.length : Int) ≤ k) :
    stepLoc hw a (.undef ad ix) l pc = .fault l .index := by
  simp [stepLoc, hi, hf, ha, pyIdx_past_end hk]

theorem not_fits {v : Int} (h : v < -2147483648 ∨ 2147483647 < v) : fits true v = false := by
  simp only [fits, Bool.not_true, Bool.false_or, Bool.and_eq_false_iff, decide_eq_false_iff_not]
  omega

/-- hardware mode: a value that does not fit 32 bits is rejected (`_assert_within_width`,
OverflowError) by `set`, by `lea`, and by the result of `add`/`sub`; in simulation mode nothing
overflows -/
theorem set_overflow_faults (a l pc r) (v : Int) (h : v < -2147483648 ∨ 2147483647 < v) :
    stepLoc true a (.set r v) l pc = .fault l .overflow := by
  simp [stepLoc, wr, not_fits h]

theorem lea_overflow_faults (a l pc r) (ad : Int) (h : ad < -2147483648 ∨ 2147483647 < ad) :
    stepLoc true a (.lea r ad) l pc = .fault l .overflow := by
  simp [stepLoc, wr, not_fits h]

theorem add_overflow_faults (a l pc d x y) (u v : Int) (hx : l.ap.regs x = some u)
    (hy : l.ap.regs y = some v) (h : u + v < -2147483648 ∨ 2147483647 < u + v) :
    stepLoc true a (.add d x y) l pc = .fault l .overflow := by
  simp [stepLoc, arith, wr, hx, hy, not_fits h]

theorem sim_never_overflows (v : Int) : fits false v = true := rfl

/-- a fault of the application's instruction is the controller's fault, at the same state -/
theorem fault_lifts (hw a i s pc ap f) (h : s.apps a = some ap)
    (hl : stepLoc hw a i (s.loc ap) pc = .fault (s.loc ap) f) : step hw a i s pc = .fault s f := by
  rw [step_fault_of_loc h hl, put_loc_self s a ap h]

/-- Footprint of a successful instruction of application `a`: only the written register, the
written array, the returned shared-memory register/array slot can change; the unit module and the
used set only under `qalloc/qfree`; trace and oracle only under quantum instructions. -/
theorem step_frame (hw : Bool) (a : Nat) (i : Exec.Instr) (l l' : Loc) (pc pc' : Int)
    (h : stepLoc hw a i l pc = .ok l' pc') : Frame i l l' := stepLoc_frame h

/-- … and nothing of any other application changes (success or fault). -/
theorem step_frame_apps (hw : Bool) (a : Nat) (i : Exec.Instr) (s : State) (pc : Int) (b : Nat) (hb : b ≠ a) :
    (step hw a i s pc).st.apps b = s.apps b := step_apps_other hw a i s pc b hb

/-- the link-layer bookkeeping and the shared-memory registry are never touched by an instruction -/
theorem step_frame_global (hw : Bool) (a : Nat) (i : Exec.Instr) (s : State) (pc : Int) :
    (step hw a i s pc).st.reserved = s.reserved ∧ (step hw a i s pc).st.registry = s.registry := by
  unfold step
  split
  · split <;> exact ⟨rfl, rfl⟩
  · split <;> exact ⟨rfl, rfl⟩

/-- a store changes exactly one cell: same length, every other position keeps its value -/
theorem store_cell (hw a l l' pc pc' r ad ix) (h : stepLoc hw a (.store r ad ix) l pc = .ok l' pc') :
    ∃ v k arr p, l.ap.regs r = some v ∧ l.ap.regs ix = some k ∧ l.ap.arrays ad = some arr ∧
      pyIdx arr.length k = some p ∧ l'.ap.arrays ad = some (arr.set p (some v)) ∧
      (arr.set p (some v)).length = arr.length ∧ (arr.set p (some v))[p]? = some (some v) ∧
      (∀ j, j ≠ p → (arr.set p (some v))[j]? = arr[j]?) ∧ pc' = pc + 1 := by
  simp only [stepLoc] at h
  repeat' split at h
  all_goals first | (cases h; done) | skip
  rename_i v _ _ k _ _ _ arr harr _ p hp
  cases h
  refine ⟨v, k, arr, p, by assumption, by assumption, harr, hp, by simp, by simp, ?_, ?_, rfl⟩
  · have := pyIdx_lt hp
    simp [this]
  · intro j hj
    simp [Ne.symm hj]

theorem add_spec (hw a l pc d x y) (u v : Int) (hx : l.ap.regs x = some u) (hy : l.ap.regs y = some v)
    (hf : fits hw (u + v) = true) :
    stepLoc hw a (.add d x y) l pc = .ok { l with ap := l.ap.setReg d (u + v) } (pc + 1) := by
  simp [stepLoc, arith, wr, hx, hy, hf]

theorem sub_spec (hw a l pc d x y) (u v : Int) (hx : l.ap.regs x = some u) (hy : l.ap.regs y = some v)
    (hf : fits hw (u - v) = true) :
    stepLoc hw a (.sub d x y) l pc = .ok { l with ap := l.ap.setReg d (u - v) } (pc + 1) := by
  simp [stepLoc, arith, wr, hx, hy, hf]

/-- the residue computed by `addm/subm`: in [0, m) and congruent to the exact result, for every
modulus ≥ 1 and operands of either sign -/
theorem residue_spec (t m : Int) (hm : 1 ≤ m) : 0 ≤ t % m ∧ t % m < m ∧ m ∣ (t - t % m) := by
  refine ⟨Int.emod_nonneg _ (by omega), Int.emod_lt_of_pos _ (by omega), ?_⟩
  exact Int.dvd_self_sub_emod

theorem addm_spec (hw a l pc d x y m) (u v mv : Int) (hx : l.ap.regs x = some u)
    (hy : l.ap.regs y = some v) (hm : l.ap.regs m = some mv) (h1 : 1 ≤ mv)
    (hf : fits hw ((u + v) % mv) = true) :
    stepLoc hw a (.addm d x y m) l pc = .ok { l with ap := l.ap.setReg d ((u + v) % mv) } (pc + 1) := by
  have : ¬ mv < 1 := Int.not_lt.mpr h1
  simp [stepLoc, arithm, wr, hx, hy, hm, this, hf]

theorem subm_spec (hw a l pc d x y m) (u v mv : Int) (hx : l.ap.regs x = some u)
    (hy : l.ap.regs y = some v) (hm : l.ap.regs m = some mv) (h1 : 1 ≤ mv)
    (hf : fits hw ((u - v) % mv) = true) :
    stepLoc hw a (.subm d x y m) l pc = .ok { l with ap := l.ap.setReg d ((u - v) % mv) } (pc + 1) := by
  have : ¬ mv < 1 := Int.not_lt.mpr h1
  simp [stepLoc, arithm, wr, hx, hy, hm, this, hf]

/-- in hardware mode a residue for a 32-bit modulus always fits, so `addm` cannot overflow -/
theorem residue_fits (hw : Bool) (t m : Int) (hm : 1 ≤ m) (hfm : fits hw m = true) : fits hw (t % m) = true := by
  have ⟨h0, h1, _⟩ := residue_spec t m hm
  unfold fits at *
  cases hw <;> simp at * <;> omega

/-! ## Branches: taken ⇔ predicate; pc = target else pc + 1; any target -/

theorem jmp_spec (hw a l pc) (t : Int) : stepLoc hw a (.jmp t) l pc = .ok l t := rfl

theorem bez_spec (hw a l pc r) (t v : Int) (hr : l.ap.regs r = some v) :
    stepLoc hw a (.bez r t) l pc = .ok l (if v = 0 then t else pc + 1) := by
  by_cases h : v = 0 <;> simp [stepLoc, br, hr, h]

theorem bnz_spec (hw a l pc r) (t v : Int) (hr : l.ap.regs r = some v) :
    stepLoc hw a (.bnz r t) l pc = .ok l (if v ≠ 0 then t else pc + 1) := by
  by_cases h : v = 0 <;> simp [stepLoc, br, hr, h]

theorem beq_spec (hw a l pc x y) (t u v : Int) (hx : l.ap.regs x = some u) (hy : l.ap.regs y = some v) :
    stepLoc hw a (.beq x y t) l pc = .ok l (if u = v then t else pc + 1) := by
  by_cases h : u = v <;> simp [stepLoc, br, hx, hy, h]

theorem bne_spec (hw a l pc x y) (t u v : Int) (hx : l.ap.regs x = some u) (hy : l.ap.regs y = some v) :
    stepLoc hw a (.bne x y t) l pc = .ok l (if u ≠ v then t else pc + 1) := by
  by_cases h : u = v <;> simp [stepLoc, br, hx, hy, h]

theorem blt_spec (hw a l pc x y) (t u v : Int) (hx : l.ap.regs x = some u) (hy : l.ap.regs y = some v) :
    stepLoc hw a (.blt x y t) l pc = .ok l (if u < v then t else pc + 1) := by
  by_cases h : u < v <;> simp [stepLoc, br, hx, hy, h]

theorem bge_spec (hw a l pc x y) (t u v : Int) (hx : l.ap.regs x = some u) (hy : l.ap.regs y = some v) :
    stepLoc hw a (.bge x y t) l pc = .ok l (if u ≥ v then t else pc + 1) := by
  by_cases h : u ≥ v <;> simp [stepLoc, br, hx, hy, h]

theorem nonbranch_pc (hw a i l l' pc pc') (hb : i.isBranch = false)
    (h : stepLoc hw a i l pc = .ok l' pc') : pc' = pc + 1 := by
  exact (stepLoc_ok h).2.1 hb

theorem run_det (hw a prog fuel s pc) (r₁ r₂ : RunOut) (h₁ : run hw a prog fuel s pc = r₁)
    (h₂ : run hw a prog fuel s pc = r₂) : r₁ = r₂ := h₁ ▸ h₂ ▸ rfl

/-- a run that finished (halted or faulted) within `fuel` steps is unchanged by any larger bound:
the step bound of the correspondence stream only cuts non-terminating programs -/
theorem run_fuel_mono (hw : Bool) (a : Nat) (prog : List Exec.Instr) (fuel k : Nat) (s : State) (pc : Int)
    (h : (run hw a prog fuel s pc).out ≠ .outOfFuel) :
    run hw a prog (fuel + k) s pc = run hw a prog fuel s pc :=
  Exec.run_fuel_mono hw a prog fuel k s pc h

/-- Repeated execution: several subroutines (each with its own step bound) run one after the other
against the same application state.  All lemmas above are state-generic, so they apply to every
subroutine of the sequence; in particular the whole sequence never touches another application. -/
def runAll (hw : Bool) (a : Nat) (subs : List (List Exec.Instr × Nat)) (s : State) : State :=
  subs.foldl (fun s pf => (run hw a pf.1 pf.2 s 0).s) s

theorem runAll_frame_apps (hw : Bool) (a : Nat) (subs : List (List Exec.Instr × Nat)) (s : State) (b : Nat)
    (hb : b ≠ a) : (runAll hw a subs s).apps b = s.apps b := by
  unfold runAll
  induction subs generalizing s with
  | nil => rfl
  | cons pf rest ih =>
    simp only [List.foldl_cons]
    rw [ih, run_apps_other hw a pf.1 pf.2 s 0 b hb]

/-- `run` (fuel) and the relational multi-step closure `XSteps` of the assembler proofs (C03)
describe the same executions of a registered application: C03's `assemble_simulates_exec`
therefore speaks about `Exec.run` (apply `run_of_xsteps` to its conclusion). -/
theorem run_iff_steps {a : Nat} {X : List Exec.Instr} (s : State) (ap : App) (hap : s.apps a = some ap)
    (pc pc' : Int) (l' : Loc) :
    NQ.Asm.XSteps a X (s.loc ap, pc) (l', pc') ↔
    ∃ n, (run false a X n s pc).s = s.put a l' ∧ (run false a X n s pc).pc = pc' ∧
      (run false a X n s pc).out = restOut X pc' ∧ (∀ v ∈ (run false a X n s pc).visited, 0 ≤ v) :=
  Exec.run_iff_steps s ap hap pc pc' l'

theorem run_of_xsteps {a : Nat} {X : List Exec.Instr} {c c' : Loc × Int} (h : NQ.Asm.XSteps a X c c')
    (s : State) (hap : s.apps a = some c.1.ap) (hloc : s.loc c.1.ap = c.1) :
    ∃ n, (run false a X n s c.2).s = s.put a c'.1 ∧ (run false a X n s c.2).pc = c'.2 ∧
      (run false a X n s c.2).out = restOut X c'.2 ∧ (∀ v ∈ (run false a X n s c.2).visited, 0 ≤ v) :=
  Exec.run_of_xsteps h s hap hloc

/-- `ret_reg` puts the register's current value into the shared memory … -/
theorem ret_reg_spec (hw a l pc r) (v : Int) (hr : l.ap.regs r = some v) (hf : fits hw v = true) :
    ∃ l', stepLoc hw a (.retReg r) l pc = .ok l' (pc + 1) ∧ l'.ap.shmRegs r = some v ∧
      l'.ap.regs = l.ap.regs := by
  refine ⟨{ l with ap := { l.ap with shmRegs := upd l.ap.shmRegs r (some v) } }, ?_, by simp, rfl⟩
  simp [stepLoc, hr, hf]

/-- … as a copy: no later instruction other than a `ret_reg` of the same register changes it -/
theorem ret_reg_copy (hw a i l l' pc pc' r) (h : stepLoc hw a i l pc = .ok l' pc')
    (hi : i ≠ .retReg r) : l'.ap.shmRegs r = l.ap.shmRegs r := by
  apply (stepLoc_frame h).shmRegs
  intro hc
  cases i <;> simp [Instr.wshmReg] at hc
  subst hc; exact hi rfl

/-- `ret_arr`, provable part: right after the instruction the host sees the array's current value.

Full statement (FALSE for the code, finding F25): "… and it is a copy: no later instruction other
than `ret_arr` of the same address changes what the host sees".  The real `ret_arr` stores the
executor's own list object in the shared memory, so later `store`/`undef` (and entanglement
results) show through — see `ret_arr_alias_counterexample`. -/
theorem ret_arr_spec_partial (hw a l pc ad) (arr : List Val) (ha : l.ap.arrays ad = some arr)
    (hf : fits hw ad = true) :
    ∃ l', stepLoc hw a (.retArr ad) l pc = .ok l' (pc + 1) ∧ l'.ap.shmArr ad = some arr := by
  refine ⟨{ l with ap := { l.ap with shmArrs := upd l.ap.shmArrs ad (some .live) } }, ?_, ?_⟩
  · simp [stepLoc, ha, hf]
  · simp [App.shmArr, ha]

/-- the copy property does hold from the moment the address is re-declared with `array`: a frozen slot
keeps its value under every instruction but a `ret_arr` of the same address -/
theorem ret_arr_frozen_partial (hw a i l l' pc pc' ad) (v : List Val) (hfz : l.ap.shmArrs ad = some (.frozen v))
    (h : stepLoc hw a i l pc = .ok l' pc') (hi : i ≠ .retArr ad) : l'.ap.shmArr ad = some v := by
  have hfr := stepLoc_frame h
  by_cases hw' : i.wshmArr = some ad
  · cases i <;> simp [Instr.wshmArr] at hw'
    · subst hw'
      simp only [stepLoc] at h
      repeat' split at h
      all_goals first | (cases h; done) | skip
      cases h
      simp [App.shmArr, freeze, hfz]
    · subst hw'; exact absurd rfl hi
  · have := hfr.shmArrs ad hw'
    simp [App.shmArr, this, hfz]

def r0 : XReg := ⟨0, 0⟩
def r1 : XReg := ⟨0, 1⟩

/-- F25 witness: `array`(1) `ret_arr @0`, then a `store` — the host-visible array changes from
`[none]` to `[some 7]` although nothing was returned after the store. -/
theorem ret_arr_alias_counterexample :
    let s0 := (initApp init0 0 1).1
    let s1 := (run false 0 [.set r0 1, .array r0 0, .retArr 0] 10 s0 0).s
    let s2 := (run false 0 [.set r0 0, .set r1 7, .store r1 0 r0] 10 s1 0).s
    ((s1.apps 0).bind (fun ap => ap.shmArr 0)) = some [none] ∧
    ((s2.apps 0).bind (fun ap => ap.shmArr 0)) = some [some 7] := by
  decide +kernel

/-! ## Positive semantics of the remaining instructions (what the statement enumerates) -/

theorem set_spec (hw a l pc r) (v : Int) (hf : fits hw v = true) :
    stepLoc hw a (.set r v) l pc = .ok { l with ap := l.ap.setReg r v } (pc + 1) := by
  simp [stepLoc, wr, hf]

theorem lea_spec (hw a l pc r) (ad : Int) (hf : fits hw ad = true) :
    stepLoc hw a (.lea r ad) l pc = .ok { l with ap := l.ap.setReg r ad } (pc + 1) := by
  simp [stepLoc, wr, hf]

/-- `load`: Python indexing — `k` in `[-len, len)`, negative `k` counts from the end -/
theorem load_spec (hw a l pc r ad ix) (k v : Int) (arr : List Val) (p : Nat)
    (hi : l.ap.regs ix = some k) (hfa : fits hw ad = true) (ha : l.ap.arrays ad = some arr)
    (hp : pyIdx arr.length k = some p) (hv : arr[p]?.join = some v) (hfv : fits hw v = true) :
    stepLoc hw a (.load r ad ix) l pc = .ok { l with ap := l.ap.setReg r v } (pc + 1) := by
  simp [stepLoc, wr, hi, hfa, ha, hp, hv, hfv]

theorem undef_spec (hw a l pc ad ix) (k : Int) (arr : List Val) (p : Nat)
    (hi : l.ap.regs ix = some k) (hfa : fits hw ad = true) (ha : l.ap.arrays ad = some arr)
    (hp : pyIdx arr.length k = some p) :
    stepLoc hw a (.undef ad ix) l pc =
      .ok { l with ap := { l.ap with arrays := upd l.ap.arrays ad (some (arr.set p none)) } } (pc + 1) := by
  simp [stepLoc, hi, hfa, ha, hp]

/-- `array`: a fresh array of `n` undefined entries (none for `n ≤ 0`); registers untouched -/
theorem array_spec (hw a l pc sz ad) (n : Int) (hs : l.ap.regs sz = some n) (hfa : fits hw ad = true) :
    ∃ l', stepLoc hw a (.array sz ad) l pc = .ok l' (pc + 1) ∧
      l'.ap.arrays ad = some (List.replicate n.toNat none) ∧ l'.ap.regs = l.ap.regs := by
  refine ⟨{ l with ap := { l.ap with arrays := upd l.ap.arrays ad (some (List.replicate n.toNat none)),
                                      shmArrs := upd l.ap.shmArrs ad (freeze l.ap ad) } }, ?_, by simp, rfl⟩
  simp [stepLoc, hs, hfa]

/-- `qalloc` bookkeeping: the free virtual slot gets the smallest unused physical qubit, which
becomes used; nothing else changes -/
theorem qalloc_spec (hw a l pc r) (v : Int) (p : Nat) (hr : l.ap.regs r = some v)
    (hlt : v < l.ap.unit.length) (hp : pyIdx l.ap.unit.length v = some p)
    (hn : l.ap.unit[p]?.join = none) :
    stepLoc hw a (.qalloc r) l pc =
      .ok { l with ap := { l.ap with unit := l.ap.unit.set p (some (firstUnused l.used)) },
                   used := sadd (firstUnused l.used) l.used } (pc + 1)
    ∧ firstUnused l.used ∉ l.used := by
  have : ¬ v ≥ l.ap.unit.length := Int.not_le.mpr hlt
  exact ⟨by simp [stepLoc, hr, this, hp, hn], firstUnused_not_mem _⟩

/-- `qfree` bookkeeping: the slot is cleared and its physical qubit is no longer used -/
theorem qfree_spec (hw a l pc r) (v : Int) (p q : Nat) (hr : l.ap.regs r = some v)
    (hp : pyIdx l.ap.unit.length v = some p) (hq : l.ap.unit[p]?.join = some q) (hm : q ∈ l.used) :
    stepLoc hw a (.qfree r) l pc =
      .ok { l with ap := { l.ap with unit := l.ap.unit.set p none }, used := srem q l.used } (pc + 1)
    ∧ q ∉ srem q l.used := by
  exact ⟨by simp [stepLoc, hr, hp, hq, hm], by simp [mem_srem]⟩

/-- `meas`: the scripted outcome lands in the classical register, one trace event is recorded -/
theorem meas_spec (hw a l pc q c) (v : Int) (hq : l.ap.regs q = some v) (hf : fits hw (l.oracle.headD 0) = true) :
    ∃ l', stepLoc hw a (.meas q c) l pc = .ok l' (pc + 1) ∧ l'.ap.regs c = some (l.oracle.headD 0) ∧
      l'.oracle = l.oracle.tail ∧ l'.trace = l.trace ++ [⟨a, "meas", [v]⟩] := by
  refine ⟨{ (ev { l with oracle := l.oracle.tail } a "meas" [v]) with ap := l.ap.setReg c (l.oracle.headD 0) },
    ?_, by simp [App.setReg], rfl, rfl⟩
  simp only [stepLoc, hq]
  rw [if_pos hf]

/-- in hardware mode whatever an instruction writes into a register fits 32 bits -/
theorem hw_written_fits (a i l l' pc pc' r) (h : stepLoc true a i l pc = .ok l' pc') (hr : i.wreg = some r) :
    ∃ v, l'.ap.regs r = some v ∧ -2147483648 ≤ v ∧ v ≤ 2147483647 := by
  obtain ⟨v, hv, hf⟩ := (stepLoc_ok h).2.2.1 r hr
  exact ⟨v, hv, by simpa [fits] using hf⟩

/-! ## Non-vacuity: the hypotheses above are satisfiable by concrete instances -/

def demoLoc : Loc :=
  ⟨{ freshApp 2 with regs := upd (upd (fun _ => none) r0 (some (-7))) r1 (some 3),
                     arrays := upd (fun _ => none) 0 (some [none, some 4]) }, [], [], []⟩

example : stepLoc false 0 (.addm r0 r0 r0 r1) demoLoc 5
    = .ok { demoLoc with ap := demoLoc.ap.setReg r0 ((-7 + -7) % 3) } 6 :=
  addm_spec false 0 demoLoc 5 r0 r0 r0 r1 (-7) (-7) 3 (by decide) (by decide) (by decide) (by decide) (by decide)

example : ((-7 + -7) % 3 : Int) = 1 := by decide

example : stepLoc false 0 (.load r0 0 r1) demoLoc 0 = .fault demoLoc .index :=
  load_past_end_faults false 0 demoLoc 0 r0 0 r1 3 [none, some 4] (by decide) (by decide) (by decide) (by decide)

example : stepLoc false 0 (.blt r0 r1 (-4)) demoLoc 9 = .ok demoLoc (-4) := by
  have := blt_spec false 0 demoLoc 9 r0 r1 (-4) (-7) 3 (by decide) (by decide)
  simpa using this

example : (run false 0 [.set r0 1, .qalloc r0, .qalloc r0] 10 (initApp init0 0 2).1 0).out
    = .fault .doubleAlloc (some 2) := by decide

example : stepLoc false 0 (.load r0 0 r1) { demoLoc with ap := demoLoc.ap.setReg r1 (-1) } 0
    = .ok { demoLoc with ap := (demoLoc.ap.setReg r1 (-1)).setReg r0 4 } 1 :=
  -- negative index: `@0[-1]` is the last entry
  load_spec false 0 _ 0 r0 0 r1 (-1) 4 [none, some 4] 1 (by decide) (by decide) (by decide) (by decide)
    (by decide) (by decide)

end NQ.C04
