/-
Obligations about the qlink-interface 1.0 compatibility layer (`netqasm/qlink_compat.py`:
`response_from_qlink_1_0`, `request_to_qlink_1_0`), decided by the kernel over tables obtained by
PROBING the real conversions (translate/qlink_tables.py: every source field gets a distinct marker value;
enum conversions are tabulated member by member). Serves C11 (requests and result fields cross the
boundary intact also in 1.0 form) and C12 (creator/receiver discrimination reads `directionality_flag`
of the converted response).
-/
import NetqasmVerif.Gen.QlinkTables
import NetqasmVerif.Gen.EprTables
namespace NQ.Qlink
open NQ.Gen.Qlink

/-- the only renamed response field -/
def renameResp (dst : String) : String := if dst == "goodness_time" then "time_of_goodness" else dst

/-- the converted tuple has exactly the fields `fields`; `type` is the stated constant; EVERY other field
carries the source field of the same name (a dropped field would show up as a constant) -/
def respOk (rows : List (String × String × String)) (fields : List String) (tyConst : String) : Bool :=
  rows.map (·.1) == fields &&
  rows.all fun (dst, kind, src) =>
    if dst == "type" then kind == "const" && src == tyConst
    else (kind == "copy" || kind == "enum") && src == renameResp dst

/-- `response_from_qlink_1_0` copies every field of `ResCreateAndKeep` / `ResMeasureDirectly` /
`ResError` — in particular `directionality_flag`, `purpose_id`, `remote_node_id`, `sequence_number`,
`logical_qubit_id` — into the `LinkLayerOKTypeK` / `…M` / `LinkLayerErr` field of the same name. -/
theorem response_conversion_copies_every_field :
    respOk respK Gen.Epr.okK "ReturnType.OK_K" = true ∧ respKClass = "LinkLayerOKTypeK" ∧
    respOk respM Gen.Epr.okM "ReturnType.OK_M" = true ∧ respMClass = "LinkLayerOKTypeM" ∧
    respOk respErr (respErr.map (·.1)) "ReturnType.ERR" = true ∧ respErr.length = 7 := by decide +kernel

/-- the measurement basis is converted member by member, same name, same value -/
theorem basis_conversion_exact :
    basisConv.all (fun (n, v, n', v') => n' == "Basis." ++ n && v == v') = true ∧
    basisConv.map (fun x => (x.1, x.2.1)) = [("Z", 0), ("X", 1), ("Y", 2), ("ZPLUSX", 3), ("ZMINUSX", 4)] ∧
    basisConv.map (fun x => x.2.2.2) = Gen.Epr.basis.map (·.2) := by decide +kernel

/-- the Bell-state field is passed on VERBATIM: an int index stays that int, a `qlink_interface.BellState`
member is stored by its own `.value` (no renumbering). -/
theorem bell_state_verbatim :
    bellConv.all (fun (_, _, v, stored, _) => v == stored) = true ∧
    bellIntConv.all (fun (a, b) => a == b) = true := by decide +kernel

/-- OBSERVATION (not counted against C11/C12): `qlink_interface.BellState` and `qlink_compat.BellState`
number the four Bell states differently, and `ResCreate.bell_state` is declared `int  # index … TODO add
mapping`. A link layer that fills the field with `qlink_interface.BellState` MEMBERS gets its values read
back by the SDK under the netqasm numbering: the pairs below are (qlink-interface name, netqasm name of
the stored value) where they differ. The field itself is transported intact (`bell_state_verbatim`);
which numbering the int means is the link layer's contract. -/
theorem bell_numberings_differ :
    ((bellConv.filter (fun (c, n, _, _, n') => c == "ResCreateAndKeep" && n != n')).map
      fun (_, n, _, _, n') => (n, n')) =
    [("PHI_MINUS", "PSI_PLUS"), ("PSI_PLUS", "PSI_MINUS"), ("PSI_MINUS", "PHI_MINUS")] ∧
    qlinkBell ≠ Gen.Epr.bellState := by decide +kernel

/-- which `LinkLayerCreate` field each field of the 1.0 request must carry (the specification) -/
def reqRename : String → String
  | "x_rotation_angle_local_1" => "rotation_X_local1"
  | "y_rotation_angle_local" => "rotation_Y_local"
  | "x_rotation_angle_local_2" => "rotation_X_local2"
  | "x_rotation_angle_remote_1" => "rotation_X_remote1"
  | "y_rotation_angle_remote" => "rotation_Y_remote"
  | "x_rotation_angle_remote_2" => "rotation_X_remote2"
  | "probability_distribution_parameter_local_1" => "probability_dist_local1"
  | "probability_distribution_parameter_local_2" => "probability_dist_local2"
  | "probability_distribution_parameter_remote_1" => "probability_dist_remote1"
  | "probability_distribution_parameter_remote_2" => "probability_dist_remote2"
  | s => s

def reqOk (rows : List (String × String × String)) : Bool :=
  rows.all fun (dst, kind, src) => (kind == "copy" || kind == "enum") && src == reqRename dst

/-- `request_to_qlink_1_0`: every field of the 1.0 request carries the `LinkLayerCreate` field it is named
after; a keep request carries the nine base fields, a measure request EVERY field of `LinkLayerCreate`
except `type` (which selects the class); a receive request its two ids; random-basis members are
converted member by member, same name and value. -/
theorem request_conversion_copies_every_field :
    reqOk reqK = true ∧ reqKClass = "ReqCreateAndKeep" ∧
    reqK.map (·.1) = ["remote_node_id", "minimum_fidelity", "time_unit", "max_time", "purpose_id", "number",
      "priority", "atomic", "consecutive"] ∧
    reqOk reqM = true ∧ reqMClass = "ReqMeasureDirectly" ∧
    Gen.Epr.createFields.all (fun f => f == "type" || reqM.any (fun r => r.2.2 == f)) = true ∧
    reqM.length + 1 = Gen.Epr.createFields.length ∧
    reqOk reqRecv = true ∧ reqRecv.map (·.1) = ["remote_node_id", "purpose_id"] ∧
    randBasisConv.all (fun (_, n, v, n', v') => n == n' && v == v') = true ∧
    randBasisConv.length = 2 * Gen.Epr.randomBasis.length := by decide +kernel

end NQ.Qlink
