/-
C08 — NV transpilation preserves program behaviour, not only gates: purity of the pass
(`transpile_pure`), branch targets (`branch_lands_on_expansion`), the borrowed register
(`scratch_ok`), and the step-for-step simulation under `QStatic` (`transpile_simulates_C07_partial`);
the F10 witnesses show that the statement without `QStatic` is false.
-/
import NetqasmVerif.Lemmas.TranspileSim
import NetqasmVerif.Lemmas.TranspileExpandSound
import NetqasmVerif.Lemmas.TranspileScratch
import NetqasmVerif.Lemmas.TranspilePure
import NetqasmVerif.Gen.NvExpand
namespace NQ.C08
open NQ NQ.Tr

def qreg (i : Int) : Operand := .reg ⟨2, i⟩
def rreg (i : Int) : Operand := .reg ⟨0, i⟩

def SetWrites (cfg : Cfg) : Bool := cfg.infos.all (fun r => !r.isSet || r.writes == [0])

/-- Everything that is decided on the generated tables (re-decided whenever /repo changes them), for
both debug and both hardware settings, in ONE evaluation: the checks look the same class names up in
the same two tables, and the kernel shares that work. -/
theorem tables_gen : ∀ d h : Bool,
    (TemplatesNoBranch (Gen.cfg d h) = true ∧ InfosWF (Gen.cfg d h) = true ∧
      isDebug (Gen.cfg d h).pad = false) ∧
    SetsOnlyScratch (Gen.cfg d h) = true ∧ SetWrites (Gen.cfg d h) = true ∧
    (lineOf (Gen.cfg d h) (Gen.cfg d h).pad = none ∧
      setOf (Gen.cfg d h) (Gen.cfg d h).pad = some (⟨1, 15⟩, 1337)) ∧
    (AllTies (Gen.cfg d h) = true ∧ ClsTie (Gen.cfg d h) = true) := by
  decide +kernel

theorem expansions_have_no_branch : ∀ d h : Bool,
    TemplatesNoBranch (Gen.cfg d h) = true ∧ InfosWF (Gen.cfg d h) = true ∧
    isDebug (Gen.cfg d h).pad = false :=
  fun d h => (tables_gen d h).1

/-! ## Purity: the output is a function of (subroutine, settings)

In /repo the output buffer, the index map and the debug-marker counter are locals of `transpile()`;
of the object only `_register_values` and `_used_registers` survive a call. `transpileObj cfg rv0
used0 S` is a call on an object whose two attributes hold `rv0`, `used0`. The history streams of
checks/c08.py (helper methods called first; a call that raised, then a retry; two calls on one
object; two objects on one subroutine) test exactly these statements on the real objects. -/

/-- **transpile_pure**: a fresh object computes `transpile cfg S`, which mentions no object state;
whatever an object did before, a call depends on it only through look-ups in `_register_values` and
membership in `_used_registers`; in particular helper methods, which touch neither attribute, cannot
influence a later call. -/
theorem transpile_pure (cfg : Cfg) (S : List Instr) :
    transpileObj cfg [] [] S = transpile cfg S ∧
    (∀ rv rv' used used', (∀ r, rv.lookup r = rv'.lookup r) → (∀ r, r ∈ used ↔ r ∈ used') →
      transpileObj cfg rv used S = transpileObj cfg rv' used' S) :=
  ⟨transpileObj_fresh cfg S, fun _ _ _ _ hl hu => transpileObj_congr cfg hl hu S⟩

/-- **retry after an exception**: an object left behind by a call that got through the stretch `P`
(no two-qubit gate in it) and then raised — its attributes are `P`'s `set`s and registers — asked
again for `P ++ R` (same program under another setting, or with the rest edited) answers exactly as
a fresh object. (After a carbon–carbon gate the real pass has already overwritten `reg0` of the
caller's instruction object, so a retry is meaningless there: not claimed.) -/
theorem transpile_retry_pure (cfg : Cfg) (P R : List Instr) (hfree : ∀ x ∈ P, isGate2 cfg x = false) :
    transpileObj cfg (rvAfter cfg [] P) (P.flatMap topRegs) (P ++ R) = transpile cfg (P ++ R) :=
  transpileObj_retry cfg P R hfree

/-- a second pass over a program without gates changes nothing once its targets are in range
(witness: a counted loop with head 0 and a branch to the end label, so the first pass appends the
padding — 6 instructions — and the second pass leaves those 6 as they are; idempotence in general is
tested on the real code) -/
theorem second_pass_identity_witness :
    let S : List Instr := [
      ⟨"core.SetInstruction", [.reg ⟨0, 1⟩, .imm 1]⟩, ⟨"core.SetInstruction", [.reg ⟨0, 2⟩, .imm 3]⟩,
      ⟨"core.AddInstruction", [.reg ⟨0, 0⟩, .reg ⟨0, 0⟩, .reg ⟨0, 1⟩]⟩,
      ⟨"core.BltInstruction", [.reg ⟨0, 0⟩, .reg ⟨0, 2⟩, .imm 0]⟩,
      ⟨"core.BgeInstruction", [.reg ⟨0, 0⟩, .reg ⟨0, 2⟩, .imm 5]⟩]
    ∀ d : Bool, (transpile (Gen.cfg d false) S).toOption.bind
        (fun o => (transpile (Gen.cfg d false) o).toOption.map (fun o' => (o' == o, o.length))) =
      some (true, 6) := by
  decide +kernel

/-! ## The index map and the branch targets (all vanilla subroutines, any length)

`cs` are the per-instruction chunks of the pass (`Chunks`), `tposS cs i` the number of *serialised*
instructions (debug markers excluded) before chunk `i`, `patchOf` the retargeting of the run.
`serialise out` is what the controller receives. -/

/-- `index_changes[i]` is the serialised start of the expansion of instruction `i`: the serialised
output splits as `pre ++ (expansion of S[i]) ++ post` with `|pre| = index_changes[i]`. -/
theorem index_is_expansion_start (cfg : Cfg) (hpad : isDebug cfg.pad = false) (S out : List Instr)
    (h : transpile cfg S = .ok out) :
    ∃ cs idx, Chunks cfg [] [] S cs ∧ indexChanges cfg S = some idx ∧ idx.length = S.length ∧
      ∀ i, i < S.length → idx[i]? = some (tposS cs i) ∧
        ∃ c pre post, cs[i]? = some c ∧
          serialise out = pre ++ serialise (c.map (patchOf cfg S cs)) ++ post ∧ pre.length = tposS cs i := by
  obtain ⟨cs, hc, hidx, hout, _⟩ := transpile_structure h
  have hlen := hc.length_eq
  refine ⟨cs, starts 0 cs, hc, hidx, by rw [starts_length, hlen], ?_⟩
  intro i hi
  have hi' : i < cs.length := by omega
  refine ⟨by simpa using starts_getElem? 0 cs i hi', cs[i], ?_⟩
  obtain ⟨pre, post, h1, h2⟩ := code_at (cfg := cfg) (S := S) hpad i hi'
  exact ⟨pre, post, by simp, by rw [hout]; exact h1, h2⟩

theorem index_monotone (cfg : Cfg) (S out : List Instr) (h : transpile cfg S = .ok out)
    (idx : List Nat) (hidx : indexChanges cfg S = some idx) (i j a b : Nat) (hij : i ≤ j)
    (ha : idx[i]? = some a) (hb : idx[j]? = some b) : a ≤ b := by
  obtain ⟨cs, hc, hidx', _, _⟩ := transpile_structure h
  rw [hidx] at hidx'
  simp only [Option.some.injEq] at hidx'
  subst hidx'
  have hj : j < cs.length := by
    have := (List.getElem?_eq_some_iff.1 hb).1
    simpa [starts_length] using this
  rw [starts_getElem? 0 cs i (by omega)] at ha
  rw [starts_getElem? 0 cs j hj] at hb
  simp only [Nat.zero_add, Option.some.injEq] at ha hb
  subst ha; subst hb
  exact tposS_mono cs hij

/-- the program of seeded change C08_1: a counted loop whose head — the branch target — is a
carbon–carbon CNOT (position 9), preceded by `h Q0; add; add` -/
def loopHeadCC : List Instr := [
  ⟨"core.SetInstruction", [.reg ⟨0, 0⟩, .imm 0]⟩, ⟨"core.SetInstruction", [.reg ⟨0, 1⟩, .imm 1]⟩,
  ⟨"core.SetInstruction", [.reg ⟨0, 2⟩, .imm 3]⟩, ⟨"core.SetInstruction", [.reg ⟨0, 5⟩, .imm 0]⟩,
  ⟨"core.SetInstruction", [.reg ⟨2, 0⟩, .imm 1]⟩, ⟨"core.SetInstruction", [.reg ⟨2, 1⟩, .imm 2]⟩,
  ⟨"vanilla.GateHInstruction", [.reg ⟨2, 0⟩]⟩,
  ⟨"core.AddInstruction", [.reg ⟨0, 5⟩, .reg ⟨0, 5⟩, .reg ⟨0, 2⟩]⟩,
  ⟨"core.AddInstruction", [.reg ⟨0, 5⟩, .reg ⟨0, 5⟩, .reg ⟨0, 2⟩]⟩,
  ⟨"vanilla.CnotInstruction", [.reg ⟨2, 0⟩, .reg ⟨2, 1⟩]⟩,
  ⟨"vanilla.GateTInstruction", [.reg ⟨2, 1⟩]⟩,
  ⟨"core.AddInstruction", [.reg ⟨0, 0⟩, .reg ⟨0, 0⟩, .reg ⟨0, 1⟩]⟩,
  ⟨"core.BltInstruction", [.reg ⟨0, 0⟩, .reg ⟨0, 2⟩, .imm 9]⟩]

/-- why `index_is_expansion_start` excludes the seeded change: with `debug=True` the expansion of
the loop head starts at serialised position 10 (`set Q2 0`, the first instruction of the
carbon–carbon circuit) and the back edge is retargeted to 10; its chunk contains 4 debug markers, so
a pass that subtracted the marker count AFTER appending the chunk would record 6 — the second
rotation of `h Q0` — and `idx[i] = tposS cs i` (`|pre| = index_changes[i]`) would be false there. -/
theorem seeded_index_loop_head :
    indexChanges (Gen.cfg true false) loopHeadCC = some [0, 1, 2, 3, 4, 5, 6, 8, 9, 10, 38, 41, 42] ∧
    (transpile (Gen.cfg true false) loopHeadCC).toOption.map (fun o =>
        ((serialise o)[10]?, (serialise o)[42]?, (serialise o)[10 - 4]?,
         ((o.drop 10).take 32).filter isDebug |>.length)) =
      some (some ⟨"core.SetInstruction", [.reg ⟨2, 2⟩, .imm 0]⟩,
            some ⟨"core.BltInstruction", [.reg ⟨0, 0⟩, .reg ⟨0, 2⟩, .imm 10]⟩,
            some ⟨"nv.RotYInstruction", [.reg ⟨2, 0⟩, .imm 8, .imm 4]⟩, 4) := by
  decide +kernel

/-- the output is the concatenation of the patched chunks, plus the padding exactly when some
emitted branch targeted the original end -/
theorem output_structure (cfg : Cfg) (S out : List Instr) (h : transpile cfg S = .ok out) :
    ∃ cs, Chunks cfg [] [] S cs ∧ cs.length = S.length ∧
      out = cs.flatten.map (patchOf cfg S cs) ++ (if endTargeted cfg S cs then [cfg.pad] else []) := by
  obtain ⟨cs, hc, _, hout, _⟩ := transpile_structure h
  exact ⟨cs, hc, hc.length_eq, hout⟩

/-- **Every `jmp`/`b**` lands on the expansion of its original target.** For the branch `x = S[p]`
with original target `t`: `0 ≤ t ≤ len S`; in the serialised output `x` sits at `index_changes[p]`
with target `tposS cs t`; if `t < len S` the serialised output has the expansion of `S[t]` exactly at
that position; if `t = len S` the padding instruction was appended and sits exactly there. -/
theorem branch_lands_on_expansion (cfg : Cfg) (hW : InfosWF cfg = true)
    (hpad : isDebug cfg.pad = false) (S out : List Instr) (h : transpile cfg S = .ok out)
    (p : Nat) (x : Instr) (t : Int) (hx : S[p]? = some x) (hl : lineOf cfg x = some t) :
    ∃ cs, Chunks cfg [] [] S cs ∧ 0 ≤ t ∧ t.toNat ≤ S.length ∧
      (∃ pre post, serialise out = pre ++ [setLine cfg x (tposS cs t.toNat)] ++ post ∧ pre.length = tposS cs p) ∧
      (t.toNat < S.length → ∃ c pre post, cs[t.toNat]? = some c ∧
          serialise out = pre ++ serialise (c.map (patchOf cfg S cs)) ++ post ∧ pre.length = tposS cs t.toNat) ∧
      (t.toNat = S.length → ∃ pre, serialise out = pre ++ [cfg.pad] ∧ pre.length = tposS cs t.toNat) := by
  obtain ⟨cs, hc, _, hout, hok⟩ := transpile_structure h
  have hlen := hc.length_eq
  -- the chunk of a branch is the branch itself
  obtain ⟨hp', hchunk, hnd⟩ := hc.nongate_at hW hx (not_gate_of_line hW hl)
  have hmem : x ∈ cs.flatten :=
    List.mem_flatten.2 ⟨cs[p], List.getElem_mem hp', by rw [hchunk]; exact List.mem_singleton.2 rfl⟩
  obtain ⟨h0, hle, hpatch⟩ := hok x hmem t hl
  refine ⟨cs, hc, h0, hle, ?_, ?_, ?_⟩
  · obtain ⟨pre, post, h1, h2⟩ := code_at (cfg := cfg) (S := S) hpad p hp'
    refine ⟨pre, post, ?_, h2⟩
    rw [hout, h1, hchunk]
    have : isDebug (patchOf cfg S cs x) = false := by
      unfold patchOf isDebug; rw [patchOne_cls]; exact hnd
    rw [hpatch] at this
    simp [serialise, hpatch, this]
  · intro ht
    have ht' : t.toNat < cs.length := by omega
    obtain ⟨pre, post, h1, h2⟩ := code_at (cfg := cfg) (S := S) hpad t.toNat ht'
    exact ⟨cs[t.toNat], pre, post, by simp, by rw [hout]; exact h1, h2⟩
  · intro ht
    have he : endTargeted cfg S cs = true := by
      unfold endTargeted
      refine List.any_eq_true.2 ⟨x, hmem, ?_⟩
      have : t = (S.length : Int) := by omega
      simp [hl, this]
    obtain ⟨pre, h1, h2⟩ := pad_at (cfg := cfg) (S := S) hpad he
    exact ⟨pre, by rw [hout]; exact h1, by rw [h2, ht, hlen]⟩

/-- the case `t = 0` of `branch_lands_on_expansion`, spelled out: a branch to the FIRST instruction
keeps target 0 (the expansion of instruction 0 starts the serialised output); it is not the end
label, whatever Python's truthiness of `0` suggests (seeded change C08_7) -/
theorem branch_to_line_zero (cfg : Cfg) (hT : TemplatesNoBranch cfg = true) (hW : InfosWF cfg = true)
    (hpad : isDebug cfg.pad = false) (S out : List Instr) (h : transpile cfg S = .ok out)
    (p : Nat) (x : Instr) (hx : S[p]? = some x) (hl : lineOf cfg x = some 0) :
    ∃ cs, Chunks cfg [] [] S cs ∧
      (∃ pre post, serialise out = pre ++ [setLine cfg x 0] ++ post ∧ pre.length = tposS cs p) ∧
      (∃ c post, cs[0]? = some c ∧ serialise out = serialise (c.map (patchOf cfg S cs)) ++ post) := by
  obtain ⟨cs, hc, _, _, h1, h2, _⟩ := branch_lands_on_expansion cfg hW hpad S out h p x 0 hx hl
  have hpos : 0 < S.length := by
    have := (List.getElem?_eq_some_iff.1 hx).1; omega
  refine ⟨cs, hc, ?_, ?_⟩
  · simpa [tposS_zero] using h1
  · obtain ⟨c, pre, post, hc0, hs, hlen⟩ := h2 (by simpa using hpos)
    simp only [Int.toNat_zero, tposS_zero] at hc0 hlen
    have : pre = [] := List.eq_nil_of_length_eq_zero hlen
    subst this
    exact ⟨c, post, hc0, by simpa using hs⟩

/-- the loop of seeded change C08_7: its head — the target of the back edge — is line 0 -/
def loopHeadZero : List Instr := [
  ⟨"core.SetInstruction", [.reg ⟨0, 1⟩, .imm 1]⟩, ⟨"core.SetInstruction", [.reg ⟨0, 2⟩, .imm 3]⟩,
  ⟨"core.SetInstruction", [.reg ⟨2, 0⟩, .imm 1]⟩, ⟨"vanilla.GateTInstruction", [.reg ⟨2, 0⟩]⟩,
  ⟨"core.AddInstruction", [.reg ⟨0, 0⟩, .reg ⟨0, 0⟩, .reg ⟨0, 1⟩]⟩,
  ⟨"core.BltInstruction", [.reg ⟨0, 0⟩, .reg ⟨0, 2⟩, .imm 0]⟩,
  ⟨"core.SetInstruction", [.reg ⟨2, 0⟩, .imm 1]⟩]

/-- on `loopHeadZero` the back edge (position 7 of the output) keeps target 0 and no padding is
appended (9 instructions: the `t Q0` became 3), for both debug settings -/
theorem seeded_line_zero : ∀ d : Bool,
    (transpile (Gen.cfg d false) loopHeadZero).toOption.map (fun o => (o[7]?, o.length)) =
      some (some ⟨"core.BltInstruction", [.reg ⟨0, 0⟩, .reg ⟨0, 2⟩, .imm 0]⟩, 9) := by
  decide +kernel

/-- the program of seeded change C08_20: a branch to the label BEHIND a trailing `ret_reg`. By
`branch_lands_on_expansion` (case `t = len S`: `serialise out = pre ++ [pad]`) the padding is the LAST
instruction, so a taken branch skips the return block as the vanilla run does; here: the `bez` targets
the last position, which holds the padding, and `ret_reg R1` sits right before it (both debug settings).
A pass that put the padding in front of the return block would contradict that theorem. -/
theorem seeded_end_label_behind_return_block : ∀ d : Bool,
    let S : List Instr := [
      ⟨"core.SetInstruction", [.reg ⟨0, 2⟩, .imm 0]⟩, ⟨"core.SetInstruction", [.reg ⟨0, 1⟩, .imm 5]⟩,
      ⟨"core.BezInstruction", [.reg ⟨0, 2⟩, .imm 5]⟩,
      ⟨"core.SetInstruction", [.reg ⟨0, 1⟩, .imm 7]⟩,
      ⟨"core.RetRegInstruction", [.reg ⟨0, 1⟩]⟩]
    (transpile (Gen.cfg d false) S).toOption.map (fun o => (o[2]?, o[4]?, o[5]?, o.length)) =
      some (some ⟨"core.BezInstruction", [.reg ⟨0, 2⟩, .imm 5]⟩,
            some ⟨"core.RetRegInstruction", [.reg ⟨0, 1⟩]⟩, some (Gen.cfg d false).pad, 6) := by
  decide +kernel

/-- **Non-gate instructions appear exactly once and in order**: erasing the chunks that come from
gates from the output chunks, and the gates from the input, gives equal lists up to the target
patching `patchOf`. -/
theorem nongate_order (cfg : Cfg) (S out : List Instr) (h : transpile cfg S = .ok out) :
    ∃ cs, Chunks cfg [] [] S cs ∧
      out = cs.flatten.map (patchOf cfg S cs) ++ (if endTargeted cfg S cs then [cfg.pad] else []) ∧
      (((S.zip cs).filter (fun q => !isGate cfg q.1)).map (fun q => q.2.map (patchOf cfg S cs))).flatten
        = (S.filter (fun i => !isGate cfg i)).map (patchOf cfg S cs) := by
  obtain ⟨cs, hc, _, hout, _⟩ := transpile_structure h
  refine ⟨cs, hc, hout, ?_⟩
  have hsing : ∀ l : List Instr, (l.map (List.map (patchOf cfg S cs) ∘ fun i => [i])).flatten
      = l.map (patchOf cfg S cs) := fun l => by
    induction l with
    | nil => rfl
    | cons x l ih => exact congrArg (patchOf cfg S cs x :: ·) ih
  show (((S.zip cs).filter _).map (List.map (patchOf cfg S cs) ∘ (·.2))).flatten = _
  rw [← List.map_map, hc.nongate, List.map_map]
  exact hsing _

theorem sets_only_scratch_gen : ∀ d h : Bool, SetsOnlyScratch (Gen.cfg d h) = true :=
  fun d h => (tables_gen d h).2.1

/-- **scratch_ok** — about the pass's OUTPUT: in the chunk emitted for a gate at position `p`, every
register written (every `set r v` of the expansion; expansions contain no other register write) is
the register `get_unused_register` returns for the registers named up to and including `p`; hence it
is a Q register named by no instruction at or before `p`, and it lies in no window at `p` or `p + 1`.
On a `QStatic` program that makes it dead there: a later gate reads a Q register only inside a window,
i.e. after a later `set` of it, and a later non-gate reads a borrowed register only inside a window
too (`qstatic_at`).
(A pass that cached the register of an earlier gate — seeded change C08_0 — violates the first
conjunct: its second carbon–carbon gate writes a register the program started using in between.) -/
theorem scratch_ok (cfg : Cfg) (hS : SetsOnlyScratch cfg = true) (S out : List Instr)
    (h : transpile cfg S = .ok out) :
    ∃ cs, Chunks cfg [] [] S cs ∧
      ∀ p x c, S[p]? = some x → isGate cfg x = true → cs[p]? = some c →
        ∀ y ∈ c, ∀ r v, setOf cfg y = some (r, v) →
          getUnused ((S.take (p + 1)).flatMap topRegs) = .ok r ∧
          r ∉ (S.take (p + 1)).flatMap topRegs ∧ r.bank = bankQ ∧
          K cfg S p r = none ∧ K cfg S (p + 1) r = none := by
  obtain ⟨cs, hc, _, _, _⟩ := transpile_structure h
  refine ⟨cs, hc, ?_⟩
  intro p x c hx hg hcp y hy r v hset
  obtain ⟨hp, hxe⟩ := List.getElem?_eq_some_iff.1 hx
  obtain ⟨info, hi, hp', hex⟩ := hc.at p hp
  rw [hxe] at hi hex
  have hce : cs[p] = c := by
    rw [List.getElem?_eq_getElem hp'] at hcp; simpa using hcp
  rw [hce] at hex
  have hgi : infoGate info = true := by rw [← isGate_eq hi]; exact hg
  have hgu := expandInstr_sets hS hi hgi hex hy hset
  simp only [List.nil_append] at hgu
  have hf := getUnused_fresh hgu
  refine ⟨hgu, hf.1, hf.2, ?_, ?_⟩
  · cases hk : K cfg S p r with
    | none => rfl
    | some v' =>
      have := K_mem_used hk
      refine absurd ?_ hf.1
      rw [take_succ_of_get hx]; simp only [List.flatMap_append, List.mem_append]; exact Or.inl this
  · cases hk : K cfg S (p + 1) r with
    | none => rfl
    | some v' => exact absurd (K_mem_used hk) hf.1

/-- the program of seeded change C08_0 (`cnot` on carbons 1, 2; then `Q2` starts being used for
qubit 3; a second carbon–carbon gate; `x Q2` without re-setting): the pass as it is borrows `Q2` for
the first gate and `Q3` for the second, so `Q2` still names qubit 3 at the end -/
def seededScratch : List Instr := [
  ⟨"core.SetInstruction", [qreg 0, .imm 1]⟩,
  ⟨"core.SetInstruction", [qreg 1, .imm 2]⟩,
  ⟨"vanilla.CnotInstruction", [qreg 0, qreg 1]⟩,
  ⟨"core.SetInstruction", [qreg 2, .imm 3]⟩,
  ⟨"vanilla.GateHInstruction", [qreg 2]⟩,
  ⟨"vanilla.CphaseInstruction", [qreg 1, qreg 0]⟩,
  ⟨"vanilla.GateXInstruction", [qreg 2]⟩]

/-- the two statements about `seededScratch` below, in one evaluation of the pass on it -/
theorem seededScratch_facts :
    (QStatic (Gen.cfg false false) seededScratch = true ∧
    (transpile (Gen.cfg false false) seededScratch).toOption.map (fun o =>
      o.filterMap (fun i => match setOf (Gen.cfg false false) i with
        | some (r, v) => if r.bank == bankQ then some (r.idx, v) else none
        | none => none)) = some [(0, 1), (1, 2), (2, 0), (2, 3), (3, 0)]) ∧
    (getUnused ((seededScratch.take 3).flatMap topRegs) = .ok ⟨2, 2⟩ ∧
    getUnused ((seededScratch.take 6).flatMap topRegs) = .ok ⟨2, 3⟩ ∧
    (⟨2, 2⟩ : Reg) ∈ (seededScratch.take 6).flatMap topRegs ∧
    K (Gen.cfg false false) seededScratch 6 ⟨2, 2⟩ = some 3) := by
  decide +kernel

theorem seeded_scratch_registers :
    QStatic (Gen.cfg false false) seededScratch = true ∧
    (transpile (Gen.cfg false false) seededScratch).toOption.map (fun o =>
      o.filterMap (fun i => match setOf (Gen.cfg false false) i with
        | some (r, v) => if r.bank == bankQ then some (r.idx, v) else none
        | none => none)) = some [(0, 1), (1, 2), (2, 0), (2, 3), (3, 0)] :=
  seededScratch_facts.1

/-- why `scratch_ok` excludes the seeded change: the register borrowed at the first gate (`Q2`,
position 2) is, at the second carbon–carbon gate (position 5), named by the program and inside a
window (`K … 6 Q2 = some 3`: it is live, holding qubit 3); `get_unused_register` there returns `Q3`.
A model that re-used the cached `Q2` would write a register for which the conjuncts
`r ∉ …flatMap topRegs` and `K cfg S (p + 1) r = none` of `scratch_ok` are false. -/
theorem seeded_cache_violates_scratch_ok :
    getUnused ((seededScratch.take 3).flatMap topRegs) = .ok ⟨2, 2⟩ ∧
    getUnused ((seededScratch.take 6).flatMap topRegs) = .ok ⟨2, 3⟩ ∧
    (⟨2, 2⟩ : Reg) ∈ (seededScratch.take 6).flatMap topRegs ∧
    K (Gen.cfg false false) seededScratch 6 ⟨2, 2⟩ = some 3 :=
  seededScratch_facts.2

/-- the program of seeded change C08_12: `Q2` names qubit 3, which is freed, and re-allocated through
`Q2` after a carbon–carbon gate with no new `set` (legal: `qfree` does not write its register) -/
def freeThenRealloc : List Instr := [
  ⟨"core.SetInstruction", [qreg 2, .imm 3]⟩, ⟨"core.QAllocInstruction", [qreg 2]⟩,
  ⟨"core.InitInstruction", [qreg 2]⟩, ⟨"vanilla.GateHInstruction", [qreg 2]⟩,
  ⟨"core.SetInstruction", [qreg 0, .imm 1]⟩, ⟨"core.SetInstruction", [qreg 1, .imm 2]⟩,
  ⟨"core.QFreeInstruction", [qreg 2]⟩,
  ⟨"vanilla.CnotInstruction", [qreg 0, qreg 1]⟩,
  ⟨"core.QAllocInstruction", [qreg 2]⟩, ⟨"core.InitInstruction", [qreg 2]⟩,
  ⟨"vanilla.GateXInstruction", [qreg 2]⟩]

/-- why `scratch_ok` excludes the seeded change "release a Q register for scratch use once its qubit
is freed": the program is inside `QStatic` (a `qfree` closes no window: at the carbon–carbon gate,
position 7, and after it `Q2` is still known to hold 3 and is read by the `qalloc` at 8); the pass
borrows `Q3`, and `Q2` is among the registers named before the gate. A model that dropped `Q2` from
the used set at the `qfree` would borrow `Q2`, for which `r ∉ …flatMap topRegs` and
`K cfg S (p + 1) r = none` of `scratch_ok` are false. -/
theorem seeded_qfree_register_live :
    QStatic (Gen.cfg false false) freeThenRealloc = true ∧
    getUnused ((freeThenRealloc.take 8).flatMap topRegs) = .ok ⟨2, 3⟩ ∧
    (⟨2, 2⟩ : Reg) ∈ (freeThenRealloc.take 8).flatMap topRegs ∧
    K (Gen.cfg false false) freeThenRealloc 7 ⟨2, 2⟩ = some 3 ∧
    K (Gen.cfg false false) freeThenRealloc 8 ⟨2, 2⟩ = some 3 ∧
    getUnused (((freeThenRealloc.take 8).flatMap topRegs).filter (· != ⟨2, 2⟩)) = .ok ⟨2, 2⟩ := by
  decide +kernel

/-- the program of seeded change C08_17: `Q0` is written by `load` (never a gate operand, so this is
not F10), stays live across the carbon–carbon `cnot Q1 Q2`, and is read by `meas`/`qfree` afterwards -/
def loadLiveAcrossCC : List Instr := [
  ⟨"core.SetInstruction", [rreg 0, .imm 0]⟩,
  ⟨"core.SetInstruction", [qreg 4, .imm 0]⟩, ⟨"core.SetInstruction", [qreg 1, .imm 1]⟩,
  ⟨"core.SetInstruction", [qreg 2, .imm 2]⟩, ⟨"core.SetInstruction", [qreg 3, .imm 3]⟩,
  ⟨"vanilla.GateHInstruction", [qreg 1]⟩,
  ⟨"core.LoadInstruction", [qreg 0, .entry 0 ⟨0, 0⟩]⟩,
  ⟨"vanilla.CnotInstruction", [qreg 1, qreg 2]⟩,
  ⟨"core.MeasInstruction", [qreg 0, .reg ⟨3, 0⟩]⟩,
  ⟨"core.QFreeInstruction", [qreg 0]⟩]

/-- why `scratch_ok` excludes the seeded change "only `set` marks a register as used": `scratch_ok`
speaks about EVERY register mentioned at or before the gate, whatever instruction mentioned it. Here
the program is inside `QStatic` (`Q0` is never borrowed, so `meas Q0` may read it outside a window),
`Q0` is mentioned by the `load` before the gate at position 7, and the pass borrows `Q5`; with only
the `set`-written registers counted, `get_unused_register` would return `Q0`, for which
`r ∉ …flatMap topRegs` of `scratch_ok` is false. -/
theorem seeded_load_written_register_named :
    QStatic (Gen.cfg false false) loadLiveAcrossCC = true ∧
    getUnused ((loadLiveAcrossCC.take 8).flatMap topRegs) = .ok ⟨2, 5⟩ ∧
    (⟨2, 0⟩ : Reg) ∈ (loadLiveAcrossCC.take 8).flatMap topRegs ∧
    scratchRegs (Gen.cfg false false) loadLiveAcrossCC = [⟨2, 5⟩] ∧
    getUnused (((loadLiveAcrossCC.take 8).filterMap (fun i =>
      (setOf (Gen.cfg false false) i).map (·.1)))) = .ok ⟨2, 0⟩ := by
  decide +kernel

/-- the program of seeded change C08_22 (straight-line form): `Q0` is `set` once to 0; its qubit is
allocated, used, freed and allocated again; then `mov Q1 Q0` WITHOUT a new `set`. `qalloc`, `init`,
`y`, `qfree` do not write `Q0`, so inside `QStatic` the window stays open (`K … 10 Q0 = some 0`), the
pass still knows the value and emits the carbon→electron circuit (6 instructions, electron-controlled
rotations). A pass that forgot the value at `qfree` would take the unknown-ids fallback — the
electron→carbon circuit (4 instructions) with a CARBON as control. -/
theorem seeded_value_persists_across_qfree :
    let S : List Instr := [
      ⟨"core.SetInstruction", [qreg 0, .imm 0]⟩, ⟨"core.SetInstruction", [qreg 1, .imm 1]⟩,
      ⟨"core.QAllocInstruction", [qreg 1]⟩, ⟨"core.InitInstruction", [qreg 1]⟩,
      ⟨"core.QAllocInstruction", [qreg 0]⟩, ⟨"core.InitInstruction", [qreg 0]⟩,
      ⟨"vanilla.GateYInstruction", [qreg 0]⟩, ⟨"core.QFreeInstruction", [qreg 0]⟩,
      ⟨"core.QAllocInstruction", [qreg 0]⟩, ⟨"core.InitInstruction", [qreg 0]⟩,
      ⟨"vanilla.MovInstruction", [qreg 1, qreg 0]⟩]
    QStatic (Gen.cfg false false) S = true ∧ K (Gen.cfg false false) S 10 ⟨2, 0⟩ = some 0 ∧
    (transpile (Gen.cfg false false) S).toOption.map (fun o => (o.length, o[11]?)) =
      some (16, some ⟨"nv.ControlledRotYInstruction", [qreg 0, qreg 1, .imm 24, .imm 4]⟩) := by
  decide +kernel

/-! ## The semantic simulation

FULL STATEMENT of C08 (kept visible; FALSE on the current tree, see F10 below):
  for every vanilla subroutine `S` the SDK can emit (Q registers written by `set` OR by `load`),
  `transpile cfg S = .ok out`, and the serialised `out` simulates `S` step for step.
What is proved is the statement restricted to `QStatic` programs (`…_partial`): every GATE reads its
Q registers straight after a `set` of them (the shape the SDK emits for handles with constant ids);
other instructions may also read Q registers written by `load`/`add`/… provided the pass never
borrows that register. In the `…_partial` theorems `transpile cfg S = .ok out` is a HYPOTHESIS: that
the pass succeeds on every `QStatic` program is not claimed (it raises e.g. on a hardware-mode
rotation with denominator above 4, or on a `mov` between two carbons). Outside `QStatic` the pass
raises or picks the wrong circuit (F10, `f10_counterexample_*`). `QStatic` includes the SDK's
multi-pair EPR shape `set R4 0; mov R4 R3` (a `mov` out of a register just `set` to 0, target id
computed at run time).

Parameters: `M` an abstract instruction semantics with `SemLocal` (a hypothesis: locality and frame
facts the executor model of C04 is meant to satisfy; satisfiability is shown below, no instance for
the executor model is proved), and
`ExpandSound` — THE C07 HYPOTHESIS "sem (expand g) = sem g": each emitted expansion acts on the
memory (quantum state included, up to global phase) as the gate and changes no register except
the one `get_unused_register` returns. -/

/-- **transpile_simulates (partial: under `QStatic`)**. Every finite execution of the vanilla
subroutine from `s0` to `(pc, s)` is matched by an execution of the serialised NV subroutine from
the same `s0` to `(index_changes pc, u)` — pc correspondence through the index map — with
`Rel`: equal memory (classical arrays, quantum state, …), equal registers except Q registers the
pass borrows as scratch somewhere in `S` (`ScratchSet`), and equal values of every Q register the
program can read at `pc` (inside a window), borrowed or not. The exception is necessary: the NV
program really overwrites the borrowed register with 0, and `scratch_ok` shows it is dead there. -/
theorem transpile_simulates_partial {μ : Type} (M : Sem μ) (cfg : Cfg)
    (hT : TemplatesNoBranch cfg = true) (hW : InfosWF cfg = true) (hpad : isDebug cfg.pad = false)
    (hL : SemLocal M cfg) (hE : ExpandSound M cfg)
    (S out : List Instr) (hQ : QStatic cfg S = true) (h : transpile cfg S = .ok out)
    (s0 s : St μ) (pc : Nat) (hrun : Steps M cfg S (0, s0) (pc, s)) :
    ∃ cs u, Chunks cfg [] [] S cs ∧ indexChanges cfg S = some (starts 0 cs) ∧
      Steps M cfg (serialise out) (0, s0) (tposS cs pc, u) ∧ Rel cfg S pc s u := by
  obtain ⟨cs, hc, hidx, hout, hok⟩ := transpile_structure h
  have C : Ctx M cfg S out cs := ⟨hT, hW, hpad, hL, hE, hQ, hc, hout, hok⟩
  obtain ⟨u, h1, h2⟩ := sim_steps C hrun s0 (Rel.init cfg S s0)
  rw [tposS_zero] at h1
  exact ⟨cs, u, hc, hidx, h1, h2⟩

/-- **Terminating runs**: if the vanilla subroutine runs off its end in state `s`, the serialised
NV subroutine runs off *its* end in a state with the same memory and the same registers — all
non-Q registers and every Q register that `get_unused_register` hands out nowhere in `S` —
except, when the padding `set C15 1337` was appended (a branch targeted the end), the padding
register (the documented mechanism). -/
theorem transpile_simulates_final_partial {μ : Type} (M : Sem μ) (cfg : Cfg)
    (hT : TemplatesNoBranch cfg = true) (hW : InfosWF cfg = true) (hpad : isDebug cfg.pad = false)
    (hpl : lineOf cfg cfg.pad = none) (rp : Reg) (vp : Int) (hps : setOf cfg cfg.pad = some (rp, vp))
    (hL : SemLocal M cfg) (hE : ExpandSound M cfg)
    (S out : List Instr) (hQ : QStatic cfg S = true) (h : transpile cfg S = .ok out)
    (s0 s : St μ) (hrun : Steps M cfg S (0, s0) (S.length, s)) :
    ∃ cs u, Chunks cfg [] [] S cs ∧ Steps M cfg (serialise out) (0, s0) ((serialise out).length, u) ∧
      s.mem = u.mem ∧
      ∀ r, (r.bank ≠ bankQ ∨ ¬ ScratchSet cfg S r) → (endTargeted cfg S cs = false ∨ r ≠ rp) →
        s.regs r = u.regs r := by
  obtain ⟨cs, hc, hidx, hout, hok⟩ := transpile_structure h
  have C : Ctx M cfg S out cs := ⟨hT, hW, hpad, hL, hE, hQ, hc, hout, hok⟩
  obtain ⟨u, h1, h2⟩ := sim_steps C hrun s0 (Rel.init cfg S s0)
  rw [tposS_zero] at h1
  obtain ⟨u', h3, hm, hr⟩ := final_pad C hpl hps u
  refine ⟨cs, u', hc, h1.trans h3, by rw [hm]; exact h2.mem, ?_⟩
  intro r hb hc'
  rw [hr r hc']; exact h2.outside r hb

/-! ### The C07 hypothesis discharged

`MQ A Mc` is the concrete semantics: classical instructions as `Mc` (any semantics with `SemLocal`),
every vanilla/NV gate instruction applies the operator its mnemonic denotes to the qubits its
registers name (`QAction`, states up to global phase). The only facts assumed about the quantum
action are `QLawful`. `mov src tgt` is the PARTIAL state transfer of the property
statement ("the same state transfer onto a freshly initialised target"): defined when the target is
in |0⟩, between the electron and a carbon; the source — to be freed — is left in the state `movPhi`
the device's move leaves it in (the published SWAP matrix is NOT used: it disagrees with every NV
move circuit on the source). -/

/-- **tie**: for both debug and both hardware settings, every template of Gen/NvExpand, read over
roles, IS the sequence of Gen/NvDecomp for the same gate and placement (the sequences C07's
operator identities are about), and the class table agrees with the classes `MQ` interprets -/
theorem templates_eq_nvdecomp : ∀ d h : Bool,
    AllTies (Gen.cfg d h) = true ∧ ClsTie (Gen.cfg d h) = true :=
  fun d h => (tables_gen d h).2.2.2.2

/-- **expandSound_of_C07**: `ExpandSound` holds for the concrete semantics and the generated
expansion table; the facts used are C07's `single_gates_eq`, `cnot_placements_eq`,
`cphase_placements_eq` (with `electron_returned`: the carbon–carbon targets are gate ⊗ 1 on the
borrowed electron), `mov_transfer` (both move circuits are transfers onto a |0⟩ target), the tie
above, and `QLawful`. -/
theorem expandSound_of_C07 {C Q : Type} (A : QAction Q) (hA : QLawful A) (Mc : Sem (C × Q)) (d h : Bool)
    (hMc : SemLocal Mc (Gen.cfg d h)) : ExpandSound (MQ A Mc) (Gen.cfg d h) :=
  Tr.expandSound_of_C07 A hA Mc _ hMc (templates_eq_nvdecomp d h).1 (templates_eq_nvdecomp d h).2

/-- **transpile_simulates for the generated table, no gate hypothesis** (partial: `QStatic`),
`mov` included: known ids in either direction (C07 `mov_transfer` for the electron→carbon and the
carbon→electron circuit) and the SDK's run-time-id shape (electron→carbon circuit, source register
known to hold 0). A vanilla run in which a `mov` meets a target that is not in |0⟩ has no step there
(the transfer is undefined), so nothing is claimed about it. -/
theorem transpile_simulates_C07_partial {C Q : Type} (A : QAction Q) (hA : QLawful A)
    (Mc : Sem (C × Q)) (d h : Bool) (hMc : SemLocal Mc (Gen.cfg d h))
    (S out : List Instr) (hQ : QStatic (Gen.cfg d h) S = true) (ht : transpile (Gen.cfg d h) S = .ok out)
    (s0 s : St (C × Q)) (pc : Nat) (hrun : Steps (MQ A Mc) (Gen.cfg d h) S (0, s0) (pc, s)) :
    ∃ cs u, Chunks (Gen.cfg d h) [] [] S cs ∧ indexChanges (Gen.cfg d h) S = some (starts 0 cs) ∧
      Steps (MQ A Mc) (Gen.cfg d h) (serialise out) (0, s0) (tposS cs pc, u) ∧
      Rel (Gen.cfg d h) S pc s u :=
  transpile_simulates_partial (MQ A Mc) (Gen.cfg d h) (expansions_have_no_branch d h).1
    (expansions_have_no_branch d h).2.1 (expansions_have_no_branch d h).2.2
    (semLocal_MQ A Mc _ hMc (templates_eq_nvdecomp d h).2) (expandSound_of_C07 A hA Mc d h hMc) S out hQ ht s0 s pc hrun

/-- `QLawful` is satisfiable (trivially, on a one-point state space; the intended instance is the
unitary action on state vectors modulo phase) -/
example : ∃ A : QAction Unit, QLawful A :=
  ⟨⟨fun _ q => q, fun _ _ _ _ => none⟩,
   ⟨fun _ _ _ _ _ _ _ _ _ => rfl, fun _ _ _ _ _ _ _ _ _ => rfl, fun _ _ _ _ _ _ _ _ _ _ h => by cases h⟩⟩

theorem pad_is_set : ∀ d h : Bool, lineOf (Gen.cfg d h) (Gen.cfg d h).pad = none ∧
    setOf (Gen.cfg d h) (Gen.cfg d h).pad = some (⟨1, 15⟩, 1337) :=
  fun d h => (tables_gen d h).2.2.2.1

/-- a loop around a carbon–carbon gate with an end label: inside `QStatic`, transpiles, pads -/
def demo : List Instr := [
  ⟨"core.SetInstruction", [.reg ⟨0, 0⟩, .imm 0]⟩,
  ⟨"core.BeqInstruction", [.reg ⟨0, 0⟩, .reg ⟨0, 1⟩, .imm 7]⟩,
  ⟨"core.SetInstruction", [.reg ⟨2, 0⟩, .imm 1]⟩,
  ⟨"core.SetInstruction", [.reg ⟨2, 1⟩, .imm 2]⟩,
  ⟨"vanilla.CnotInstruction", [.reg ⟨2, 0⟩, .reg ⟨2, 1⟩]⟩,
  ⟨"core.AddInstruction", [.reg ⟨0, 0⟩, .reg ⟨0, 0⟩, .reg ⟨0, 2⟩]⟩,
  ⟨"core.JmpInstruction", [.imm 1]⟩]

example : QStatic (Gen.cfg true false) demo = true
    ∧ (transpile (Gen.cfg true false) demo).toOption.map (fun o => (o.length, (serialise o).length)) = some (39, 35)
    ∧ indexChanges (Gen.cfg true false) demo = some [0, 1, 2, 3, 4, 32, 33] := by
  decide +kernel

theorem set_writes_gen : ∀ d h : Bool, SetWrites (Gen.cfg d h) = true :=
  fun d h => (tables_gen d h).2.2.1

theorem writesOf_set {cfg : Cfg} (hSW : SetWrites cfg = true) {i : Instr} {r : Reg} {v : Int}
    (hs : setOf cfg i = some (r, v)) : writesOf cfg i = [r] := by
  obtain ⟨info, hi, hset, hops⟩ := setOf_some hs
  have hw := List.all_eq_true.1 hSW info (infoOf_cls hi).1
  simp only [hset, Bool.not_true, Bool.false_or, beq_iff_eq] at hw
  unfold writesOf
  rw [hi]
  simp [hw, hops, opReg?]

/-- a semantics satisfying `SemLocal` exists for the generated configuration (the hypotheses of the
simulation theorem are not contradictory): `set` is `set`, everything else faults. The intended
instance is the executor model of C04. -/
example (d h : Bool) : ∃ M : Sem Unit, SemLocal M (Gen.cfg d h) ∧ ExpandSound M (Gen.cfg d h) := by
  refine ⟨⟨fun i s => match setOf (Gen.cfg d h) i with
      | some (r, v) => some ⟨fun r' => if r' = r then some v else s.regs r', s.mem⟩
      | none => none, fun _ _ => none⟩, ?_, ?_⟩
  rotate_left
  · intro g info rv used ex s u s' hi hg _ _ _ _ _ _ he
    have := (setOf_none_of_gate (expansions_have_no_branch d h).2.1
      (by rw [isGate_eq hi]; exact hg)).1
    simp [this] at he
  have hSW := set_writes_gen d h
  constructor
  · intro i s s' r hex hnw
    simp only at hex
    split at hex
    · rename_i r0 v0 hs
      simp only [Option.some.injEq] at hex
      subst hex
      rw [writesOf_set hSW hs] at hnw
      have : r ≠ r0 := by simpa using hnw
      simp [this]
    · cases hex
  · intro i r v s hs
    simp only [hs]
    exact ⟨_, rfl, trivial, fun _ => rfl⟩
  · intro i s u s' _ _ hex
    simp only at hex ⊢
    split at hex
    · rename_i r0 v0 hs
      simp only [Option.some.injEq] at hex
      subst hex
      refine ⟨_, rfl, trivial, ?_⟩
      intro r hr
      rw [writesOf_set hSW hs] at hr
      have : r = r0 := by simpa using hr
      simp [this]
    · cases hex
  · intro _ _ _ _ _; rfl
  · intro _ _ _; rfl

/-- F10, first witness: `load Q0 @0[R0]; set Q1 2; cnot Q0 Q1` -/
def f10a : List Instr := [
  ⟨"core.LoadInstruction", [qreg 0, .entry 0 ⟨0, 0⟩]⟩,
  ⟨"core.SetInstruction", [qreg 1, .imm 2]⟩,
  ⟨"vanilla.CnotInstruction", [qreg 0, qreg 1]⟩]

/-- F10: a Q register written by `load` reaches a gate: the pass raises AssertionError -/
theorem f10_counterexample_asserts :
    transpile (Gen.cfg false false) f10a = .error .assertion ∧ QStatic (Gen.cfg false false) f10a = false := by
  decide +kernel

/-- F10, second witness: an earlier `set Q0 1` leaves a stale value behind -/
def f10b : List Instr := ⟨"core.SetInstruction", [qreg 0, .imm 1]⟩ :: f10a

/-- F10: whatever the array holds (e.g. 0 = the electron), the pass emits the carbon–carbon circuit
for `cnot Q0 Q1`, i.e. the decomposition does not reflect the qubit the register actually holds. -/
theorem f10_counterexample_stale :
    (∃ body, expOf (Gen.cfg false false) "cnot_cc" = some body ∧
      (instBody ⟨"vanilla.CnotInstruction", [qreg 0, qreg 1]⟩ ⟨2, 0⟩ ⟨2, 1⟩ ⟨2, 2⟩ body).map
        (fun ex => f10b.take 3 ++ ex) = (transpile (Gen.cfg false false) f10b).toOption)
    ∧ QStatic (Gen.cfg false false) f10b = false := by
  -- the existential as `Option.any`, so that row look-up and comparison are one evaluation
  have h : ((expOf (Gen.cfg false false) "cnot_cc").any fun body => decide
      ((instBody ⟨"vanilla.CnotInstruction", [qreg 0, qreg 1]⟩ ⟨2, 0⟩ ⟨2, 1⟩ ⟨2, 2⟩ body).map
        (fun ex => f10b.take 3 ++ ex) = (transpile (Gen.cfg false false) f10b).toOption)) = true
      ∧ QStatic (Gen.cfg false false) f10b = false := by
    decide +kernel
  obtain ⟨body, h1, h2⟩ := (Option.any_eq_true _ _).1 h.1
  exact ⟨⟨body, h1, of_decide_eq_true h2⟩, h.2⟩

/-! ### `mov` with run-time register ids (the SDK's multi-pair EPR keep: `set R4 0; mov R4 R3`)

The pass knows nothing about non-Q registers. For `mov` it then emits the electron→carbon circuit on
the operand registers, whatever they hold; for any other two-qubit gate it asserts (same code path as
F10: `except KeyError: assert isinstance(instr, vanilla.MovInstruction)`). At operator level the
emitted circuit is a transfer `reg0 → reg1` onto a |0⟩ target for ANY two distinct qubits (C07
`mov_transfer`; confirmed by the state-vector oracle in both directions and by 480 NV-transpiled
keep scenarios of the C10 harness), so the observation "NV-transpiled mov with run-time ids
damages states" was F9 (nv `crot_y` published the X-axis matrix) and disappeared with its fix.
`transpile_simulates_C07_partial` covers `mov` with the transfer semantics (`MQ`, `movExec`). -/

/-- for `mov`, whenever the pass lacks the value of one operand register it emits the
electron→carbon template on `(reg0, reg1)` — independent of what the registers hold -/
theorem mov_unknown_emits_ec (cfg : Cfg) (info : ClsInfo) (htag : info.tag = "mov")
    (rv : List (Reg × Int)) (used : List Reg) (c : String) (ra rb : Reg)
    (hun : rv.lookup ra = none ∨ rv.lookup rb = none) :
    expandGate2 cfg info rv used ⟨c, [.reg ra, .reg rb]⟩
      = useTemplate cfg ("mov_ec" ++ sfx cfg) ⟨c, [.reg ra, .reg rb]⟩ ra rb ra := by
  unfold expandGate2
  simp only
  rcases hun with h | h
  · rw [h]; simp [htag]
  · rw [h]
    cases rv.lookup ra <;> simp [htag]

/-- the SDK's multi-pair shape (`sub`-computed target id, `set R4 0; mov R4 R3; qfree R4`) and a
`mov` with known ids are inside `QStatic`; the first gets the electron→carbon circuit -/
theorem mov_sdk_shape_in_qstatic :
    let sdk : List Instr := [
      ⟨"core.SetInstruction", [rreg 1, .imm 1]⟩, ⟨"core.SubInstruction", [rreg 3, rreg 1, rreg 0]⟩,
      ⟨"core.SetInstruction", [rreg 4, .imm 0]⟩, ⟨"vanilla.MovInstruction", [rreg 4, rreg 3]⟩,
      ⟨"core.QFreeInstruction", [rreg 4]⟩]
    let known : List Instr := [
      ⟨"core.SetInstruction", [qreg 0, .imm 2]⟩, ⟨"core.SetInstruction", [qreg 1, .imm 0]⟩,
      ⟨"vanilla.MovInstruction", [qreg 0, qreg 1]⟩]
    QStatic (Gen.cfg false false) sdk = true ∧ QStatic (Gen.cfg false false) known = true ∧
    (transpile (Gen.cfg false false) sdk).toOption.map (·.length) = some 8 ∧
    (transpile (Gen.cfg false false) known).toOption.map (·.length) = some 8 := by
  decide +kernel

/-- F10, non-Q operand registers: `set R0 0; set R1 1; cnot R0 R1` runs on the controller, the pass
raises AssertionError (outside `QStatic`: two-qubit gates must name Q registers) -/
def f10c : List Instr := [
  ⟨"core.SetInstruction", [rreg 0, .imm 0]⟩,
  ⟨"core.SetInstruction", [rreg 1, .imm 1]⟩,
  ⟨"vanilla.CnotInstruction", [rreg 0, rreg 1]⟩]

theorem f10_nonQ_register_asserts :
    transpile (Gen.cfg false false) f10c = .error .assertion ∧ QStatic (Gen.cfg false false) f10c = false := by
  decide +kernel

/-- F26 (fixed in /repo): `set Q0 1; set Q1 2; beq R0 R1 4; cnot Q0 Q1` (carbons 1, 2) `; set R5 7`,
transpiled with debug markers; the branch targets `set R5 7` -/
def f26 : List Instr := [
  ⟨"core.SetInstruction", [qreg 0, .imm 1]⟩,
  ⟨"core.SetInstruction", [qreg 1, .imm 2]⟩,
  ⟨"core.BeqInstruction", [rreg 0, rreg 1, .imm 4]⟩,
  ⟨"vanilla.CnotInstruction", [qreg 0, qreg 1]⟩,
  ⟨"core.SetInstruction", [rreg 5, .imm 7]⟩]

/-- with `debug=True` the branch across the carbon–carbon gate targets the serialised position of
`set R5 7` (31), not its position in the command list with debug markers (35) -/
theorem f26_fixed_witness :
    (transpile (Gen.cfg true false) f26).toOption.map (fun out =>
      ((serialise out)[2]?, (serialise out)[31]?, out.length, (serialise out).length)) =
    some (some ⟨"core.BeqInstruction", [rreg 0, rreg 1, .imm 31]⟩,
          some ⟨"core.SetInstruction", [rreg 5, .imm 7]⟩, 36, 32) := by
  decide +kernel

end NQ.C08
