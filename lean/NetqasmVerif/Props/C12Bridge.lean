/-
C12 ↔ C13 bridge (shared state: unit modules and the set of used physical qubits).

C13 (`Props/C13.lean`) proves its qubit-memory invariant `Inv` for every history of controller
operations, where a keep-response is the operation `Op.keep a v p` = `Exec.keepResp`, under the
environment hypothesis `EnvOk`: the delivered physical qubit `p` is one the link layer reserved on this
controller and has not delivered yet. C12's model (`Model/Epr.lean`) contains the *real* handler: queue
lookup, pair index, virtual address read from the request's qubit array, deferral, result slice.
The theorems below show that what that handler does to the shared state IS a successful
`Exec.keepResp` (never the deferred and never a faulting branch: the handler found the position free,
which is the fact behind C12's `keep_only_when_free`), so C13's invariant is
preserved by real response handling with a hypothesis about the link layer's physical ids only; no
hypothesis about the handler (which request, which virtual address, allocation status) is needed.
-/
import NetqasmVerif.Lemmas.EprExecBridge
import NetqasmVerif.Props.C13
namespace NQ.C12
open NQ NQ.Bridge

/-- One keep-response consumed by the EPR handler = the controller operation `keep app v p` for some
application and virtual address chosen by the handler; it succeeds (no fault, not deferred: position
free before, mapped to `p` after) and the two models stay related. -/
theorem keep_handler_is_exec_keep {okf : Nat} {e e' : Epr.State} {r : Epr.Resp} {x : Exec.State} {p : Nat}
    (hR : UnitRel e x) (hc : Epr.tryHandle okf e r = .yes e') (hK : r.ty = .K) (hp : r.phys = (p : Int)) :
    ∃ (app : Nat) (v : Int) (i : Nat),
      (Exec.keepResp x app v p).2 = none ∧
      UnitRel e' (Exec.apply x (.keep app v p)) ∧
      Epr.mapped e app i = none ∧ Epr.mapped e' app i = some (p : Int) := by
  obtain ⟨app, v, i, h1, h2, h3, h4⟩ := keep_consumption_simulated hR (Epr.tryHandle_yes hc) hK hp
  exact ⟨app, v, i, h1, by simpa [Exec.apply] using h2, h3, h4⟩

/-- C13's invariant survives the real handler: the only hypothesis is about the link layer —
the physical qubit it delivers is one it reserved on this controller (`p ∈ x.reserved`), which is exactly
C13's `EnvOk` for the operation the handler performs. -/
theorem handler_preserves_qubit_invariant {okf : Nat} {e e' : Epr.State} {r : Epr.Resp} {x : Exec.State}
    {p : Nat} (hR : UnitRel e x) (hI : C13.Inv x) (hc : Epr.tryHandle okf e r = .yes e')
    (hK : r.ty = .K) (hp : r.phys = (p : Int)) (hres : p ∈ x.reserved) :
    ∃ (app : Nat) (v : Int), C13.EnvOk x (.keep app v p) ∧
      C13.Inv (Exec.apply x (.keep app v p)) ∧ UnitRel e' (Exec.apply x (.keep app v p)) := by
  obtain ⟨app, v, _, _, h2, _, _⟩ := keep_handler_is_exec_keep hR hc hK hp
  have he : C13.EnvOk x (.keep app v p) := by simp [C13.EnvOk, C13.envOk, hres]
  exact ⟨app, v, he, C13.inv_step x _ hI he, h2⟩

/-- measure responses do not touch the shared state -/
theorem measure_handler_keeps_rel {okf : Nat} {e e' : Epr.State} {r : Epr.Resp} {x : Exec.State}
    (hR : UnitRel e x) (hc : Epr.tryHandle okf e r = .yes e') (hM : r.ty = .M) : UnitRel e' x :=
  measure_consumption_keeps_rel hR (Epr.tryHandle_yes hc) hM

/-- A whole delivery or poll (`handlePending`: any number of consumptions of either type, in the order
the real loop picks them) amounts to a list of controller `keep` operations, one per consumed keep
response, each carrying the physical id of a response that was pending; if the link layer's ids satisfy
C13's environment hypothesis along that list, C13's invariant holds afterwards. -/
theorem handlePending_preserves_qubit_invariant {okf : Nat} {e e' : Epr.State} {x : Exec.State}
    (hR : UnitRel e x) (hI : C13.Inv x) (h : Epr.handlePending okf e = some e')
    (hnn : ∀ r ∈ e.pending, r.ty = .K → ∃ p : Nat, r.phys = (p : Int)) :
    ∃ ops : List Exec.Op, KeepOps e.pending ops ∧ UnitRel e' (ops.foldl Exec.apply x) ∧
      (C13.EnvOkAll x ops → C13.Inv (ops.foldl Exec.apply x)) := by
  obtain ⟨ops, h1, h2⟩ := micros_simulated (Epr.handlePendingFuel_micros _ _ _ h) hR hnn
  exact ⟨ops, h1, h2, fun he => C13.reachable ops x hI he⟩

/-- non-vacuity: an application with two free qubits in both models, one qubit reserved by the link
layer (physical id 0, marked used in both), a receive-keep request for virtual qubit 1 at the head of
its queue, and the matching response: the hypotheses of `handler_preserves_qubit_invariant` hold. -/
def demoE : Epr.State :=
  { Epr.init 0 with
    subs := [(0, 0)],
    apps := [(0, ⟨[(0, [some 1]), (1, [none, none])], [none, none]⟩)],
    used := [0],
    queues := [(⟨7, 3, false⟩, [⟨0, ⟨7, 3, false⟩, 0, 1, some 0, 1, 1⟩])] }

def demoX : Exec.State := Exec.apply (Exec.apply Exec.init0 (.init 0 2)) .reserve

def demoR : Epr.Resp := ⟨0, .K, 7, 3, 1, 0, [5, 6]⟩

theorem bridge_nonvacuous :
    UnitRel demoE demoX ∧ C13.Inv demoX ∧ (∃ e', Epr.tryHandle 2 demoE demoR = .yes e') ∧
    demoR.ty = .K ∧ demoR.phys = ((0 : Nat) : Int) ∧ 0 ∈ demoX.reserved := by
  refine ⟨⟨?_, ?_⟩, ?_, ?_, rfl, rfl, by decide⟩
  · intro a m hm
    simp only [demoE, Epr.getApp] at hm
    split at hm
    · rename_i ha
      injection hm with hm
      subst hm
      refine ⟨Exec.freshApp 2, ?_, by decide⟩
      simp [demoX, Exec.apply, Exec.initApp, Exec.init0, Exec.reserveQ, Exec.upd, ← ha]
    · cases hm
  · intro q
    simp [demoE, demoX, Exec.apply, Exec.initApp, Exec.init0, Exec.reserveQ, Exec.firstUnused,
      Exec.firstUnusedFrom, Exec.sadd]
  · exact C13.reachable_from_init [.init 0 2, .reserve] (by decide)
  · have hy : (match Epr.tryHandle 2 demoE demoR with | .yes _ => true | _ => false) = true := by decide
    cases h : Epr.tryHandle 2 demoE demoR with
    | yes e' => exact ⟨e', rfl⟩
    | err => rw [h] at hy; cases hy
    | no => rw [h] at hy; cases hy

end NQ.C12
