/-
Kernel-decided obligations about the generated register-event table of the EPR API forms
(`Gen/EprRegs.lean`, written by translate/epr_regs.py from the live builder).
-/
import NetqasmVerif.Gen.EprRegs
import NetqasmVerif.Lemmas.Sdk
namespace NQ.EprRegs
open NQ.Sdk

/-- every EPR API form gives back every register it takes -/
theorem eprForms_balanced : Gen.eprForms.all (fun f => decide (heldLen 0 f.2 = some 0)) = true := by
  decide +kernel

/-- no form holds more than 10 registers at once (so it compiles with 10 free registers) -/
theorem eprForms_peak : Gen.eprForms.all (fun f => decide (peakEvs 0 f.2 ≤ 10)) = true := by
  decide +kernel

/-- the two obligations above are not about an empty table -/
theorem eprForms_nonempty : 300 ≤ Gen.eprForms.length := by decide +kernel

end NQ.EprRegs
