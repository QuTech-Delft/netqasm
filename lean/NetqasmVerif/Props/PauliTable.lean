/-
Every row of the conjugation table of Model/Pauli is checked against the exact matrices:
`M† · P · M = ±(M†M) · P'` with `M` the (scaled) gate matrix.
-/
import NetqasmVerif.Model.Pauli
import NetqasmVerif.Lemmas.Gates
namespace NQ.PauliTable
open NQ

def allP : List P1 := [.I, .X, .Y, .Z]

/-- the matrices of the gates `conj1` has rows for: `NV.target1` (Model/NvDecomp) without the
non-Clifford T -/
def gateMat : GName → Option (M2 Cyc)
  | .x => some gX | .y => some gY | .z => some gZ
  | .h => some gHSqrt2 | .k => some gKSqrt2 | .s => some gS
  | _ => none

def row1Ok (g : GName) (p : P1) : Bool :=
  match gateMat g, conj1 g p with
  | some m, some (s, p') =>
    M2.mul m.adj (M2.mul p.mat m) ==
      M2.smul (if s then -1 else 1) (M2.mul (M2.mul m.adj m) p'.mat)
  | _, _ => false

theorem conj1_table_ok :
    ([GName.x, .y, .z, .h, .k, .s].all fun g => allP.all fun p => row1Ok g p) = true := by
  decide +kernel

theorem conj1_defined (g : GName) (p : P1) : (conj1 g p).isSome = (isClifford1 g || p == .I) := by
  cases g <;> cases p <;> rfl

def rowCnotOk (pc pt : P1) : Bool :=
  let r := conjCnot pc pt
  let cn := cnotMat 2 0 1
  matMul (matAdj cn) (matMul (kron2 pc.mat pt.mat) cn) ==
    matSmul (if r.1 then -1 else 1) (kron2 r.2.1.mat r.2.2.mat)

/-- `matMul` with the arithmetic skipped where a factor is zero, as `applyOp` does: Pauli and CNOT
matrices have one non-zero entry per column, and the kernel pays for every product of `Cyc`s -/
def matMulz (A B : Mat) : Mat :=
  B.map fun bcol =>
    (List.range bcol.length).map fun i =>
      (List.range bcol.length).foldl (fun acc k => acc + Cyc.mulz ((A.getD k []).getD i 0) (bcol.getD k 0)) 0

theorem matMulz_eq (A B : Mat) : matMulz A B = matMul A B := by
  simp only [matMulz, matMul, Cyc.mulz_eq]

/-- `rowCnotOk` with `matMulz`. The table entry is taken apart by `match`, so that the right-hand side
mentions the letters themselves and is the same term as the `kron` of another row: within one
declaration the kernel then computes each of the sixteen `P ⊗ Q` once. -/
def rowCnotOkz (pc pt : P1) : Bool :=
  let cn := cnotMat 2 0 1
  let kron (a b : P1) := matMulz (embed1 2 0 a.mat) (embed1 2 1 b.mat)
  match conjCnot pc pt with
  | (s, c, t) =>
    matMulz (matAdj cn) (matMulz (kron pc pt) cn) == matSmul (if s then -1 else 1) (kron c t)

theorem conjCnot_table_ok : (allP.all fun pc => allP.all fun pt => rowCnotOk pc pt) = true := by
  have h : rowCnotOk = rowCnotOkz := by
    funext pc pt; simp only [rowCnotOk, rowCnotOkz, kron2, matMulz_eq]
  rw [h]; decide +kernel

theorem hk_involutive :
    ([GName.h, .k, .x, .y, .z].all fun g => allP.all fun p =>
      match conj1 g p with
      | some (s, p') => (match conj1 g p' with | some (s', p'') => p'' == p && (xor s s' == false) | none => false)
      | none => false) = true := by decide

end NQ.PauliTable
