/-
Kernel-decided obligations about the NV expansions generated from the live transpiler: the
single-qubit and MOV circuit identities (the 2- and 3-qubit ones are in C07OblTwo), what was sampled
(coverage, debug mode, rejected carbon–carbon MOV) and the sampled rotations against `nvRot`.
-/
import NetqasmVerif.Model.NvDecomp
import NetqasmVerif.Gen.NvDecomp
namespace NQ.C07.Obl
open NQ NQ.NV

/-- every single-qubit expansion (electron or carbon) equals its vanilla gate up to a scalar -/
theorem single_ok : Gen.nvSingle.all (fun e => singleOk e.1 e.2.2) = true := by decide +kernel

/-- all seven fixed gates are present, for the electron and for carbons -/
theorem single_cover :
    [GName.x, .y, .z, .h, .k, .s, .t].all (fun g =>
      Gen.nvSingle.any (fun e => e.1 == g && e.2.1 == 0) &&
      Gen.nvSingle.any (fun e => e.1 == g && e.2.1 != 0)) = true := by decide +kernel

/-- the sampled id pairs produce the representative sequence of their placement -/
theorem two_ids_only_through_zero : idsOnlyThroughZero Gen.nvTwo = true := by decide +kernel

/-- `debug=True` changes nothing but the (non-serialised) markers -/
theorem two_debug_same : (Gen.nvTwoDebug == Gen.nvTwo) = true := by decide +kernel

/-- MOV both directions: state transfer onto a |0⟩ target, for every sampled id pair -/
theorem mov_ok : Gen.nvMov.all (fun e => movOk e.1 e.2.1 e.2.2) = true := by decide +kernel

theorem mov_cover :
    (Gen.nvMov.any (fun e => e.1 == 0) && Gen.nvMov.any (fun e => e.2.1 == 0)) = true := by
  decide +kernel

/-- unknown register values: the electron → carbon circuit is emitted -/
theorem mov_unknown_is_ec :
    Gen.nvMov.any (fun e => e.1 == 0 && e.2.2 == Gen.nvMovUnknown) = true := by decide +kernel

/-- carbon → carbon MOV is rejected -/
theorem mov_cc_rejected :
    Gen.nvMovCarbonCarbon.all (fun e => e.2.2 && movRoles e.1 e.2.1 == none) = true := by
  decide +kernel

/-- sampled rotations agree with the model `nvRot` in both modes -/
theorem rot_samples_ok :
    (Gen.nvRotSim.all (fun e => nvRot false e.1 e.2.1 e.2.2.1 == some e.2.2.2) &&
     Gen.nvRotHw.all (fun e => nvRot true e.1 e.2.1 e.2.2.1 == e.2.2.2)) = true := by decide +kernel

end NQ.C07.Obl
