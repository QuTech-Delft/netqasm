/-
Kernel-decided obligations about the toolbox sequences generated by running the real toolbox
through the real SDK and executor (Gen/Toolbox.lean).
-/
import NetqasmVerif.Model.Toolbox
import NetqasmVerif.Gen.Toolbox
namespace NQ.C20.Obl
open NQ NQ.TB

/-- the emitted Toffoli sequence is the 8×8 Toffoli up to one scalar (exact, ℤ[ζ₈]) -/
theorem toffoli_ok : equivUpToScalar? (circuit 3 Gen.toffoliSeq) (some toffoliMat) = true := by
  decide +kernel

/-- `toffoliMat` is "X on the target iff both controls are 1" -/
theorem toffoliMat_is_ccx :
    toffoliMat = permMat 3 (fun j => if qbit 3 0 j && qbit 3 1 j then toggle 3 2 j else j) := by
  decide +kernel

/-- the emitted t_inverse sequence is exactly T† (no scalar needed) -/
theorem t_inverse_ok : circuit 1 Gen.tInverseSeq = some (embed1 1 0 gT.adj) := by decide +kernel

/-- one recorded case `(bases, negative, event trace, value returned for outcome 0, for outcome 1)` -/
def caseOk (c : List P1 × Bool × List TEv × Nat × Nat) : Bool :=
  let m := parityMeas c.1
  (m.trace c.1.length == c.2.2.1) && (m.result c.2.1 0 == c.2.2.2.1) && (m.result c.2.1 1 == c.2.2.2.2)

/-- the model of `parity_meas` reproduces the recorded event trace and returned values of all
generated cases -/
theorem parity_cases_match_model : Gen.parityCases.all caseOk = true := by decide +kernel

/-- all Pauli strings of length `n` -/
def strings : Nat → List (List P1)
  | 0 => [[]]
  | n + 1 => (strings n).flatMap fun s => [P1.I :: s, P1.X :: s, P1.Y :: s, P1.Z :: s]

theorem mem_strings : ∀ (n : Nat) (s : List P1), s ∈ strings n ↔ s.length = n
  | 0, s => by simp [strings]
  | n + 1, s => by
    cases s with
    | nil => simp [strings]
    | cons p s => cases p <;> simp [strings, mem_strings n]

/-- the recorded keys are the enumeration itself, in the generator's order (most significant letter first:
`strings` with every string reversed), each with both signs -/
theorem parity_keys_eq : Gen.parityCases.map (fun c => (c.1, c.2.1)) =
    (strings 1 ++ strings 2 ++ strings 3).flatMap fun s => [(s.reverse, false), (s.reverse, true)] := by
  decide +kernel

/-- every signed Pauli string of length 1, 2, 3 was run: 2·(4 + 16 + 64) = 168 cases -/
theorem parity_cases_cover :
    ((strings 1 ++ strings 2 ++ strings 3).all fun s => [false, true].all fun neg =>
      Gen.parityCases.any fun c => c.1 == s && c.2.1 == neg) = true ∧ Gen.parityCases.length = 168 := by
  refine ⟨?_, by decide +kernel⟩
  simp only [List.all_eq_true, List.any_eq_true, Bool.and_eq_true, beq_iff_eq]
  intro s hs neg _
  -- `s.reverse` is again one of the strings, and its entry in the generator's order is `s`
  have hr : s.reverse ∈ strings 1 ++ strings 2 ++ strings 3 := by
    simp only [List.mem_append, mem_strings, List.length_reverse] at hs ⊢; exact hs
  have hk : (s, neg) ∈ Gen.parityCases.map (fun c => (c.1, c.2.1)) := by
    rw [parity_keys_eq, List.mem_flatMap]
    exact ⟨s.reverse, hr, by cases neg <;> simp⟩
  obtain ⟨c, hc, he⟩ := List.mem_map.mp hk
  exact ⟨c, hc, congrArg Prod.fst he, congrArg Prod.snd he⟩

/-- set_qubit_state emits Y rotations followed by Z rotations on the one qubit, nothing else -/
def setStateShape (seq : List GI) : Bool :=
  let ys := seq.takeWhile (fun g => g.g == .rotY)
  let zs := seq.dropWhile (fun g => g.g == .rotY)
  zs.all (fun g => g.g == .rotZ) && seq.all (fun g => g.qs == [0]) && (ys ++ zs == seq)

theorem set_state_shape_ok : Gen.setStateSeqs.all (fun c => setStateShape c.2.2) = true := by
  decide +kernel

/-- `Σ nᵢ/2^{dᵢ}` of the rotations of kind `g` in `seq`, as `(numerator, 2^D)` -/
def angleSum (seq : List GI) (g : GName) : Nat × Nat :=
  let rs := seq.filter (fun i => i.g == g)
  let D := rs.foldl (fun acc i => max acc i.d) 0
  (rs.foldl (fun acc i => acc + i.n * 2 ^ (D - i.d)) 0, 2 ^ D)

/-- `|S·π − milli/1000| ≤ 2.5·10⁻³` with π ≈ 3.1416 (integer arithmetic) -/
def angleNear (s : Nat × Nat) (milli : Nat) : Bool :=
  let diff : Int := (s.1 * 31416 : Nat) - (milli * 10 * s.2 : Nat)
  decide (diff ≤ (25 * s.2 : Nat)) && decide (-(25 * s.2 : Nat) ≤ diff)

/-- the sampled calls: the Y rotations add up to θ and the Z rotations to φ (to 2.5·10⁻³ rad) -/
theorem set_state_angles_ok :
    Gen.setStateSeqs.all (fun c => angleNear (angleSum c.2.2 .rotY) c.1 && angleNear (angleSum c.2.2 .rotZ) c.2.1)
      = true := by decide +kernel

/-- one recorded case `(bases, negative, kind of handle, stored value for outcome 0, for outcome 1)` -/
def storedOk (c : List P1 × Bool × Nat × Nat × Nat) : Bool :=
  let m := parityMeas c.1
  (m.storedKind == c.2.2.1) && (m.stored c.2.1 0 == c.2.2.2.1) && (m.stored c.2.1 1 == c.2.2.2.2)

/-- all 168 cases: the returned handle is an array entry (a constant for the trivial measurement) and
the value the controller holds there after the flush is the SIGNED parity -/
theorem parity_stored_match_model :
    Gen.parityStored.all storedOk = true ∧ Gen.parityStored.length = 168 := by decide +kernel

end NQ.C20.Obl
