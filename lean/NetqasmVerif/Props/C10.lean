/-
C10 — "Entanglement looks like Phi+ whatever Bell state the link delivered".

Statements over the executable models `Model/Bell.lean` (exact ℤ[i] arithmetic)
and `Model/BellLoop.lean` (the commands the builder emits for the EPR receive
operations + their small-step semantics). The data (`Gen/Corrections.lean`) is
regenerated from /repo on every run; the emitted command lists of the model are
compared syntactically with the real builder's by the correspondence stream.

FULL STATEMENT of the addressing part (`per_pair_addressing`):
  for EVERY number of pairs n, EVERY tuple of Bell values (b₀ … bₙ₋₁) written by the link layer
  into the results array and EVERY content (v₀ … vₙ₋₁) of the qubit-ids array, executing the emitted
  correction code applies, for i = 0 … n−1 in order, exactly the rotations C_{bᵢ} to virtual qubit vᵢ
  and touches no other qubit.
Which variant of the correction code a path emits (`Target`: the loaded id, or `set <reg> 0`) is generated data:
  * post-routine / sequential path (`_build_cmds_post_epr`) and the move-to-memory path of
    single-communication-qubit hardware: the whole per-pair loop, with the user's post routine in it, for
    every n (`post_path_loop_runs`, `per_pair_addressing_post`); per iteration `block_applies_correction`;
  * wait-all path (`_build_cmds_epr_keep_corrections`): the whole loop is characterised for every n
    (`waitall_loop_runs`): it addresses `Target.pick` = 0 as long as the code keeps `set <reg> 0`
    (finding F14, open: three exact-stream tests of netqasm pin the defective stream). Hence
    `per_pair_addressing` holds for the `loaded` variant, `per_pair_addressing_partial` needs
    "every pair's qubit id is 0" for the `setZero` variant, and `f14_counterexample` (n = 2) is proved.
-/
import NetqasmVerif.Lemmas.BellAlloc
import NetqasmVerif.Props.BellObligations
/-
OVERVIEW — what is proved for which API form × hardware × role (addressing part; `pauli_fixes_bell`, `expect_off`
and `postprocess_table` hold for all)

| API form                                   | hardware                         | role     | emitted path            | addressing theorem                                   | status |
|--------------------------------------------|----------------------------------|----------|-------------------------|------------------------------------------------------|--------|
| recv_keep / _with_info, no post routine    | generic, ≥ 2 comm. qubits        | receiver | wait-all loop           | waitall_loop_runs, emitted_waitall_addressing        | whole loop, every n; addresses 0 while the code keeps `set <reg> 0` (F14 open): per_pair_addressing for `loaded`, _partial + f14_counterexample for the emitted variant |
| recv_rsp / _with_info                      | any                              | receiver | wait-all loop           | same                                                 | same (F14) |
| recv_keep / _with_info, post routine       | any (sequential or not)          | receiver | per-pair loop (post)    | post_path_loop_runs, per_pair_addressing_post(_empty) | FULL: whole loop, every n, arbitrary post routine under PostOk / every straight-line routine |
| recv_keep / _with_info, no post routine    | single comm. qubit (NV, generic(1)) | receiver | per-pair loop + move | post_path_loop_runs (mv = true), move_path_ids       | FULL: corrections on qubit 0 = pair i's id there, then move to n−1−i |
| recv_measure                               | any                              | receiver | request + wait only     | expect_off / postprocess_table                       | no quantum correction; classical table proved; public API assumes Z (F32 open) |
| create_keep (all modes), create_rsp, create_measure | any                     | creator  | same paths, no block    | creator_emits_no_correction                          | FULL: no rotation for any configuration |
| any receive form, expect_phi_plus = False  | any                              | receiver | same paths, no block    | expect_off                                           | FULL |
Hardware enters through `singleComm` (single_comm_configs). The block-level results
(block_applies_correction, emitted_block_addressing, emitted_block_in_loop) are the statements per iteration;
the loop theorems use `block_at`.
-/
namespace NQ.C10
open NQ NQ.Bell NQ.BellObl

/-- For each Bell state `b` (numbering of `qlink_compat.BellState`), the rotations the emitted
single-pair block performs for the value of `b`, applied to the receiver's half (first or second
tensor factor — both are proved), map `|b⟩` to a unit multiple of `|Φ⁺⟩`. -/
theorem pauli_fixes_bell (b : BellSt) : fixes 0 b = true ∧ fixes 1 b = true := by
  have h := fixes_all
  cases b <;> simp_all [BellSt.all]

/-- what `fixes` means: an explicit operator and an explicit unit scalar -/
theorem fixes_sound {side : Nat} {b : BellSt} (h : fixes side b = true) :
    ∃ m c, gatesMat (corrGates b) = some m ∧ c ∈ units ∧
      applyLocal side m b.vec = smulVec c BellSt.phiPlus.vec := by
  unfold fixes at h
  split at h
  · rename_i m hm
    simp only [unitMultiple, List.any_eq_true, beq_iff_eq] at h
    obtain ⟨c, hc, he⟩ := h
    exact ⟨m, c, hm, hc, he⟩
  · simp at h

/-- the Bell numbering distinguishes the four states (so `ofValue` inverts `value`) -/
theorem numbering_injective : nb.injective = true := BellObl.numbering_injective

/-- the rotations are tied to the emitted code: started with Bell register value `bv` and qubit
register value `v`, the single-pair block (wherever it sits in a program, `SingleAt`) applies exactly
`Gen.singlePair.gates bv` to qubit `v`, changes no register and falls through -/
theorem single_pair_block {code : List Cmd} {mem : Mem} {o b q : Nat} {x1 x2 x3 : String}
    (h : SingleAt code o Gen.singlePair b q x1 x2 x3) (regs : Nat → Int) (tr : List Ev) :
    Reaches code mem ⟨o, regs, tr⟩ ⟨o + 10, regs, tr ++ corrEvents Gen.singlePair (regs b) (regs q)⟩ :=
  single_spec h regs tr

example : corrEvents Gen.singlePair (nb.value .psiMinus) 7 = [.rot ⟨.x, 16, 4⟩ 7, .rot ⟨.z, 16, 4⟩ 7] := by
  decide +kernel

def Cmd.isRot : Cmd → Bool
  | .rot _ _ => true
  | _ => false

/-- With `expect_phi_plus = False` the receive operations emit no rotation at all, for every
configuration (hardware, API, post routine, number of pairs, register/label state). -/
theorem expect_off (d : Data) (c : Config) (code : List Cmd) (he : c.expect = false)
    (h : emit d c = some code) : code.all (fun cmd => !Cmd.isRot cmd) = true := by
  rcases emit_cases h with h | h | ⟨mv, h⟩
  · obtain rfl := Option.some.inj h
    rfl
  · simp only [emitWaitAll, he, Bool.not_false, if_true, Option.some.injEq] at h
    subst h
    rfl
  · -- the per-pair loop without correction block: none of its templates contains a rotation
    obtain ⟨a, u4, B, u9, T, u10, l3, u11, l4, u12, -, h1, h2, -, -, rfl⟩ := emitSeq_parts h
    obtain ⟨r0, r1, x4, rfl, -⟩ := seqTail_picked h2
    obtain ⟨rfl, -⟩ : B = [] ∧ u4 = u9 := by simpa [seqCorr, he] using h1
    cases mv <;> rfl

/-- non-vacuity: a configuration with the expectation off that emits something -/
example : (emit Gen.data ⟨"keep", false, false, 2, false, [], [], 0, 1, 1, 0⟩).isSome = true := by decide +kernel

/-- and with the expectation on rotations are emitted -/
example : ((emit Gen.data ⟨"keep", false, false, 2, true, [], [], 0, 1, 1, 0⟩).getD []).any Cmd.isRot = true := by
  decide +kernel

/-- `post_process = False` (creator side, or `expect_phi_plus = False`): the outcome is the raw
outcome for every Bell state, basis and raw outcome -/
theorem postprocess_off : Gen.postOffTable.all (fun r => r.2.2.2 == some r.2.2.1) = true :=
  post_off_identity

/-- For all 4 Bell states × 6 named bases × both raw outcomes the real `measurement_outcome`
(table regenerated by calling it) satisfies `post ⊕ raw = parity_b(B) ⊕ parity_Φ⁺(B)`, the parities
being read off the exact correlations `⟨b|B⊗B|b⟩`; hence `post ⊕ remote` has the parity Φ⁺ gives.
The table is complete (48 rows), each named rotation triple measures the Pauli its name says, and
unequal or unnamed bases raise. -/
theorem postprocess_table :
    Gen.postTable.all rowOk = true ∧
    (allCombos.all (fun c => Gen.postTable.any (fun r => r.1 == c.1 && r.2.1 == c.2.1 && r.2.2.1 == c.2.2))
      && Gen.postTable.length == 48) = true ∧
    (Gen.bases.all basisOk && Gen.bases.length == 6) = true ∧
    (Gen.unequalNotRaising == 0 && Gen.unnamedNotRaising == 0 && Gen.unequalTried == 240
      && decide (Gen.unnamedTried > 0)) = true :=
  ⟨post_table_ok, post_table_complete, named_bases, unequal_unnamed_raise⟩

/-- the parities used above, spelled out: Φ⁺ gives equal outcomes in X and Z and opposite in Y -/
example : parityBit .phiPlus pauliX = some 0 ∧ parityBit .phiPlus pauliY = some 1 ∧
    parityBit .phiPlus pauliZ = some 0 ∧ parityBit .psiMinus pauliX = some 1 ∧
    parityBit .psiMinus pauliY = some 1 ∧ parityBit .psiMinus pauliZ = some 1 := by decide +kernel

/-- what the property demands of the correction code: pair i's rotations on pair i's qubit, in
order, and nothing else -/
def required (sp : SinglePair) (pairs : List (Int × Int)) : List Ev := pairEvents sp .loaded pairs

/-- **The wait-all correction loop, for every number of pairs.** Started at its first command with
arbitrary register contents, the emitted loop (either variant `t`) terminates behind its exit label
and has applied, for i = 0 … n−1 in order, the rotations selected by pair i's Bell value to the qubit
`t.pick (ids[i])` — and nothing else. -/
theorem waitall_loop_runs (t : Target) (ly : Layout) (sp : SinglePair) (q b L I J : Nat) (lb : LoopLabels)
    (ids res : Int) (mem : Mem) (hd : RegsDistinct q b L I J) (hl : lb.toList.Nodup)
    (idv resv bvs : List Int) (hmi : mem ids = some idv) (hmr : mem res = some resv)
    (hlen : idv.length = bvs.length) (hres : ResultsHold ly resv bvs) (regs : Nat → Int) :
    ∃ regs', Reaches (corrLoopCode t ly sp q b L I J lb bvs.length ids res) mem ⟨0, regs, []⟩
      ⟨(corrLoopCode t ly sp q b L I J lb bvs.length ids res).length, regs',
        pairEvents sp t (bvs.zip idv)⟩ := by
  have hlenc : (corrLoopCode t ly sp q b L I J lb bvs.length ids res).length =
      3 + (corrBodyCode t ly sp q b L I J lb.l1 lb.l2 lb.x1 lb.x2 lb.x3 ids res).length + 3 := by
    rw [corrLoopCode_eq, List.length_append, List.length_append]; rfl
  -- in program order `l3` comes first: a permutation of `lb.toList`
  have hN : (labelsOf (corrLoopCode t ly sp q b L I J lb bvs.length ids res)).Nodup := by
    rw [show labelsOf (corrLoopCode t ly sp q b L I J lb bvs.length ids res) =
      lb.l3 :: ([lb.l1, lb.l2, lb.x1, lb.x2, lb.x3] ++ [lb.l4]) by cases t <;> rfl]
    exact List.perm_middle.nodup_iff.mp hl
  have h0 := Frag.whole corrLoopCode_eq hN
  have hB := h0.right.left
  have hE := h0.right.right
  obtain ⟨r, all, hr, hI⟩ := loop_skeleton (mem := mem) (h0.get (j := 0) rfl) (h0.get (j := 1) rfl)
    (h0.get (j := 2) rfl) (hE.get (j := 0) rfl) (hE.get (j := 1) rfl) (hE.get (j := 2) rfl)
    (h0.label (j := 1) rfl) (hE.label (j := 2) rfl)
    (fun i e => e = corrEvents sp (bvs.getD i 0) (t.pick (idv.getD i 0)))
    (fun i hi regs tr hL => by
      obtain ⟨k, hk, hbv', hid⟩ := pair_data hlen hres hi
      obtain ⟨r', hr', hL'⟩ := corrBody_spec (mem := mem) hB hd hmi hmr hid hk hbv' tr hL
      exact ⟨r', _, hr', hL', rfl⟩)
    regs []
  rw [hlenc, ← List.drop_zero (l := bvs.zip idv), ← iterEvents_pairs (fun _ _ h => h) hlen hI (Nat.zero_add _)]
  exact ⟨r, hr⟩

/-- `per_pair_addressing` for the loop that keeps the loaded id: full statement. -/
theorem per_pair_addressing (ly : Layout) (sp : SinglePair) (q b L I J : Nat) (lb : LoopLabels)
    (ids res : Int) (mem : Mem) (hd : RegsDistinct q b L I J) (hl : lb.toList.Nodup)
    (idv resv bvs : List Int) (hmi : mem ids = some idv) (hmr : mem res = some resv)
    (hlen : idv.length = bvs.length) (hres : ResultsHold ly resv bvs) (regs : Nat → Int) :
    ∃ regs', Reaches (corrLoopCode .loaded ly sp q b L I J lb bvs.length ids res) mem ⟨0, regs, []⟩
      ⟨(corrLoopCode .loaded ly sp q b L I J lb bvs.length ids res).length, regs',
        required sp (bvs.zip idv)⟩ :=
  waitall_loop_runs .loaded ly sp q b L I J lb ids res mem hd hl idv resv bvs hmi hmr hlen hres regs

theorem pairEvents_zero (sp : SinglePair) (t : Target) (pairs : List (Int × Int))
    (h : ∀ p ∈ pairs, p.2 = 0) : pairEvents sp t pairs = required sp pairs := by
  induction pairs with
  | nil => rfl
  | cons p rest ih =>
    obtain ⟨bv, id⟩ := p
    have h0 : id = 0 := h (bv, id) (by simp)
    have ih' := ih (fun p hp => h p (by simp [hp]))
    subst h0
    cases t <;> simp [pairEvents, required, Target.pick] at ih' ⊢ <;> simp [ih']

/-- `per_pair_addressing_partial`: for the loop as the wait-all path emits it today (variant from
the generated data) the demanded trace is obtained under the extra hypothesis that the variant is
`loaded` or every pair's qubit id is 0. -/
theorem per_pair_addressing_partial (t : Target) (ly : Layout) (sp : SinglePair) (q b L I J : Nat)
    (lb : LoopLabels) (ids res : Int) (mem : Mem) (hd : RegsDistinct q b L I J) (hl : lb.toList.Nodup)
    (idv resv bvs : List Int) (hmi : mem ids = some idv) (hmr : mem res = some resv)
    (hlen : idv.length = bvs.length) (hres : ResultsHold ly resv bvs) (regs : Nat → Int)
    (hextra : t = .loaded ∨ ∀ id ∈ idv, id = 0) :
    ∃ regs', Reaches (corrLoopCode t ly sp q b L I J lb bvs.length ids res) mem ⟨0, regs, []⟩
      ⟨(corrLoopCode t ly sp q b L I J lb bvs.length ids res).length, regs',
        required sp (bvs.zip idv)⟩ := by
  obtain ⟨regs', hr⟩ := waitall_loop_runs t ly sp q b L I J lb ids res mem hd hl idv resv bvs hmi hmr hlen hres regs
  refine ⟨regs', ?_⟩
  have : pairEvents sp t (bvs.zip idv) = required sp (bvs.zip idv) := by
    rcases hextra with h | h
    · subst h; rfl
    · apply pairEvents_zero
      intro p hp
      exact h p.2 (List.of_mem_zip hp).2
  rw [← this]; exact hr

/-- non-vacuity of the hypotheses of the loop theorems (n = 2, concrete registers and labels) -/
example : RegsDistinct 0 1 2 3 4 ∧ lbl.toList.Nodup ∧ ResultsHold Gen.layout res2 [nb.value .phiPlus, nb.value .psiPlus] := by
  refine ⟨.of_nodup (by decide), by decide, ?_⟩
  intro i h
  have : i = 0 ∨ i = 1 := by simp at h; omega
  rcases this with rfl | rfl
  · exact ⟨9, by decide, by rfl⟩
  · exact ⟨19, by decide, by rfl⟩

/-- **F14, proved counter-example (n = 2).** Bell states (Φ⁺, Ψ⁺), qubit ids [0, 1]: the `setZero`
loop is executed by the kernel and rotates virtual qubit 0, whereas the property demands the rotation
on virtual qubit 1 (which is what the `loaded` loop does). -/
theorem f14_counterexample :
    traceOf .setZero = some [Ev.rot ⟨.x, 16, 4⟩ 0] ∧
    traceOf .loaded = some (required Gen.singlePair [(nb.value .phiPlus, 0), (nb.value .psiPlus, 1)]) ∧
    [Ev.rot ⟨.x, 16, 4⟩ 0] ≠ required Gen.singlePair [(nb.value .phiPlus, 0), (nb.value .psiPlus, 1)] := by
  refine ⟨f14_witness.1, ?_, by decide⟩
  rw [f14_witness.2]; decide

/-- **Per-pair correction block of the post-routine / sequential path and of the move-to-memory
path, for every iteration i.** With the pair register holding `i`, the block loads the Bell value of
pair `i` from `res[idxBell + len·i]`, applies exactly the rotations it selects to the qubit
`t.pick (ids[i])`, leaves the pair register unchanged and falls through. For the post-routine path
`t = loaded` (`targets_of_paths`), i.e. pair i's own qubit; for the move path `t = setZero`, and there
the builder stores 0 for every pair (`idsInit`), i.e. again pair i's own qubit at that moment. -/
theorem block_applies_correction (t : Target) (ly : Layout) (sp : SinglePair) (q b L I J : Nat)
    (l1 l2 x1 x2 x3 : String) (ids res : Int) (mem : Mem)
    (hd : RegsDistinct q b L I J) (hl : [l1, l2, x1, x2, x3].Nodup)
    (idv resv : List Int) (hmi : mem ids = some idv) (hmr : mem res = some resv)
    (i : Nat) (id bv : Int) (k : Nat)
    (hid : idv[i]? = some id) (hk : ly.idxBell + ly.len * (i : Int) = (k : Int)) (hbv : resv[k]? = some bv)
    (regs : Nat → Int) (tr : List Ev) (hL : regs L = (i : Int)) :
    ∃ regs', Reaches (corrBlockCode t ly sp q b L I J l1 l2 x1 x2 x3 ids res) mem ⟨0, regs, tr⟩
        ⟨(corrBlockCode t ly sp q b L I J l1 l2 x1 x2 x3 ids res).length, regs',
          tr ++ corrEvents sp bv (t.pick id)⟩ ∧ regs' L = (i : Int) := by
  rw [corrBlockCode_length]
  obtain ⟨r, hr, hL', -⟩ := block_at (mem := mem) (Frag.whole rfl (labelsOf_corrBlockCode ▸ hl)) hd hmi hmr
    hid hk hbv tr hL
  exact ⟨r, hr, hL'⟩

/-- the post-routine / sequential paths address the loaded id, the move path the communication qubit 0 -/
theorem targets_of_paths :
    Gen.targetPost = .loaded ∧ Gen.targetPostNonSeq = .loaded ∧ Gen.targetPostNV = .loaded ∧
      Gen.targetMove = .setZero := by
  simpa only [Bool.and_eq_true, beq_iff_eq, and_assoc] using BellObl.targets_of_paths

/-- on single-communication-qubit hardware `recv_keep` stores id 0 for every pair, so that the
constant 0 of the move path *is* pair i's qubit id -/
theorem move_path_ids (c : Config) (hk : c.api = "keep") (hnv : c.nv = true) (hs : List Int) :
    ∀ id ∈ idsInit c hs, id = 0 := by
  intro id h
  simp [idsInit, hk, hnv] at h
  exact h.2.symm

/-- **Wait-all path, emitted code.** For EVERY configuration (active registers, labels already
used, array addresses, number of pairs) in which corrections are expected, what the model of
`recv_keep` / `recv_rsp` emits is `recv_epr; wait_all; loop`, and `loop` — run for any Bell tuple and
any qubit-id array of that many pairs — terminates and applies pair i's rotations to
`d.tWaitAll.pick (ids[i])` for i = 0 … n−1, nothing else. Freshness of the allocated registers and
labels is proved, not assumed. -/
theorem emitted_waitall_addressing (d : Data) (c : Config) (code : List Cmd) (he : c.expect = true)
    (h : emitWaitAll d c = some code) (mem : Mem) (idv resv bvs : List Int) (hn : bvs.length = c.n)
    (hmi : mem c.ids = some idv) (hmr : mem c.res = some resv) (hlen : idv.length = bvs.length)
    (hres : ResultsHold d.ly resv bvs) (regs : Nat → Int) :
    ∃ loop, code = [ .recvEpr c.remote c.sock (some c.ids) c.res, .waitAllImm c.res 0 (d.ly.len * c.n) ] ++ loop ∧
      ∃ regs', Reaches loop mem ⟨0, regs, []⟩ ⟨loop.length, regs', pairEvents d.sp d.tWaitAll (bvs.zip idv)⟩ := by
  obtain ⟨q, b, L, I, J, lb, hd, hl, hc⟩ := emitWaitAll_shape he h
  refine ⟨_, hc, ?_⟩
  rw [← hn]
  exact waitall_loop_runs d.tWaitAll d.ly d.sp q b L I J lb c.ids c.res mem hd hl idv resv bvs hmi hmr hlen hres regs

/-- **Post-routine / sequential and move-to-memory paths, emitted code.** For EVERY configuration
with corrections expected, the emitted per-pair loop contains the correction block `blk`
(`code = pre ++ blk ++ post`), and in iteration `i` (pair register `L = i`) the block applies exactly
the rotations of pair i's Bell value to `t.pick (ids[i])`, `t` being the generated target of that path,
keeps `L` and falls through. -/
theorem emitted_block_addressing (d : Data) (c : Config) (mv : Bool) (code : List Cmd)
    (he : c.expect = true) (h : emitSeq d c mv = some code) :
    ∃ (L : Nat) (pre blk post : List Cmd), code = pre ++ blk ++ post ∧
      ∀ (mem : Mem) (idv resv : List Int), mem c.ids = some idv → mem c.res = some resv →
      ∀ (i : Nat) (id bv : Int) (k : Nat), idv[i]? = some id →
        d.ly.idxBell + d.ly.len * (i : Int) = (k : Int) → resv[k]? = some bv →
      ∀ (regs : Nat → Int) (tr : List Ev), regs L = (i : Int) →
        ∃ regs', Reaches blk mem ⟨0, regs, tr⟩
          ⟨blk.length, regs', tr ++ corrEvents d.sp bv ((if mv then d.tMove else d.tPost).pick id)⟩ ∧
          regs' L = (i : Int) := by
  obtain ⟨a, I, J, r0, r1, l1, l2, x1, x2, x3, x4, l3, l4, hwf, hN, rfl⟩ := emitSeq_shape he h
  have hl := (seqLoop_block hN []).nodup
  rw [labelsOf_corrBlockCode] at hl
  refine ⟨a.L, [.recvEpr c.remote c.sock (some c.ids) c.res, .set a.L 0, .label l3, .beq (.r a.L) (.imm c.n) l4] ++
      waitBlockCode d.ly a.L a.s a.t a.e a.J a.a1 a.a2 a.b1 a.b2 c.res,
    corrBlockCode (if mv then d.tMove else d.tPost) d.ly d.sp a.q a.b a.L I J l1 l2 x1 x2 x3 c.ids c.res,
    (if mv then moveTailCode a.L r0 r1 (c.n : Int) x4 else []) ++ loopEnd a.L l3 l4,
    by simp only [seqLoopCode, List.append_assoc, List.nil_append], ?_⟩
  intro mem idv resv hmi hmr i id bv k hid hk hbv regs tr hL
  exact block_applies_correction _ d.ly d.sp a.q a.b a.L I J l1 l2 x1 x2 x3 c.ids c.res mem hwf.blk hl
    idv resv hmi hmr i id bv k hid hk hbv regs tr hL

/-- non-vacuity: configurations for which the two theorems above have a model emission -/
example : (emitWaitAll Gen.data ⟨"keep", false, false, 3, true, [0, 2], ["LOOP", "IF_EXIT"], 2, 3, 1, 0⟩).isSome = true
    ∧ (emitSeq Gen.data ⟨"keep", false, true, 3, true, [0, 2], ["LOOP", "IF_EXIT"], 2, 3, 1, 0⟩ false).isSome = true
    ∧ (emitSeq Gen.data ⟨"keep", true, false, 3, true, [], [], 0, 1, 1, 0⟩ true).isSome = true := by decide +kernel

/-- **The correction block inside the emitted per-pair loop, followed by ANY post routine.**
For every configuration with corrections expected, the model emission is `pre ++ blk ++ tail`
(`pre` = receive command, loop head and the wait-for-pair code; `tail` = move code and loop tail).
Insert an ARBITRARY command list `post` — the user's post routine — behind the block. In the program
`pre ++ blk ++ post ++ tail`, whenever control reaches the block with the pair register holding `i`
(`L = i`), the block applies exactly the rotations of pair i's Bell value to `t.pick (ids[i])` and to
no other qubit, arrives at the first command of `post`, and has preserved `L` and every register
other than its four scratch registers. No hypothesis on `post` is needed for this: label lookup takes
the first definition, and `pre` defines none of the block's labels (proved from the allocation).
What a post routine must respect for the *next* iteration to meet the precondition again is only
`L` (and the loop's own labels) — the bookkeeping registers `q, b, I, J` are re-initialised by the
block itself in every iteration. -/
theorem emitted_block_in_loop (d : Data) (c : Config) (mv : Bool) (code : List Cmd)
    (he : c.expect = true) (h : emitSeq d c mv = some code) :
    ∃ (L q b I J : Nat) (pre blk tail : List Cmd), code = pre ++ (blk ++ tail) ∧ blk.length = 20 ∧
      ∀ (post : List Cmd) (mem : Mem) (idv resv : List Int), mem c.ids = some idv → mem c.res = some resv →
      ∀ (i : Nat) (id bv : Int) (k : Nat), idv[i]? = some id →
        d.ly.idxBell + d.ly.len * (i : Int) = (k : Int) → resv[k]? = some bv →
      ∀ (regs : Nat → Int) (tr : List Ev), regs L = (i : Int) →
        ∃ regs', Reaches (pre ++ (blk ++ (post ++ tail))) mem ⟨pre.length, regs, tr⟩
            ⟨pre.length + 20, regs', tr ++ corrEvents d.sp bv ((if mv then d.tMove else d.tPost).pick id)⟩ ∧
          regs' L = (i : Int) ∧ (∀ x, x ≠ I → x ≠ J → x ≠ b → x ≠ q → regs' x = regs x) := by
  obtain ⟨a, I, J, r0, r1, l1, l2, x1, x2, x3, x4, l3, l4, hwf, hN, rfl⟩ := emitSeq_shape he h
  refine ⟨a.L, a.q, a.b, I, J,
    [.recvEpr c.remote c.sock (some c.ids) c.res, .set a.L 0, .label l3, .beq (.r a.L) (.imm c.n) l4] ++
      waitBlockCode d.ly a.L a.s a.t a.e a.J a.a1 a.a2 a.b1 a.b2 c.res,
    corrBlockCode (if mv then d.tMove else d.tPost) d.ly d.sp a.q a.b a.L I J l1 l2 x1 x2 x3 c.ids c.res,
    (if mv then moveTailCode a.L r0 r1 (c.n : Int) x4 else []) ++ loopEnd a.L l3 l4,
    (List.append_assoc ..).symm, corrBlockCode_length .., ?_⟩
  intro post mem idv resv hmi hmr i id bv k hid hk hbv regs tr hL
  exact block_at (seqLoop_block hN _) hwf.blk hmi hmr hid hk hbv tr hL

theorem creator_data : Gen.creatorData = ⟨false, false, false⟩ := by decide

theorem retarget_noRot (args : Int) (code : List Cmd) (h : code.all (fun cmd => !Cmd.isRot cmd) = true) :
    (retarget args code).all (fun cmd => !Cmd.isRot cmd) = true := by
  cases code with
  | nil => rfl
  | cons c cs =>
    cases c <;> simp only [retarget] <;> exact h

/-- **The correction is applied to pair i's qubit "and to no other" — in particular not to the
partner half.** With the creator data read off the real builder (`Gen.creatorData`: no corrections on
any of the three paths), the model of `create_keep` (plain, post routine, sequential, on generic and
single-communication-qubit hardware), `create_rsp` and `create_measure` emits no rotation, for EVERY
configuration. -/
theorem creator_emits_no_correction (d : Data) (c : Config) (args : Int) (code : List Cmd)
    (h : emitCreate d Gen.creatorData c args = some code) : code.all (fun cmd => !Cmd.isRot cmd) = true := by
  unfold emitCreate at h
  split at h
  · -- none of the three creator flags is set: the receiver's builder runs with the expectation off
    have hflag : (if c.post = true then Gen.creatorData.cPost else if c.nv = true then Gen.creatorData.cMove
        else Gen.creatorData.cWaitAll) = false := by
      rw [creator_data]; cases c.post <;> cases c.nv <;> rfl
    simp only [hflag, Bool.and_false, Option.map_eq_some_iff] at h
    obtain ⟨code0, h0, rfl⟩ := h
    exact retarget_noRot _ _ (expect_off d _ code0 rfl h0)
  · split at h
    · obtain rfl := Option.some.inj h
      rfl
    · cases h

/-- non-vacuity: creator configurations with an emission (wait-all, post routine, move, rsp) -/
example : (emitCreate Gen.data Gen.creatorData ⟨"keep", false, false, 2, true, [], [], 0, 1, 1, 0⟩ 2).isSome = true
    ∧ (emitCreate Gen.data Gen.creatorData ⟨"keep", false, true, 2, true, [], [], 0, 1, 1, 0⟩ 2).isSome = true
    ∧ (emitCreate Gen.data Gen.creatorData ⟨"keep", true, false, 2, true, [], [], 0, 1, 1, 0⟩ 2).isSome = true
    ∧ (emitCreate Gen.data Gen.creatorData ⟨"rsp", false, false, 2, true, [], [], 0, 1, 1, 0⟩ 1).isSome = true := by
  decide +kernel

/-- sharpness: were the creator flag of the move path set, rotations would be emitted -/
example : ((emitCreate Gen.data ⟨false, false, true⟩ ⟨"keep", true, false, 2, true, [], [], 0, 1, 1, 0⟩ 2).getD []).any
    Cmd.isRot = true := by decide +kernel

/-- `single_comm_qubit` over the swept configurations: every NV configuration and exactly the
generic configuration with a budget of one qubit -/
theorem single_comm_configs :
    (List.range 8).all (fun k => singleComm "nv" k) = true ∧
    (List.range 8).all (fun k => singleComm "generic" k == (k == 1)) = true := by decide +kernel

/-- on a single-communication-qubit configuration a plain `recv_keep` emits the correction block
exactly once (inside the one-pair-at-a-time loop) and no wait-all correction loop: the emission has as
many rotations as one single-pair block (four) -/
theorem single_comm_corrects_once :
    [("generic", 1), ("nv", 1), ("nv", 2), ("nv", 5)].all (fun (kind, k) =>
      ((emit Gen.data ⟨"keep", singleComm kind k, false, 1, true, [], [], 0, 1, 1, 0⟩).getD []).countP Cmd.isRot == 4)
      = true := by decide +kernel

/-- **`post_path_loop_runs`.** For EVERY configuration with corrections expected, the emission of
`recv_keep` with a post routine / sequential (`mv = false`) or on single-communication-qubit hardware
without post routine (`mv = true`) is
`request; set L 0; l3: beq L n l4; WAIT; BLOCK; ; MOVE; add L L 1; jmp l3; l4:` (`seqLoopCode … [] …`).
Put ANY command list `post` — the user's post routine — behind the correction block, under two
explicit hypotheses:
  * it does not redefine the loop's exit label `l4` nor (move path) the label `x4` of the move code;
  * `PostOk`: run in place in iteration i it arrives at the command behind it without having changed
    the pair register `L` (its quantum events are described by `Q i`; branches inside are allowed).
Then for every number of pairs n, every Bell tuple `bvs` in the results array and every qubit-id array
`idv`, the program executed from its first command terminates behind `l4`, and its events are those of
the iterations i = 0 … n−1 IN ORDER, iteration i being: the rotations selected by pair i's Bell value
on `t.pick (ids[i])` and on no other qubit, then the post routine's events, then (move path) the move
of the state to memory qubit n−1−i. The wait for pair i's slice of the results array is a no-op of the
semantics; its two repeated-addition loops are executed. All register/label side conditions are
derived from the allocation. -/
theorem post_path_loop_runs (d : Data) (c : Config) (mv : Bool) (code0 : List Cmd)
    (he : c.expect = true) (h : emitSeq d c mv = some code0) (k : Nat) (hK : d.ly.okFields = (k : Int)) :
    ∃ (L : Nat) (l3 l4 x4 : String) (W B T : List Cmd),
      code0 = seqLoopCode (.recvEpr c.remote c.sock (some c.ids) c.res) L c.n l3 l4 W B [] T ∧
      W.length = 19 ∧ B.length = 20 ∧
      ∀ (post : List Cmd), Cmd.label l4 ∉ post → (mv = true → Cmd.label x4 ∉ post) →
      ∀ (mem : Mem) (bvs idv resv : List Int), bvs.length = c.n → mem c.ids = some idv →
        mem c.res = some resv → idv.length = bvs.length → ResultsHold d.ly resv bvs →
      ∀ (Q : Nat → List Ev → Prop),
        PostOk (seqLoopCode (.recvEpr c.remote c.sock (some c.ids) c.res) L c.n l3 l4 W B post T) mem 43
          post.length L Q →
      ∀ (regs : Nat → Int), ∃ regs' all,
        Reaches (seqLoopCode (.recvEpr c.remote c.sock (some c.ids) c.res) L c.n l3 l4 W B post T) mem
          ⟨0, regs, []⟩
          ⟨(seqLoopCode (.recvEpr c.remote c.sock (some c.ids) c.res) L c.n l3 l4 W B post T).length, regs', all⟩ ∧
        IterEvents (SeqIter d.sp (if mv then d.tMove else d.tPost) Q mv c.n bvs idv) 0 c.n all := by
  obtain ⟨a, I, J', r0, r1, l1, l2, x1, x2, x3, x4, l3, l4, hwf, hN, rfl⟩ := emitSeq_shape he h
  refine ⟨a.L, l3, l4, x4, _, _, _, rfl, rfl, corrBlockCode_length .., ?_⟩
  intro post hpl4 hpx4 mem bvs idv resv hn hmi hmr hlen hres Q hpost regs
  rw [← hn] at hpost hN ⊢
  refine seq_loop_runs mv post hwf hK hmi hmr hlen hres hN (fun l hl hp => ?_) Q hpost regs
  rw [mem_labelsOf] at hp
  rcases List.mem_append.mp (labelsOf_append .. ▸ hl) with hl | hl
  · cases mv
    · cases hl
    · exact hpx4 rfl (List.mem_singleton.mp hl ▸ hp)
  · exact hpl4 (List.mem_singleton.mp hl ▸ hp)

/-- **`per_pair_addressing_post` — the addressing statement at full strength for the post-routine /
sequential path and the move-to-memory path.** For every configuration with corrections expected, every
post routine made of straight-line commands that do not write the pair register (`Cmd.simpleFor L`:
classical writes to other registers, gates, moves, frees, waits — in particular the empty routine; such
a routine satisfies `PostOk` and defines no label), every number of pairs, every Bell tuple and every
qubit-id array: the emitted program terminates, and for i = 0 … n−1 in order it applies exactly the
rotations selected by pair i's Bell value to `t.pick (ids[i])` — pair i's own qubit: `t = loaded` on the
post-routine path, and on the move path `t = setZero` with all stored ids 0 (`targets_of_paths`,
`move_path_ids`) — followed by the post routine's own events and the move. -/
theorem per_pair_addressing_post (d : Data) (c : Config) (mv : Bool) (code0 : List Cmd)
    (he : c.expect = true) (h : emitSeq d c mv = some code0) (k : Nat) (hK : d.ly.okFields = (k : Int)) :
    ∃ (L : Nat) (l3 l4 : String) (W B T : List Cmd),
      code0 = seqLoopCode (.recvEpr c.remote c.sock (some c.ids) c.res) L c.n l3 l4 W B [] T ∧
      ∀ (post : List Cmd), post.all (Cmd.simpleFor L) = true →
      ∀ (mem : Mem) (bvs idv resv : List Int), bvs.length = c.n → mem c.ids = some idv →
        mem c.res = some resv → idv.length = bvs.length → ResultsHold d.ly resv bvs →
      ∀ (regs : Nat → Int), ∃ regs' all,
        Reaches (seqLoopCode (.recvEpr c.remote c.sock (some c.ids) c.res) L c.n l3 l4 W B post T) mem
          ⟨0, regs, []⟩
          ⟨(seqLoopCode (.recvEpr c.remote c.sock (some c.ids) c.res) L c.n l3 l4 W B post T).length, regs', all⟩ ∧
        IterEvents (SeqIter d.sp (if mv then d.tMove else d.tPost) (fun _ _ => True) mv c.n bvs idv) 0 c.n all := by
  obtain ⟨L, l3, l4, x4, W, B, T, hc, hW, hB, hrun⟩ := post_path_loop_runs d c mv code0 he h k hK
  refine ⟨L, l3, l4, W, B, T, hc, ?_⟩
  intro post hs mem bvs idv resv hn hmi hmr hlen hres regs
  exact hrun post (simple_no_label hs l4) (fun _ => simple_no_label hs x4) mem bvs idv resv hn hmi hmr hlen hres
    _ ((simple_postOk (seqLoop_post_pos hW hB) hs).mono fun _ _ _ => trivial) regs

/-- with the empty post routine on the post-routine / sequential path the trace is exactly the demanded
one (`required` when the target is `loaded`, which it is: `targets_of_paths`) -/
theorem per_pair_addressing_post_empty (d : Data) (c : Config) (code0 : List Cmd)
    (he : c.expect = true) (h : emitSeq d c false = some code0) (k : Nat) (hK : d.ly.okFields = (k : Int))
    (mem : Mem) (bvs idv resv : List Int) (hn : bvs.length = c.n) (hmi : mem c.ids = some idv)
    (hmr : mem c.res = some resv) (hlen : idv.length = bvs.length) (hres : ResultsHold d.ly resv bvs)
    (regs : Nat → Int) :
    ∃ regs', Reaches code0 mem ⟨0, regs, []⟩ ⟨code0.length, regs', pairEvents d.sp d.tPost (bvs.zip idv)⟩ := by
  obtain ⟨L, l3, l4, x4, W, B, T, hc, hW, hB, hrun⟩ := post_path_loop_runs d c false code0 he h k hK
  have hpo : PostOk (seqLoopCode (.recvEpr c.remote c.sock (some c.ids) c.res) L c.n l3 l4 W B [] T) mem 43
      ([] : List Cmd).length L (fun _ pe => pe = []) := by
    intro i r tr hL
    exact ⟨r, [], by simpa using Reaches.refl _, hL, rfl⟩
  obtain ⟨regs', all, hr, hI⟩ := hrun [] (by simp) (by simp) mem bvs idv resv hn hmi hmr hlen hres _ hpo regs
  rw [← hc] at hr
  rw [← hn] at hI
  have := iterEvents_pairs (t := d.tPost)
    (fun i e ⟨pe, hpe, he⟩ => by rw [he, hpe, List.append_nil]; exact List.append_nil _) hlen hI (Nat.zero_add _)
  exact ⟨regs', this ▸ hr⟩

/-- non-vacuity: a straight-line post routine (a gate, a classical write, a free) and the layout constant -/
example : ([Cmd.rot ⟨.x, 16, 4⟩ 5, .set 7 3, .qfree 5].all (Cmd.simpleFor 0) = true) ∧
    Gen.layout.okFields = ((10 : Nat) : Int) := by decide +kernel

/-- **`creator_postprocess_off`.** The `EprMeasureResult` objects every creating API form hands to the
host (`create_measure`, `create_rsp`, and the deprecated `create(tp=M)`, `create(tp=R)`; flags read off
the real objects) have `post_process = False`, and with `post_process = False` the real
`measurement_outcome` is the raw outcome for every Bell state, basis and raw outcome: the CREATOR never
flips — the correction (quantum or classical) belongs to the receiver's half only. -/
theorem creator_postprocess_off :
    (Gen.hostPostProcess.filter (fun r => r.2.1 == "create")).all (fun r => r.2.2.2 == false) = true ∧
    (Gen.hostPostProcess.filter (fun r => r.2.1 == "create")).map (·.1) =
      ["create_measure", "create_rsp", "create(tp=M)", "create(tp=R)"] ∧
    Gen.postOffTable.all (fun r => r.2.2.2 == some r.2.2.1) = true := by
  refine ⟨by decide +kernel, by decide +kernel, post_off_identity⟩

/-- on the receiving side the flag is the expectation -/
theorem receiver_postprocess_follows_expectation :
    (Gen.hostPostProcess.filter (fun r => r.2.1 == "recv")).all (fun r => r.2.2.2 == r.2.2.1) = true ∧
    (Gen.hostPostProcess.filter (fun r => r.2.1 == "recv")).length = 3 := by decide +kernel

/-- **`request_rotations_follow_requested_bases`.** For `create_measure`, `create_rsp` and the deprecated
`create(tp=M/R)`, probed on the real code over named / unnamed bases × rotation tuples on both sides: the
rotations handed to the builder for EACH side, and slots 14..19 of the serialized request (local X1, Y, X2,
remote X1, Y, X2), are `resolveRot` of THAT side — the named basis' `basis_to_rotation` when a name is
given, the tuple given for that side otherwise. Together with `named_bases` (each named triple measures
the Pauli its name says) the link layer is asked to measure in the bases the application requested. -/
theorem request_rotations_follow_requested_bases :
    Gen.rotProbes.all probeOk = true ∧
    (∀ (rot : Rot), resolveRot Gen.bases none rot = some rot) ∧
    (∀ (b : String) (rot : Rot), resolveRot Gen.bases (some b) rot = basisRot Gen.bases b) :=
  ⟨rot_probes_ok, fun _ => rfl, fun _ _ => rfl⟩

example : requestRots Gen.bases (some "X") none (3, 5, 7) (0, 8, 0) = some ((0, 24, 0), (0, 8, 0)) := by decide +kernel

/-- **History independence.** In the model, the parameters handed to the builder for request k of any
history on one socket object, and the post-processing flag of its result objects, are `paramsOf` of request
k's OWN arguments — whatever requests were made before and whatever state the socket is in. (The real
socket is compared with this model request by request on random histories, and every request of a
history is judged by the oracles exactly as a first request on a fresh socket.) -/
theorem history_independence (table : List (String × Rot × Option String)) (s : Sock) (reqs : List Request) :
    runSocket table s reqs = reqs.map (paramsOf table) := by
  induction reqs generalizing s with
  | nil => rfl
  | cons r rs ih => simp [runSocket, Sock.request, ih]

/-- in particular the last request of a history behaves like a first request -/
theorem last_request_like_first (table : List (String × Rot × Option String)) (s : Sock)
    (pre : List Request) (r : Request) :
    (runSocket table s (pre ++ [r])).getLast? = some (paramsOf table r) ∧
    runSocket table ⟨0⟩ [r] = [paramsOf table r] := by
  rw [history_independence]
  simp [runSocket, Sock.request]

/-- `recv_measure` post-processes with the Z rule (rotations (0,0,0) on both sides) after ANY history, and
a `create_measure` with named bases asks for exactly those -/
example : (runSocket Gen.bases ⟨0⟩
    [⟨"create_measure", 1, true, false, false, some "X", some "X", (0, 0, 0), (0, 0, 0)⟩,
     ⟨"recv_measure", 2, true, false, false, none, none, (0, 0, 0), (0, 0, 0)⟩]) =
    [some ⟨1, true, false, false, (0, 24, 0), (0, 24, 0), false⟩,
     some ⟨2, true, false, false, (0, 0, 0), (0, 0, 0), true⟩] := by decide +kernel

end NQ.C10
