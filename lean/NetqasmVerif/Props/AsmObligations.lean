/-
Kernel-decided side conditions of the C03 proof about data regenerated from /repo
(`Gen/AsmPassTables.lean`, `Gen/InstrTable.lean`).  Kept in their own module so that they are
re-decided only when the data changes.
-/
import NetqasmVerif.Model.Asm
import NetqasmVerif.Lemmas.AsmPure
import NetqasmVerif.Gen.AsmPassTables
import NetqasmVerif.Gen.InstrTable
import NetqasmVerif.Props.C01
namespace NQ.AsmObl
open NQ NQ.Asm

/-- every immediate / branch-target position of an in-scope instruction is exempt from
constant replacement (`_REPLACE_CONSTANTS_EXCEPTION`) -/
theorem exc_covers : excCovers stdRoleTable Gen.excTable = true := by decide +kernel

/-- the hand-written roles agree with the operand kinds of the live vanilla classes -/
theorem roles_fit :
    stdRoleTable.all (fun e => match nameMap Gen.vanillaRows e.1 with
      | some row => rolesFit e.2 row.shape
      | none => false) = true := by decide +kernel

/-- the positions marked as branch targets are exactly the targets of the live branch classes -/
theorem branch_positions :
    stdRoleTable.flatMap (fun e => (tgtPositions e.2 0).map (fun j => (e.1, j))) = Gen.branchTargets := by
  decide +kernel

/-- every row of the vanilla table is found by its own class name (no second sweep: C01 has shown that no two
rows share a class) -/
theorem classes_unique :
    Gen.vanillaRows.all (fun r => rowOf Gen.vanillaRows r.cls == some r) = true :=
  List.all_eq_true.2 fun _ hr => beq_iff_eq.2 (rowOf_of_mem C01.vanilla_cls hr)

/-- the scratch candidates are R0 … R15 -/
theorem num_scratch : Gen.numScratch = 16 := by decide

/-- the macro pass of the tree under test is token aware (F4 is fixed there) -/
theorem macro_probe_fixed : Gen.macroTokenAware = true := by decide

/-- every immediate position of every vanilla instruction is exempt from constant replacement (so an
assembled program is a fixed point of the passes) -/
theorem imm_exempt :
    Gen.vanillaRows.all (fun r => immExempt Gen.excTable r.mn 0 r.shape) = true := by decide +kernel

end NQ.AsmObl
