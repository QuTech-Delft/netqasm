/-
C15 — Host/controller messages survive serialisation.

Model: `Model/Msg.lean` (ctypes structs as bit-range layouts; type-byte dispatch;
SubroutineMessage; ReturnArrayMessage with OptionalInt entries). The model is of the
code *after* the fix of F18 (`OptionalInt.value` is a property over the renamed field
`_value`; before the fix the ctypes field shadowed the method and `None` came back as 0).
Tables, layouts and probes are generated from the live ctypes descriptors
(`Gen/MsgLayouts.lean`), their obligations decided in `Props/MsgObligations.lean`.
-/
import NetqasmVerif.Lemmas.MsgRoundtrip
import NetqasmVerif.Props.MsgObligations
import NetqasmVerif.Props.C01
namespace NQ.C15
open NQ NQ.Msg

/-- **One struct.** Any layout whose leaf fields are disjoint and inside `sizeof`
(`WFStruct`), any field values within the declared widths (signed or unsigned, bit-fields
included), any trailing bytes: reading back what was written gives the same values. -/
theorem struct_roundtrip (L : SLayout) (vs : List Int) (rest : List Nat)
    (hwf : WFStruct L = true) (hin : allInWidth L.fields vs = true) :
    unpackStruct L (packStruct L vs ++ rest) = some vs := Msg.struct_roundtrip L vs rest hwf hin

/-- **Fixed messages, generic.** Over any tables satisfying the decidable `WFTables`
(every `WFLayout`: fields disjoint, inside the size, type byte first; class names unique;
dispatch consistent), for either dispatch table `d`, every message class `M` reachable
through `d` and all field values within their declared widths. -/
theorem fixed_msg_roundtrip (G : Tables) (hG : WFTables G = true) (d : List (Nat × String))
    (hd : dispatchOk G d = true) (M : MLayout) (hM : M ∈ G.layouts)
    (hdisp : (M.ty, M.lay.cls) ∈ d) (vs : List Int)
    (hin : allInWidth M.lay.fields ((M.ty : Int) :: vs) = true) :
    ∃ bs, serialize G (.fixed M.lay.cls ((M.ty : Int) :: vs)) = some bs ∧
      deserializeWith G d bs = .ok (.fixed M.lay.cls ((M.ty : Int) :: vs)) :=
  fixed_roundtrip G (wf_of G hG) d hd M hM hdisp vs hin

/-- two type bytes leading to the same class are equal (and a type byte leads to at most one
class, `lookup` being a function) -/
theorem dispatch_injective (G : Tables) (d : List (Nat × String)) (h : dispatchOk G d = true)
    (t t' : Nat) (cls : String) (h1 : lookup d t = some cls) (h2 : lookup d t' = some cls) :
    t = t' := Msg.dispatch_injective h h1 h2

/-- **The messages of /repo, host → controller** (register application, open EPR socket,
stop application, signal): every ctypes class in `MESSAGE_CLASSES` (`SubroutineMessage` is
`subroutine_msg_roundtrip`), all in-width field values. -/
theorem host_msg_roundtrip (M : MLayout) (hM : M ∈ Gen.msgTables.layouts)
    (hdisp : (M.ty, M.lay.cls) ∈ Gen.msgTables.hostDispatch) (vs : List Int)
    (hin : allInWidth M.lay.fields ((M.ty : Int) :: vs) = true) :
    ∃ bs, serialize Gen.msgTables (.fixed M.lay.cls ((M.ty : Int) :: vs)) = some bs ∧
      deserializeHost Gen.msgTables bs = .ok (.fixed M.lay.cls ((M.ty : Int) :: vs)) :=
  fixed_roundtrip _ MsgObl.wf _ MsgObl.wf.host M hM hdisp vs hin

/-- **controller → host** (done, error, returned register) -/
theorem return_msg_roundtrip (M : MLayout) (hM : M ∈ Gen.msgTables.layouts)
    (hdisp : (M.ty, M.lay.cls) ∈ Gen.msgTables.returnDispatch) (vs : List Int)
    (hin : allInWidth M.lay.fields ((M.ty : Int) :: vs) = true) :
    ∃ bs, serialize Gen.msgTables (.fixed M.lay.cls ((M.ty : Int) :: vs)) = some bs ∧
      deserializeReturn Gen.msgTables bs = .ok (.fixed M.lay.cls ((M.ty : Int) :: vs)) :=
  fixed_roundtrip _ MsgObl.wf _ MsgObl.wf.ret M hM hdisp vs hin

/-- every fixed-layout class of the tables is reachable through exactly one of the two
dispatch tables (so the two theorems above cover every ctypes message) -/
theorem every_fixed_class_dispatched : Gen.msgTables.layouts.all (fun M =>
    (Gen.msgTables.hostDispatch.contains (M.ty, M.lay.cls)
      != Gen.msgTables.returnDispatch.contains (M.ty, M.lay.cls))) = true := by decide +kernel

/-- **SubroutineMessage**: type byte ++ subroutine bytes; with C01 the carried bytes
decode (with the flavour of the sender) to the subroutine that was sent. -/
theorem subroutine_msg_roundtrip (T : Table) (s : Sub) (bs : List Nat)
    (h : encodeSub T s = some bs)
    (hc : ∀ i ∈ s.instrs, ∀ row, rowOf T i.cls = some row →
      ∀ c ∈ opcodeClashes T, c.1 ≠ row.opcode) :
    ∃ raw, serialize Gen.msgTables (.subroutine bs) = some raw ∧
      deserializeHost Gen.msgTables raw = .ok (.subroutine bs) ∧ decodeSub T bs = some s := by
  obtain ⟨raw, h1, h2⟩ := Msg.subroutine_roundtrip Gen.msgTables MsgObl.wf bs
  exact ⟨raw, h1, h2, C01.subroutine_roundtrip T s bs h hc⟩

/-- **ReturnArrayMessage, generic**: arrays of any length (that the length field can
hold) with any pattern of undefined entries; `none ↦ (nullTag, 0)`, `some v ↦ (intTag, v)`
and back. -/
theorem array_msg_roundtrip_generic (G : Tables) (hG : WFTables G = true) (fa fl fv : SField)
    (hfa : G.retArrHeader.fields[0]? = some fa) (hfl : G.retArrHeader.fields[1]? = some fl)
    (hfv : G.optionalInt.fields[1]? = some fv)
    (addr : Int) (vs : List (Option Int))
    (ha : inWidth fa addr = true) (hl : inWidth fl (vs.length : Int) = true)
    (hin : ∀ x, some x ∈ vs → inWidth fv x = true) :
    ∃ bs, serialize G (.retArr addr vs) = some bs ∧
      deserializeReturn G bs = .ok (.retArr addr vs) :=
  array_roundtrip G (wf_of G hG) fa fl fv hfa hfl hfv addr vs ha hl hin

theorem inWidth_i32 (name : String) (start : Nat) (v : Int)
    (h : -2147483648 ≤ v ∧ v < 2147483648) : inWidth ⟨name, start, 32, true⟩ v = true := by
  unfold inWidth
  norm_num
  omega

/-- **ReturnArrayMessage of /repo**: address and defined entries any 32-bit integers,
any number of entries below 2³¹ (the width of the `length` field), any pattern of
undefined entries. Undefined entries come back undefined. -/
theorem array_msg_roundtrip (addr : Int) (vs : List (Option Int))
    (ha : -2147483648 ≤ addr ∧ addr < 2147483648) (hl : vs.length < 2147483648)
    (hin : ∀ x, some x ∈ vs → -2147483648 ≤ x ∧ x < 2147483648) :
    ∃ bs, serialize Gen.msgTables (.retArr addr vs) = some bs ∧
      deserializeReturn Gen.msgTables bs = .ok (.retArr addr vs) := by
  have hA : Gen.msgTables.retArrHeader.fields[0]? = some ⟨"address.address", 0, 32, true⟩ := rfl
  have hL : Gen.msgTables.retArrHeader.fields[1]? = some ⟨"length", 32, 32, true⟩ := rfl
  have hV : Gen.msgTables.optionalInt.fields[1]? = some ⟨"_value", 32, 32, true⟩ := rfl
  exact array_msg_roundtrip_generic _ MsgObl.tables_wf _ _ _ hA hL hV addr vs
    (inWidth_i32 _ _ _ ha) (inWidth_i32 _ _ _ ⟨by omega, by omega⟩)
    (fun x hx => inWidth_i32 _ _ _ (hin x hx))

/-- malformed input: an unknown type byte is an error, never a message -/
theorem unknown_type_rejected (G : Tables) (d : List (Nat × String)) (t : Nat) (rest : List Nat)
    (h : lookup d t = none) : deserializeWith G d (t :: rest) = .error .value := by
  simp [deserializeWith, h]

/-- malformed input: a buffer shorter than the struct is an error -/
theorem short_buffer_rejected (L : SLayout) (bs : List Nat) (h : bs.length < L.size) :
    unpackStruct L bs = none := by simp [unpackStruct, h]

/-! Generated obligations (re-exported for the audit) -/
theorem layouts_wf : Gen.msgTables.layouts.all WFLayout = true := MsgObl.layouts_wf
theorem tables_wf : WFTables Gen.msgTables = true := MsgObl.tables_wf
/-- the model reproduces every real walking-one / flipped-bit probe of every message class -/
theorem probes_match : Gen.msgEncProbes.all MsgObl.encProbeOk = true
    ∧ Gen.msgDecProbes.all MsgObl.decProbeOk = true
    ∧ Gen.structEncProbes.all (fun p => MsgObl.encProbeOk p && MsgObl.decProbeOk (p.1, p.2.2, p.2.1)) = true :=
  ⟨MsgObl.enc_probes_match, MsgObl.dec_probes_match, MsgObl.struct_probes_match⟩

-- F18's witness round-trips: undefined entries stay undefined
example : (serialize Gen.msgTables (.retArr 5 [some 1, none, some 0, none, some (-5)])).map
    (deserializeReturn Gen.msgTables) = some (.ok (.retArr 5 [some 1, none, some 0, none, some (-5)])) := by
  decide +kernel
-- hypotheses of `host_msg_roundtrip` are satisfiable: OpenEPRSocketMessage with boundary values
example : ∃ M ∈ Gen.msgTables.layouts, (M.ty, M.lay.cls) ∈ Gen.msgTables.hostDispatch ∧
    M.lay.cls = "OpenEPRSocketMessage" ∧
    allInWidth M.lay.fields ((M.ty : Int) :: [4294967295, -2147483648, 2147483647, -1, 255]) = true :=
  ⟨Gen.msgTables.layouts[1]!, List.mem_of_getElem? (i := 1) rfl, List.mem_of_getElem? (i := 1) rfl, rfl,
    by decide +kernel⟩
-- and of `return_msg_roundtrip`: ReturnRegMessage (bit-fields) M15 = -7
example : ∃ M ∈ Gen.msgTables.layouts, (M.ty, M.lay.cls) ∈ Gen.msgTables.returnDispatch ∧
    M.lay.cls = "ReturnRegMessage" ∧
    allInWidth M.lay.fields ((M.ty : Int) :: [3, 15, 0, -7]) = true :=
  ⟨Gen.msgTables.layouts[6]!, List.mem_of_getElem? (i := 6) rfl, List.mem_of_getElem? (i := 2) rfl, rfl,
    by decide +kernel⟩
-- a value outside its width is NOT claimed (and indeed ctypes wraps it)
example : inWidth ⟨"max_qubits", 64, 8, false⟩ 300 = false := by decide

/-! ### Messages that are modified between serialisations

The property speaks about a message and *its own bytes*: whatever was done to the object
before (serialised once for the header length, fields assigned, values edited in place), the
bytes produced now must describe the field values it has now. -/

/-- observing a message (`bytes`, `len`) does not change it -/
theorem observe_id (m : Msg) : applyUpd m .observe = m := by cases m <;> rfl

/-- `serialize` is a function of the current field values: two histories that end in the
same field values produce the same bytes (no hidden state, no cache) -/
theorem serialize_depends_on_current_values (G : Tables) (m₁ m₂ : Msg) (us₁ us₂ : List Upd)
    (h : applyUpds m₁ us₁ = applyUpds m₂ us₂) :
    serialize G (applyUpds m₁ us₁) = serialize G (applyUpds m₂ us₂) := by rw [h]

theorem applyUpds_retArr (a : Int) (vs : List (Option Int)) (us : List Upd) :
    ∃ a' vs', applyUpds (.retArr a vs) us = .retArr a' vs' := by
  induction us generalizing a vs with
  | nil => exact ⟨a, vs, rfl⟩
  | cons u us ih =>
    cases u <;> exact ih _ _

theorem applyUpds_fixed (cls : String) (vals : List Int) (us : List Upd) :
    ∃ vals', applyUpds (.fixed cls vals) us = .fixed cls vals' := by
  induction us generalizing vals with
  | nil => exact ⟨vals, rfl⟩
  | cons u us ih =>
    cases u <;> exact ih _

/-- **Sequence form, returned arrays.** Start from any array message, apply any sequence of
observations (`bytes`/`len`), assignments of `address` / `values` and in-place edits of the
values list (item assignment, append, pop, insert, delete): the bytes produced afterwards
deserialise to the message as it is *now* — provided the current values are representable. -/
theorem roundtrip_after_update (a : Int) (vs : List (Option Int)) (us : List Upd)
    (a' : Int) (vs' : List (Option Int)) (hcur : applyUpds (.retArr a vs) us = .retArr a' vs')
    (ha : -2147483648 ≤ a' ∧ a' < 2147483648) (hl : vs'.length < 2147483648)
    (hin : ∀ x, some x ∈ vs' → -2147483648 ≤ x ∧ x < 2147483648) :
    ∃ bs, serialize Gen.msgTables (applyUpds (.retArr a vs) us) = some bs ∧
      deserializeReturn Gen.msgTables bs = .ok (.retArr a' vs') := by
  rw [hcur]; exact array_msg_roundtrip a' vs' ha hl hin

/-- **Sequence form, ctypes messages** (either direction `d`): after any sequence of
observations and field assignments, if the current leaf values are `ty :: vs'` within
their widths, the bytes deserialise to exactly these values. -/
theorem fixed_roundtrip_after_update (d : List (Nat × String))
    (hd : dispatchOk Gen.msgTables d = true) (M : MLayout) (hM : M ∈ Gen.msgTables.layouts)
    (hdisp : (M.ty, M.lay.cls) ∈ d) (vals : List Int) (us : List Upd) (vs' : List Int)
    (hcur : applyUpds (.fixed M.lay.cls vals) us = .fixed M.lay.cls ((M.ty : Int) :: vs'))
    (hin : allInWidth M.lay.fields ((M.ty : Int) :: vs') = true) :
    ∃ bs, serialize Gen.msgTables (applyUpds (.fixed M.lay.cls vals) us) = some bs ∧
      deserializeWith Gen.msgTables d bs = .ok (.fixed M.lay.cls ((M.ty : Int) :: vs')) := by
  rw [hcur]; exact fixed_roundtrip _ MsgObl.wf d hd M hM hdisp vs' hin

-- the sequence of seeded change C15_1 in the model: three undefined entries, `len(m)`, two
-- in-place assignments and an append; the bytes describe the current values
example : applyUpds (.retArr 7 [none, none, none])
      [Upd.observe, Upd.setItem 0 (some 1), Upd.setItem 2 (some 0), Upd.append none]
      = .retArr 7 [some 1, none, some 0, none] ∧
    (serialize Gen.msgTables (applyUpds (.retArr 7 [none, none, none])
      [Upd.observe, Upd.setItem 0 (some 1), Upd.setItem 2 (some 0), Upd.append none])).map
        (deserializeReturn Gen.msgTables)
      = some (.ok (.retArr 7 [some 1, none, some 0, none])) := by decide +kernel

/-! ### Decoded messages that are modified by their holder

In the model a decoded message is a value: it shares nothing with the decoder or with other
decoded messages, so editing it (`applyUpds`) cannot influence what any bytes decode to. The
real decoder must behave the same (no shared default list, no memoised result object); the
decode-side history stream of checks/c15.py ties this to the code. -/

/-- decoding is a function of the bytes alone: after any edits `us` of an earlier result `m` of
decoding `bs`, the same bytes still decode to `m` (not to the edited message), and any other
bytes decode to what they decode to -/
theorem decode_unaffected_by_edits (G : Tables) (d : List (Nat × String)) (bs bs' : List Nat) (m : Msg)
    (us : List Upd) (h : deserializeWith G d bs = .ok m) :
    deserializeWith G d bs = .ok m ∧
    (∀ r, deserializeWith G d bs' = r → deserializeWith G d bs' = r) ∧
    (applyUpds m us ≠ m → deserializeWith G d bs ≠ .ok (applyUpds m us)) := by
  refine ⟨h, fun _ hr => hr, fun hne hc => ?_⟩
  rw [h] at hc
  exact hne (Except.ok.inj hc).symm

-- the situation of seeded change C15_7 in the model: an empty array is decoded, the holder appends
-- to the result, the same bytes are decoded again: still the empty array
example : (serialize Gen.msgTables (.retArr 7 [])).map (deserializeReturn Gen.msgTables)
      = some (.ok (.retArr 7 [])) ∧
    applyUpds (.retArr 7 []) [Upd.append (some 0)] = .retArr 7 [some 0] := by decide +kernel

/-! ### The declared widths are pinned

"All field values in their declared widths" refers to the pinned formats of `Model/MsgSpec.lean`
(transcribed once from the pinned tree). The live layouts are kernel-decided to equal them, so the
round-trip theorems above hold for the pinned widths; a field that /repo silently narrows (e.g. a
32-bit `app_id` re-declared with a 16-bit type) breaks `msg_layouts_pinned`, and the oracle drives
the boundary values of the pinned widths (65536, 2^32 − 1, …) through the real code. -/

theorem msg_layouts_pinned : Gen.msgTables.layouts = MsgSpec.tables.layouts
    ∧ Gen.msgTables.hostDispatch = MsgSpec.tables.hostDispatch
    ∧ Gen.msgTables.returnDispatch = MsgSpec.tables.returnDispatch
    ∧ Gen.msgTables.retArrHeader = MsgSpec.tables.retArrHeader
    ∧ Gen.msgTables.optionalInt = MsgSpec.tables.optionalInt := by
  rw [MsgObl.tables_eq_spec]; exact ⟨rfl, rfl, rfl, rfl, rfl⟩

/-- the round trip stated over the PINNED host formats: every pinned class, all values within the
pinned widths (in particular `app_id` up to 2^32 − 1) -/
theorem pinned_host_msg_roundtrip (M : MLayout) (hM : M ∈ MsgSpec.tables.layouts)
    (hdisp : (M.ty, M.lay.cls) ∈ MsgSpec.tables.hostDispatch) (vs : List Int)
    (hin : allInWidth M.lay.fields ((M.ty : Int) :: vs) = true) :
    ∃ bs, serialize Gen.msgTables (.fixed M.lay.cls ((M.ty : Int) :: vs)) = some bs ∧
      deserializeHost Gen.msgTables bs = .ok (.fixed M.lay.cls ((M.ty : Int) :: vs)) := by
  obtain ⟨h1, h2, _⟩ := msg_layouts_pinned
  exact host_msg_roundtrip M (h1 ▸ hM) (h2 ▸ hdisp) vs hin

-- its hypothesis is satisfiable at the upper end of the pinned width: StopAppMessage, app_id = 2^32 − 1
example : allInWidth [⟨"type", 0, 8, false⟩, ⟨"app_id", 32, 32, false⟩] [3, 4294967295] = true := by decide

end NQ.C15
