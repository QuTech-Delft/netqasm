/-
C18 — Thread sockets deliver every message once and in order under any schedule.

Model: `Model/Hub.lean` — the socket hub AFTER the fix of F20, one transition per source line that
touches shared state.  Every theorem below quantifies over `Reachable progs s`: ANY number of
endpoint threads, ANY programs (`progs`), EVERY interleaving of the atomic steps.

A directed channel is identified by the RECEIVER's key `k = (node, remote node, socket id)`; the
sender works on `rkey k`.  `sent`/`delivered` are history variables (linearisation points: the
`append` under the lock / the callback invocation, and the `pop(0)` / the callback invocation).

PARTIAL, labelled: granularity is one source line (not bytecode / C level); timeouts, `sleep`,
GC-driven `__del__` and dead `WeakMethod`s are not modelled; one thread per endpoint.
`callback_inv` is stated for callback keys that are never disconnected and never connected without
callbacks (`CbOnlyProg`); for plain keys the statements are unconditional: any number of socket ids per
pair (keys are arbitrary triples), any payloads (messages are abstract identities, so plain, structured
and falsy payloads such as "" are all covered), any disconnect–reconnect history.
-/
import NetqasmVerif.Lemmas.Hub
import NetqasmVerif.Model.ThreadSocket
namespace NQ.C18
open NQ.Hub NQ.TSock

/-- the queue path of EVERY key under EVERY program: what was appended = what was popped ++ what is queued;
and the owner's `recv` results are exactly the popped sequence (exactly once, FIFO, across reconnects) -/
theorem queue_path_fifo (progs : List (List Op)) (s : State) (k : Key) (h : Reachable progs s) :
    s.queued k = s.popped k ++ s.msgs k ∧ gotOf k (s.threads k.1).res = s.popped k := by
  have := hist_reachable progs s k h
  exact ⟨this.queue, this.got⟩

/-- a channel whose owner never registers a callback carries all its traffic on the queue path, so the results of
its owner are the delivered sequence -/
theorem plain_got (progs : List (List Op)) (s : State) (k : Key) (h : Reachable progs s)
    (hk : ∀ t, NoCbProg t k (progs.getD t [])) :
    PlainInv k s ∧ gotOf k (s.threads k.1).res = s.delivered k := by
  have hp : PlainInv k s := by
    induction h with
    | init => exact plainInv_init k progs hk
    | step s s' tid _ hs ih => exact plainInv_step k s s' tid ih hs
  exact ⟨hp, hp.path.2 ▸ (queue_path_fifo progs s k h).2⟩

/-- `chan_inv`: for every channel whose owner never registers a callback, in every reachable state,
`sent = delivered ++ queue`. -/
theorem chan_inv (progs : List (List Op)) (s : State) (k : Key) (h : Reachable progs s)
    (hk : ∀ t, NoCbProg t k (progs.getD t [])) : s.sent k = s.delivered k ++ s.msgs k := by
  obtain ⟨e1, e2⟩ := (plain_got progs s k h hk).1.path
  rw [e1, e2]; exact (queue_path_fifo progs s k h).1

/-- exactly once, in order, per direction and socket id: what the receiving endpoint's `recv` calls
have returned so far (oldest first) followed by what is still queued IS the sequence sent so far. -/
theorem exactly_once_fifo (progs : List (List Op)) (s : State) (k : Key) (h : Reachable progs s)
    (hk : ∀ t, NoCbProg t k (progs.getD t [])) :
    s.sent k = gotOf k (s.threads k.1).res ++ s.msgs k :=
  (plain_got progs s k h hk).2 ▸ chan_inv progs s k h hk

/-- `no_stale`: the received sequence is a prefix of the sent sequence — the i-th message returned is
the i-th message sent, so a popped message is never returned again and none is skipped. -/
theorem no_stale (progs : List (List Op)) (s : State) (k : Key) (h : Reachable progs s)
    (hk : ∀ t, NoCbProg t k (progs.getD t [])) :
    gotOf k (s.threads k.1).res <+: s.sent k :=
  ⟨s.msgs k, (exactly_once_fifo progs s k h hk).symm⟩

/-- a `recv` that reaches its `pop(0)` returns the HEAD of the queue, removes exactly it, and the
queue is never empty at that point (the check-then-pop race cannot happen: one popper per key). -/
theorem recv_returns_head (progs : List (List Op)) (s : State) (tid : Nat) (k : Key) (tag : Nat)
    (h : Reachable progs s) (hpc : (s.threads tid).pc = .rPop k tag) :
    ∃ m q s', s.msgs k = m :: q ∧ step s tid = some s' ∧ s'.msgs k = q ∧
      s'.delivered k = s.delivered k ++ [m] ∧
      (s'.threads tid).res = (s.threads tid).res ++ [.got k m tag] := by
  have hne := (baseInv_reachable progs s h).pop tid k tag (Or.inr hpc)
  cases hq : s.msgs k with
  | nil => exact absurd hq hne
  | cons m q =>
    exact ⟨m, q, _, rfl, (Step.rPop k tag m q hq).sound hpc, upd_same .., upd_same .., by simp [Cont.run]⟩

/-- `pop(0)` on an empty list (IndexError) never happens -/
theorem pop_never_crashes (progs : List (List Op)) (s : State) (h : Reachable progs s) :
    ∀ t k, Res.crash k ∉ (s.threads t).res := (baseInv_reachable progs s h).nocrash

/-- `recv_nonblock_empty`: a non-blocking `recv` that finds the queue empty reports emptiness and
changes nothing in the shared state. -/
theorem recv_nonblock_empty (s : State) (tid : Nat) (k : Key) (tag : Nat)
    (hpc : (s.threads tid).pc = .rLen k .nb tag) (hq : s.msgs k = []) :
    ∃ s', step s tid = some s' ∧ (s'.threads tid).res = (s.threads tid).res ++ [.empty k] ∧
      s'.msgs = s.msgs ∧ s'.sent = s.sent ∧ s'.delivered = s.delivered ∧ s'.open_ = s.open_ ∧
      s'.remote = s.remote ∧ s'.recvCbs = s.recvCbs ∧ s'.lostCbs = s.lostCbs ∧ s'.lock = s.lock ∧
      s'.cbStore = s.cbStore := by
  exact ⟨_, (Step.rLenNb k tag hq).sound hpc, by simp [Cont.run], rfl, rfl, rfl, rfl, rfl, rfl, rfl, rfl, rfl⟩

/-- a `recv` (blocking or not) that finds a message queued goes on to pop it (it does not report
emptiness and does not loop) -/
theorem recv_nonblock_nonempty (s : State) (tid : Nat) (k : Key) (b : RMode) (tag : Nat)
    (hpc : (s.threads tid).pc = .rLen k b tag) (hq : s.msgs k ≠ []) :
    ∃ s', step s tid = some s' ∧ (s'.threads tid).pc = .rLock2 k tag ∧ s'.msgs = s.msgs := by
  cases hm : s.msgs k with
  | nil => exact absurd hm hq
  | cons m q =>
    exact ⟨_, (Step.rLenSome k b tag m q hm).sound hpc, by simp, rfl⟩

/-- the lock is held exactly by the thread that is inside a `with self._lock` block; hence at most
one thread is inside such a block -/
theorem lock_inv (progs : List (List Op)) (s : State) (h : Reachable progs s) :
    (∀ t, holding (s.threads t).pc = true ↔ s.lock = some t) ∧
    (∀ t t', holding (s.threads t).pc = true → holding (s.threads t').pc = true → t = t') := by
  have hl := (baseInv_reachable progs s h).lock
  refine ⟨hl, ?_⟩
  intro t t' h1 h2
  have e1 := (hl t).mp h1
  have e2 := (hl t').mp h2
  rw [e1] at e2; injection e2

/-- publication invariant behind the rendezvous: a key that was ever added to `_open_sockets` is still
in `_open_sockets` (its owner is between the two `add`s), or in `_remote_sockets`, or the peer has
removed it from there in its own `disconnect`. -/
theorem rendezvous_inv (progs : List (List Op)) (s : State) (k : Key) (h : Reachable progs s)
    (he : s.everOpen k = true) : s.open_ k = true ∨ s.remote k = true ∨ s.remRemoved k = true := by
  have b := baseInv_reachable progs s h
  exact (b.pub2 k he).imp_left fun ⟨t, ht⟩ => b.pub1 t k ht

inductive OtherSteps (tid : Nat) : State → State → Prop
  | refl (s : State) : OtherSteps tid s s
  | step (s s' s'' : State) (t : Nat) (ht : t ≠ tid) (h1 : OtherSteps tid s s') (h2 : step s' t = some s'') :
      OtherSteps tid s s''

/-- only the `disconnect` of `k`, which its owner `tid` runs, removes `rkey k` from `_remote_sockets`: steps of
other threads keep it there, and they leave the thread state of `tid` alone -/
theorem rendezvous_stable (progs : List (List Op)) (s s' : State) (tid : Nat) (k : Key)
    (h : Reachable progs s) (hown : k.1 = tid) (ho : OtherSteps tid s s') :
    Reachable progs s' ∧ s'.threads tid = s.threads tid ∧
    (s.remote (rkey k) = true → s'.remote (rkey k) = true) := by
  induction ho with
  | refl => exact ⟨h, rfl, id⟩
  | step s' s'' t ht _ h2 ih =>
    obtain ⟨hr, hth, hrem⟩ := ih
    refine ⟨.step s' s'' t hr h2, (step_others h2 (Ne.symm ht)).trans hth, fun h0 => ?_⟩
    obtain ⟨pc, S, c, hpc, hst, rfl⟩ := step_spec h2
    exact hst.remote_keep k (fun e => ht (((baseInv_reachable progs s' hr).own t k (hpc ▸ e)).symm.trans hown))
      (hrem h0)

/-- `rendezvous`: thread `tid` is in `_wait_for_remote` for its key `k` (about to test
`remote_key in _open_sockets`); the peer has executed `open.add` at some time before (`everOpen`) and
`tid` itself has not disconnected that socket (`¬ remRemoved`).  Then — whichever side started first,
whatever the other threads do in between, also when the peer has already disconnected — `connect`
returns at this test or at the very next one (`remote_key in _remote_sockets`). -/
theorem rendezvous (progs : List (List Op)) (s s1 s2 : State) (tid : Nat) (k : Key)
    (h : Reachable progs s) (hpc : (s.threads tid).pc = .cWaitOpen k)
    (he : s.everOpen (rkey k) = true) (hnr : s.remRemoved (rkey k) = false)
    (h1 : step s tid = some s1) (ho : OtherSteps tid s1 s2) :
    (s1.threads tid).res = (s.threads tid).res ++ [.connected k] ∨
    ∃ s3, step s2 tid = some s3 ∧ (s3.threads tid).res = (s.threads tid).res ++ [.connected k] := by
  have hown : k.1 = tid := (baseInv_reachable progs s h).own tid k (by rw [hpc]; rfl)
  have hr1 := Reachable.step s s1 tid h h1
  obtain ⟨pc, S, c, hpc', hst, rfl⟩ := step_spec h1
  rw [hpc] at hpc'; subst hpc'
  cases hst with
  | cWaitOpenT _ _ => exact .inl (by simp [Cont.run])
  | cWaitOpenF _ hopen =>
    right
    have hrem : s.remote (rkey k) = true := by
      rcases rendezvous_inv progs s (rkey k) h he with h' | h' | h'
      · exact absurd h' hopen
      · exact h'
      · rw [hnr] at h'; cases h'
    obtain ⟨_, hth, hrem2⟩ := rendezvous_stable progs _ s2 tid k hr1 hown ho
    exact ⟨_, (Step.cWaitRemoteT k (hrem2 hrem)).sound (by rw [hth]; simp [Cont.run]), by simp [hth, Cont.run]⟩

theorem cbInv_reachable (progs : List (List Op)) (s : State) (k : Key) (h : Reachable progs s)
    (hk : ∀ t, CbOnlyProg t k (progs.getD t [])) : CbInv k s := by
  induction h with
  | init => exact cbInv_init k progs hk
  | step s s' tid _ hs ih => exact cbInv_step k s s' tid ih hs

/-- after the fix of F20: a callback key that is visible in `_open_sockets` has its callback
registered (for keys that are only connected with callbacks and not disconnected). -/
theorem callback_registered_while_open (progs : List (List Op)) (s : State) (k : Key)
    (h : Reachable progs s) (hk : ∀ t, CbOnlyProg t k (progs.getD t [])) :
    s.open_ k = true → s.recvCbs k = true :=
  (cbInv_reachable progs s k h hk).opn

/-- `callback_inv`: callback delivery sees exactly the sent sequence, nothing is ever queued for such a
key (the situation of F20 — a message in the queue that the callback never sees — is unreachable). -/
theorem callback_inv (progs : List (List Op)) (s : State) (k : Key)
    (h : Reachable progs s) (hk : ∀ t, CbOnlyProg t k (progs.getD t [])) :
    s.cbStore k = s.sent k ∧ s.delivered k = s.sent k ∧ s.msgs k = [] :=
  have inv := cbInv_reachable progs s k h hk
  ⟨inv.seq.1.symm, inv.seq.2.trans inv.seq.1.symm, inv.emp⟩

def lastState (s : State) (l : List (State × Bool)) : State := (l.getLast?.map (·.1)).getD s

/-! ### Keys of ANY history: callback and plain incarnations, disconnects, reconnects

For a key that alternates between callback and plain incarnations the GLOBAL identity
`sent = delivered ++ queue` is false of the code (`mixed_key_not_globally_fifo`): a message queued for an
incarnation that closed without receiving it stays in `_messages[key]`; a later CALLBACK incarnation never
sees it (its callback gets only what is sent from then on), a later PLAIN incarnation pops it first.
What is true for every program is the statement per delivery path (`queue_path_fifo`, `paths_partition`) plus
the fact that the path a message takes is the one of the incarnation that is open (`callback_matches_incarnation`,
`send_path_matches_incarnation`) — the last one is what a `disconnect` that forgets to unregister would break. -/

/-- every sent message went to exactly one of the two paths, each path keeps the sending order -/
theorem paths_partition (progs : List (List Op)) (s : State) (k : Key) (h : Reachable progs s) :
    Shuffle (s.queued k) (s.cbStore k) (s.sent k) :=
  (hist_reachable progs s k h).paths

/-- `callback_matches_incarnation`: for a key whose owner never connects it twice without a disconnect in
between (any number of incarnations, callback or plain in any order, disconnect at any time): whenever the
key is visible in `_open_sockets`, a recv callback is registered for it IF AND ONLY IF the incarnation that
published it uses callbacks. -/
theorem callback_matches_incarnation (progs : List (List Op)) (s : State) (k : Key) (h : Reachable progs s)
    (hk : LifeOk k.1 k false (progs.getD k.1 [])) :
    ModeInv k s ∧ (s.open_ k = true → s.recvCbs k = s.cbMode k) := by
  have : ModeInv k s := by
    induction h with
    | init => exact modeInv_init k progs hk
    | step s s' tid hr hs ih => exact modeInv_step k s s' tid (baseInv_reachable progs s hr).own ih hs
  exact ⟨this, this.mode⟩

/-- a `send` that looks up the callback while the receiving key is open takes the callback path exactly when
the open incarnation is a callback socket, and the queue path exactly when it is plain -/
theorem send_path_matches_incarnation (progs : List (List Op)) (s : State) (tid : Nat) (k0 : Key) (m : Msg)
    (more : List Nat)
    (h : Reachable progs s) (hk : LifeOk (rkey k0).1 (rkey k0) false (progs.getD (rkey k0).1 []))
    (hpc : (s.threads tid).pc = .sCb k0 m more) (hopen : s.open_ (rkey k0) = true) :
    ∃ s', step s tid = some s' ∧
      (s'.threads tid).pc = (if s.cbMode (rkey k0) then .sCall k0 m more else .sLock k0 m more) := by
  have hm := (callback_matches_incarnation progs s (rkey k0) h hk).2 hopen
  cases hc : s.cbMode (rkey k0) with
  | true =>
    rw [hc] at hm
    exact ⟨_, (Step.sCbT k0 m more hm).sound hpc, by simp⟩
  | false =>
    rw [hc] at hm
    exact ⟨_, (Step.sCbF k0 m more (hm ▸ Bool.false_ne_true)).sound hpc, by simp⟩

def mixedProgs : List (List Op) :=
  [[.connect 1 0 false, .send 1 0 1 [], .send 1 0 2 []],
   [.connect 0 0 false, .disconnect 0 0, .connect 0 0 true]]

/-- the global identity fails for a key that is first plain, then (after a disconnect) a callback socket:
m1 was queued for the plain incarnation, which closed without receiving it; m2 reaches the callback of the
second incarnation; `sent = [1, 2]`, `delivered = [2]`, queue `[1]`.  (Lock-step checked on the real hub.) -/
theorem mixed_key_not_globally_fifo :
    let run := runSched (init mixedProgs)
      [0, 0, 1, 1, 1, 0, 0, 0, 0, 0, 1, 1, 1, 1, 1, 1, 1, 1, 1, 1, 1, 1, 1, 0, 0, 0]
    let s := lastState (init mixedProgs) run
    run.all (·.2) = true ∧ s.sent (1, 0, 0) = [1, 2] ∧ s.delivered (1, 0, 0) = [2] ∧ s.msgs (1, 0, 0) = [1] ∧
    s.cbStore (1, 0, 0) = [2] ∧ s.sent (1, 0, 0) ≠ s.delivered (1, 0, 0) ++ s.msgs (1, 0, 0) := by decide

/-- these programs satisfy the hypothesis of `callback_matches_incarnation` for the alternating key -/
example : LifeOk 1 (1, 0, 0) false (mixedProgs.getD 1 []) := by
  simp [mixedProgs, LifeOk]

/-! ### The socket layer (`ThreadSocket`) and the broadcast channel on top of the hub

`Model/ThreadSocket.lean`: every socket-level call is a short program of hub operations (`compile`) and a local
view of the hub outcome (`view`).  The theorems below are about programs written in socket-level operations
(`sprogs`), run on the hub transition system through `compileProg`, under every interleaving. -/

/-- `send_snapshots_value`: the value a receiver gets is the value the message had AT THE SEND ACTION, whatever the
sender does to its message object afterwards.  In the model a socket-level send carries the value (`sendStructured
rn id h p` = `json.dumps` at call time, an immutable string) and no step rewrites a stored one: a queue grows at its
tail by the value in the sender's program counter and shrinks at its head; a callback store only grows at its tail.
(That the real code takes this snapshot, and does not share one mutable object between sender, queue and receiver,
is what the `value_snapshot_histories` stream of the harness checks on the real sockets.) -/
theorem send_snapshots_value (k : Key) (s s' : State) (tid : Nat) (h : step s tid = some s') :
    (s'.msgs k = s.msgs k ∨ (∃ m more k0, (s.threads tid).pc = .sAppend k0 m more ∧ s'.msgs k = s.msgs k ++ [m]) ∨
      (∃ m, s.msgs k = m :: s'.msgs k)) ∧
    (s'.cbStore k = s.cbStore k ∨
      (∃ m more k0, (s.threads tid).pc = .sCall k0 m more ∧ s'.cbStore k = s.cbStore k ++ [m])) := by
  obtain ⟨pc, S, c, hpc, hst, rfl⟩ := step_spec h
  obtain ⟨_, e1, _, _, _, e2, _⟩ := hst.delta k
  rw [msgs_setThread, cbStore_setThread, e1]
  cases pc with
  | sAppend k0 m more =>
    refine ⟨?_, .inl (List.append_nil _)⟩
    by_cases e : rkey k0 = k
    · exact .inr (.inl ⟨m, more, k0, hpc, by simpa [queuedBy, poppedBy, e] using e2.symm⟩)
    · exact .inl (by simpa [queuedBy, poppedBy, e] using e2.symm)
  | sCall k0 m more =>
    refine ⟨.inl ((List.append_nil _).symm.trans e2).symm, ?_⟩
    by_cases e : rkey k0 = k
    · exact .inr ⟨m, more, k0, hpc, by simp [calledBy, e]⟩
    · exact .inl (by simp [calledBy, e])
  | rPop k0 tag =>
    refine ⟨?_, .inl (List.append_nil _)⟩
    by_cases e : k0 = k
    · cases hm : s.msgs k with
      | nil => exact .inl (by simpa [queuedBy, poppedBy, e, hm] using e2.symm)
      | cons m q => exact .inr (.inr ⟨m, by simpa [queuedBy, poppedBy, e, hm] using e2⟩)
    · exact .inl (by simpa [queuedBy, poppedBy, e] using e2.symm)
  | _ => exact ⟨.inl ((List.append_nil _).symm.trans e2).symm, .inl (List.append_nil _)⟩

/-- `structured_roundtrip`: what `recv_structured` returns for a message produced by `send_structured` is that
message; `recv` returns a string as it was sent; and in every case the returned value determines the wire
(nothing is lost or altered by the (de)serialisation — a string that is no JSON message is reported as such) -/
theorem structured_roundtrip (k : Key) :
    (∀ h p, view (.got k (enc (.structured h p)) 1) = .gotStructured k h p) ∧
    (∀ w, view (.got k (enc (.str w)) 0) = .gotStr k w) ∧
    (∀ w tag, wireOfView (view (.got k w tag)) = some w) := by
  refine ⟨fun h p => rfl, fun w => rfl, ?_⟩
  intro w tag
  simp only [view]
  split
  · cases w <;> simp [dec, wireOfView]
  · rfl

theorem recvWires_eq_gotOf (k : Key) (rs : List Res) : recvWires k rs = gotOf k rs := by
  unfold recvWires gotOf
  congr 1
  funext r
  cases r <;> simp only [gotSel]
  rename_i k' w tag
  split
  · exact (structured_roundtrip k').2.2 w tag
  · rfl

/-- for EVERY key and program: the channel history is exactly what the sender's socket-level sends report -/
theorem sent_results (progs : List (List Op)) (s : State) (k : Key) (h : Reachable progs s) :
    s.sent (rkey k) = sentOf k (s.threads k.1).res :=
  (hist_reachable progs s k h).sent

theorem compile_noCb (t : Nat) (k : Key) (sp : List SOp)
    (h : ∀ rn id, SOp.connect rn id true ∈ sp → (t, rn, id) ≠ k) : NoCbProg t k (compileProg sp) := by
  intro rn id hm
  unfold compileProg at hm
  obtain ⟨sop, hs, hc⟩ := List.mem_flatMap.mp hm
  cases sop with
  | connect rn' id' cb =>
    simp only [compile, List.mem_singleton, Op.connect.injEq] at hc
    obtain ⟨rfl, rfl, rfl⟩ := hc
    exact h rn id hs
  | brecv r rs id' b => cases b <;> simp [compile] at hc
  | _ => simp [compile] at hc

/-- `socket_exactly_once_fifo`: endpoints written in socket-level operations (plain and structured sends and
receives mixed, broadcast sends and polls included), any number of them, every interleaving.  For a key `k`
that is never opened with callbacks: the values returned so far by the receiving endpoint's receive calls on `k`
(in program order, each standing for its wire: `structured_roundtrip`), followed by what is still queued, are
exactly the wires of the peer's completed socket-level sends on that socket, in sending order.  The receive
vocabulary is everything that ends in `_SocketHub.recv`: `recv`, `recv_silent`, `recv_structured`, the blocking
broadcast receive (poll) and the non-blocking one (one round). -/
theorem socket_exactly_once_fifo (sprogs : List (List SOp)) (s : State) (k : Key)
    (h : Reachable (sprogs.map compileProg) s)
    (hk : ∀ t rn id, SOp.connect rn id true ∈ sprogs.getD t [] → (t, rn, id) ≠ k) :
    recvWires k (s.threads k.1).res ++ s.msgs k = sentOf (rkey k) (s.threads (rkey k).1).res := by
  have hno : ∀ t, NoCbProg t k ((sprogs.map compileProg).getD t []) := by
    intro t
    have : (sprogs.map compileProg).getD t [] = compileProg (sprogs.getD t []) := by
      simp only [List.getD_eq_getElem?_getD, List.getElem?_map]
      cases sprogs[t]? <;> simp [compileProg]
    rw [this]
    exact compile_noCb t k _ (hk t)
  have h1 := exactly_once_fifo _ s k h hno
  have h2 := sent_results _ s (rkey k) h
  rw [rkey_rkey] at h2
  rw [recvWires_eq_gotOf, ← h1, h2]

/-- the same for keys of ANY history (callbacks, reconnects): the queue path alone -/
theorem socket_queue_path (sprogs : List (List SOp)) (s : State) (k : Key)
    (h : Reachable (sprogs.map compileProg) s) :
    recvWires k (s.threads k.1).res ++ s.msgs k = s.queued k := by
  have := queue_path_fifo _ s k h
  rw [recvWires_eq_gotOf, this.2, this.1]

/-- one remote of a (broadcast) send: the hand-over step appends the message exactly once to exactly that
remote's channel, records it in the sender's results, and goes on with the NEXT remote of the list (or completes
the operation when the list is exhausted) -/
theorem bsend_progress (s : State) (tid : Nat) (k : Key) (m : Msg) (more : List Nat)
    (hpc : (s.threads tid).pc = .sCall k m more ∨ (s.threads tid).pc = .sAppend k m more) :
    ∃ s', step s tid = some s' ∧
      s'.sent (rkey k) = s.sent (rkey k) ++ [m] ∧ (∀ k2, k2 ≠ rkey k → s'.sent k2 = s.sent k2) ∧
      (s'.threads tid).res = (s.threads tid).res ++ [.sent k m] ∧
      (∀ r rs, more = r :: rs → (s'.threads tid).pc = .sCheck (k.1, r, k.2.2) m rs) := by
  -- the position and `more` determine the line: `sCallLast`, `sCallNext`, `sAppendLast` or `sAppendNext`
  rcases hpc with hpc | hpc <;> cases more <;>
    refine ⟨_, Step.sound (by constructor) hpc, by simp [upd, afterCall, afterAppend],
      fun k2 h2 => by simp [upd, afterCall, afterAppend, h2], by simp [Cont.run], fun r rs h => ?_⟩ <;>
    cases h <;> simp

/-- a broadcast stops at the first remote that is not connected: nothing is appended, the remaining remotes
are not served (ConnectionError propagates out of `BroadcastChannel.send`) -/
theorem bsend_abort (s : State) (tid : Nat) (k : Key) (m : Msg) (more : List Nat)
    (hpc : (s.threads tid).pc = .sCheck k m more) (hc : (s.open_ k && s.open_ (rkey k)) = false) :
    ∃ s', step s tid = some s' ∧ s'.sent = s.sent ∧ s'.msgs = s.msgs ∧
      (s'.threads tid).res = (s.threads tid).res ++ [.connErr k m] := by
  exact ⟨_, (Step.sCheckF k m more (hc ▸ Bool.false_ne_true)).sound hpc, rfl, rfl, by simp [Cont.run]⟩

/-- `broadcast_delivers_each_once`, three endpoints, every one broadcasting to the other two and polling:
(kernel-decided run of the compiled socket-level programs) each remote's channel got the broadcast exactly
once, and what `recv` returned per sender is in that sender's sending order. The general statements are
`bsend_progress` (one append per remote, in list order), `sent_results` (the channel history IS the sender's
results) and `socket_exactly_once_fifo` per (receiver, sender) key — poll results included. -/
theorem broadcast_delivers_each_once :
    let sprogs : List (List SOp) :=
      [[.connect 1 0 false, .connect 2 0 false, .bsend 1 [2] 0 10, .bsend 1 [2] 0 11],
       [.connect 0 0 false, .connect 2 0 false, .brecv 0 [2] 0 true, .brecv 0 [2] 0 true],
       [.connect 0 0 false, .connect 1 0 false, .brecv 0 [1] 0 true, .bsend 0 [1] 0 20, .brecv 0 [1] 0 true]]
    let progs := sprogs.map compileProg
    let run := runSched (init progs) ((List.replicate 60 [0, 1, 2]).flatten)
    let s := lastState (init progs) run
    s.sent (1, 0, 0) = [10, 11] ∧ s.sent (2, 0, 0) = [10, 11] ∧ s.sent (0, 2, 0) = [20] ∧ s.sent (1, 2, 0) = [20] ∧
    recvWires (1, 0, 0) (s.threads 1).res = [10, 11] ∧ recvWires (2, 0, 0) (s.threads 2).res = [10, 11] := by
  decide

/-- `broadcast_recv_nonblocking_one_round` (the code after the fix of F48): a non-blocking broadcast receive is
ONE round of non-blocking receives over the remotes in list order.  On an empty socket it goes on with the next
remote of the list and, after the last one, reports emptiness without changing the shared state; on a socket
with a message it pops that message (`recv_nonblock_nonempty`, `recv_returns_head`: the head, exactly once). -/
theorem broadcast_recv_nonblocking_one_round (r : Nat) (rs : List Nat) (id : Nat) :
    compile (.brecv r rs id false) = [.recv r id (.pollOnce rs) 0] ∧
    (∀ (s : State) (tid : Nat) (k : Key) (tag r' : Nat) (rs' : List Nat),
      (s.threads tid).pc = .rLen k (.pollOnce (r' :: rs')) tag → s.msgs k = [] →
      step s tid = some (setThread s tid (goto (s.threads tid) (.rLock (k.1, r', k.2.2) (.pollOnce rs') tag)))) ∧
    (∀ (s : State) (tid : Nat) (k : Key) (tag : Nat),
      (s.threads tid).pc = .rLen k (.pollOnce []) tag → s.msgs k = [] →
      step s tid = some (setThread s tid (advance tid (s.threads tid) (.empty k)))) := by
  refine ⟨rfl, ?_, ?_⟩
  · exact fun s tid k tag r' rs' hpc hq => (Step.rLenOnce k r' rs' tag hq).sound hpc
  · exact fun s tid k tag hpc hq => (Step.rLenOnceNil k tag hq).sound hpc

/-- a non-blocking broadcast receive finds the message of the SECOND remote although the first has none
(kernel-decided run; before the fix of F48 the call raised without looking at any socket) -/
example :
    let sprogs : List (List SOp) :=
      [[.connect 1 0 false, .connect 2 0 false, .brecv 1 [2] 0 false, .brecv 1 [2] 0 false],
       [.connect 0 0 false],
       [.connect 0 0 false, .send 0 0 9]]
    let progs := sprogs.map compileProg
    let run := runSched (init progs) ([2, 1, 0, 2, 1, 0, 2, 1, 0, 2, 1, 0, 2, 2, 2, 2, 2, 2] ++ List.replicate 30 0)
    let s := lastState (init progs) run
    ((s.threads 0).res.map view).filter (fun r => r ≠ .connected (0, 1, 0) ∧ r ≠ .connected (0, 2, 0)) =
      [.gotStr (0, 2, 0) 9, .empty (0, 2, 0)] := by decide

/-- mixed plain / structured traffic through the socket layer (kernel-decided run): the structured message comes
back as (header, payload), the string as a string, in sending order -/
example :
    let sprogs : List (List SOp) :=
      [[.connect 1 0 false, .sendStructured 1 0 7 8, .send 1 0 5, .sendStructured 1 0 1 2],
       [.connect 0 0 false, .recvStructured 0 0 true, .recv 0 0 true, .recv 0 0 true]]
    let progs := sprogs.map compileProg
    let run := runSched (init progs) ((List.replicate 30 [0, 1]).flatten)
    let s := lastState (init progs) run
    ((s.threads 1).res.map view).filter (fun r => (wireOfView r).isSome) =
      [.gotStructured (1, 0, 0) 7 8, .gotStr (1, 0, 0) 5, .gotStr (1, 0, 0) (.json 1 2)] := by decide

def f20Progs : List (List Op) :=
  [[.connect 1 0 false, .send 1 0 1 [], .send 1 0 2 []], [.connect 0 0 true]]

/-- the schedule shape of F20 (B starts connecting, A connects and sends m1, B goes on, A sends m2) -/
def f20Sched : List Nat := [1, 1, 1, 0, 0, 0, 0, 0, 0, 1, 1, 0, 0, 0]

/-- on the fixed code both messages reach the callback, in order, and nothing is queued -/
theorem f20_schedule_fixed :
    (lastState (init f20Progs) (runSched (init f20Progs) f20Sched)).cbStore (1, 0, 0) = [1, 2] ∧
    (lastState (init f20Progs) (runSched (init f20Progs) f20Sched)).msgs (1, 0, 0) = [] ∧
    ((runSched (init f20Progs) f20Sched).all (·.2)) = true := by decide

/-- the hypotheses of `callback_inv` (for B's key) and of `chan_inv` (for A's key) hold for the programs of the
F20 schedule, in whose run messages are actually sent (`f20_schedule_fixed`) -/
example : (∀ t, CbOnlyProg t (1, 0, 0) (f20Progs.getD t [])) ∧ (∀ t, NoCbProg t (0, 1, 0) (f20Progs.getD t [])) := by
  constructor
  · intro t
    match t with
    | 0 => simp [f20Progs, CbOnlyProg]
    | 1 => simp [f20Progs, CbOnlyProg]
    | (n + 2) => simp [f20Progs, CbOnlyProg]
  · intro t
    match t with
    | 0 => simp [f20Progs, NoCbProg]
    | 1 => simp [f20Progs, NoCbProg]
    | (n + 2) => simp [f20Progs, NoCbProg]

/-- a plain exchange: A sends 7 then 8, B receives twice: B's results are [7, 8] in order -/
example :
    let progs : List (List Op) := [[.connect 1 0 false, .send 1 0 7 [], .send 1 0 8 []],
                                   [.connect 0 0 false, .recv 0 0 .blk 0, .recv 0 0 .nb 0]]
    let s := lastState (init progs) (runSched (init progs)
      [0, 0, 1, 1, 1, 0, 0, 0, 0, 0, 0, 0, 0, 0, 1, 1, 1, 1, 1, 1, 1, 1, 1, 1, 1])
    gotOf (1, 0, 0) (s.threads 1).res = [7, 8] ∧ s.sent (1, 0, 0) = [7, 8] := by decide

/-- a disconnect–reconnect history on a plain key (the plain-channel theorems are unconditional, so they
cover it): A connects, sends 7, disconnects, connects the same key again, sends 8; B receives [7, 8];
the hypotheses of `chan_inv`/`exactly_once_fifo` hold for these programs and every step is enabled -/
example :
    let progs : List (List Op) := [[.connect 1 0 false, .send 1 0 7 [], .disconnect 1 0, .connect 1 0 false, .send 1 0 8 []],
                                   [.connect 0 0 false, .recv 0 0 .blk 0, .recv 0 0 .blk 0]]
    let run := runSched (init progs)
      [0, 0, 0, 0, 1, 1, 1, 1, 1, 1, 0, 0, 0, 0, 0, 0, 0, 0, 0, 0, 0, 0, 0, 0, 0, 0, 0, 0, 0, 0,
       1, 1, 1, 1, 1, 1, 1, 1, 1, 1]
    let s := lastState (init progs) run
    gotOf (1, 0, 0) (s.threads 1).res = [7, 8] ∧ s.sent (1, 0, 0) = [7, 8] ∧ run.all (·.2) = true := by decide

example (t : Nat) : NoCbProg t (1, 0, 0)
    ([[Op.connect 1 0 false, .send 1 0 7 [], .disconnect 1 0, .connect 1 0 false, .send 1 0 8 []],
      [.connect 0 0 false, .recv 0 0 .blk 0, .recv 0 0 .blk 0]].getD t []) := by
  intro rn id h
  match t with
  | 0 => simp at h
  | 1 => simp at h
  | (n + 2) => simp at h

end NQ.C18
