/-
Model of `netqasm/sdk/toolbox/state_prep.py : get_angle_spec_from_float` (M9, property C19).

Exact arithmetic only.  Every finite double is a dyadic rational, so the two quantities the loop
works with,
    rest   = (angle % 2π) / π          (a double, in units of π, 0 ≤ rest ≤ 2)
    tol_pi = tol / π                   (a double)
are handed to the model as natural numbers `r`, `t` over one common scale `2^E`:
    rest = r / 2^E ,  tol_pi = t / 2^E .
The three floating-point operations that produce them (`%`, `/`, `/`) happen once, before the loop,
and are OUTSIDE this model (labelled partial in Props/C19).  The loop body itself is exact in
binary64 (n / 2^d is representable, the subtraction is exact), so from there on the code computes
exactly what is written here — except for the rounding of `log2`, which can move the choice of `d`
to a neighbouring *allowed* value; that is why the loop is modelled as a RELATION (`Run`) of which
the exact choice (`dChoice`, `expand`) is one instance.

    while rest > tol_pi:
        d = int(floor(log2(n_max / rest)))          -- dChoice
        n = int(floor(rest * 2**d))                 -- numer
        assert n <= n_max
        nds.append((n, d)); rest -= n / 2**d        -- restAfter
    (n, d) -> halve n while it is even and d > 0    -- simplify
    keep the (n, d) with d <= n_max                 -- keep
-/
namespace NQ.Angle

/-- `n = ⌊rest · 2^d⌋` for `rest = r / 2^E`. -/
def numer (E r d : Nat) : Nat := r * 2 ^ d / 2 ^ E

/-- numerator of `rest − n / 2^d` over the scale `2^E` (for `d ≥ E` the subtraction leaves 0:
`E - d` is truncated subtraction and `r % 1 = 0`). -/
def restAfter (E r d : Nat) : Nat := r % 2 ^ (E - d)

/-- The bounds on `n` that make `d` an allowed choice (the code asserts the upper one, the lower
one is what its choice of `d` guarantees). -/
def Allowed (E r d : Nat) : Prop := 127 ≤ numer E r d ∧ numer E r d ≤ 255

instance (E r d : Nat) : Decidable (Allowed E r d) := by unfold Allowed; exact inferInstance

/-- the code's choice computed exactly: `⌊log2(255 / rest)⌋` -/
def dChoice (E r : Nat) : Nat := Nat.log2 (255 * 2 ^ E / r)

/-- The loop as a relation: from remainder `r`, emitting `steps`, ending with remainder `r'`. -/
inductive Run (E t : Nat) : Nat → List (Nat × Nat) → Nat → Prop
  | done (r : Nat) (h : r ≤ t) : Run E t r [] r
  | step (r d : Nat) (steps : List (Nat × Nat)) (r' : Nat) (h : t < r) (ha : Allowed E r d)
      (rest : Run E t (restAfter E r d) steps r') : Run E t r ((numer E r d, d) :: steps) r'

/-- One step is the division with remainder of `r·2^d` by `2^E`: `numer` is the quotient, and the
new remainder, brought to the same scale, is the remainder. -/
theorem restAfter_mul (E r d : Nat) : restAfter E r d * 2 ^ d = r * 2 ^ d % 2 ^ E := by
  unfold restAfter
  rcases Nat.le_total d E with h | h
  · rw [← Nat.mul_mod_mul_right, ← Nat.pow_add, Nat.sub_add_cancel h]
  · rw [Nat.sub_eq_zero_of_le h, Nat.pow_zero, Nat.mod_one, Nat.zero_mul,
      Nat.mod_eq_zero_of_dvd (Nat.dvd_mul_left_of_dvd (Nat.pow_dvd_pow 2 h) r)]

/-- the exact subtraction `rest = n/2^d + rest'`, cross-multiplied -/
theorem step_identity (E r d : Nat) :
    r * 2 ^ d = numer E r d * 2 ^ E + restAfter E r d * 2 ^ d := by
  rw [restAfter_mul]; exact (Nat.div_add_mod' _ _).symm

/-- the termination measure of `expand` (`0 < r` is implied by `hn`; `expand` supplies both) -/
theorem restAfter_lt (E r d : Nat) (_hr : 0 < r) (hn : 1 ≤ numer E r d) : restAfter E r d < r := by
  have h := step_identity E r d
  have := Nat.le_mul_of_pos_left (2 ^ E) hn
  have := Nat.two_pow_pos E
  exact Nat.lt_of_mul_lt_mul_right (a := 2 ^ d) (by omega)

/-- The loop with the code's exact choice of `d`. `none` = the `assert` fails (never, see
`Props/C19.expand_isSome`). Termination: the remainder strictly decreases. -/
def expand (E t r : Nat) : Option (List (Nat × Nat)) :=
  if h : t < r then
    if ha : Allowed E r (dChoice E r) then
      match expand E t (restAfter E r (dChoice E r)) with
      | some l => some ((numer E r (dChoice E r), dChoice E r) :: l)
      | none => none
    else none
  else some []
termination_by r
decreasing_by exact restAfter_lt E r _ (by omega) (by unfold Allowed at ha; omega)

/-- simplification of the fixed code: halve an even `n` while `d > 0` -/
def simplify : Nat → Nat → Nat × Nat
  | n, 0 => (n, 0)
  | n, d + 1 => if n % 2 = 0 then simplify (n / 2) d else (n, d + 1)

/-- the filter of the fixed code: `d <= n_max` -/
def keep (p : Nat × Nat) : Bool := decide (p.2 ≤ 255)

/-- what the function returns for a list of raw steps -/
def finish (steps : List (Nat × Nat)) : List (Nat × Nat) :=
  (steps.map (fun p => simplify p.1 p.2)).filter keep

/-- the whole function on exact inputs -/
def spec (E t r : Nat) : Option (List (Nat × Nat)) := (expand E t r).map finish

/-! ### The builder path: `Builder._build_cmds_single_qubit_rotation(instruction, vq, angle=…)`

    nds = get_angle_spec_from_float(angle=angle)          -- default tolerance
    for n, d in nds:                                       -- one rotation instruction per step
        register = self._get_qubit_register()              -- Q0
        set register vq ; <rot> register n d
-/

/-- pending commands appended by the builder (register operand = index of the Q register) -/
inductive Cmd
  | setQ (reg : Nat) (vq : Nat)
  | rot (axis : Nat) (reg : Nat) (n d : Nat)
  deriving DecidableEq, Repr

/-- what the builder emits for a list of steps: `steps.flatMap (set; rot)` -/
def emitRot (axis vq : Nat) (steps : List (Nat × Nat)) : List Cmd :=
  steps.flatMap fun p => [Cmd.setQ 0 vq, Cmd.rot axis 0 p.1 p.2]

/-- the (n, d) operands of the rotation instructions about `axis` in a command list -/
def rotOperands (axis : Nat) (cmds : List Cmd) : List (Nat × Nat) :=
  cmds.filterMap fun c => match c with
    | .rot a _ n d => if a = axis then some (n, d) else none
    | .setQ _ _ => none

/-- the whole builder path on exact inputs -/
def emitSpec (axis vq E t r : Nat) : Option (List Cmd) := (spec E t r).map (emitRot axis vq)

/-- candidate exponents near the exact choice (a rounded `log2` can only land on a neighbour) -/
def candidates (E r : Nat) : List Nat :=
  [dChoice E r, dChoice E r + 1, dChoice E r - 1]

/-- Checker used by the correspondence: is `target` the output of SOME allowed run from `r`?
(fuel only bounds the search; soundness — `Props/C19.accepts_sound` — does not depend on it) -/
def accepts (E t : Nat) : Nat → Nat → List (Nat × Nat) → Bool
  | 0, _, _ => false
  | fuel + 1, r, target =>
    if t < r then
      (candidates E r).any fun d =>
        decide (Allowed E r d) &&
          (if keep (simplify (numer E r d) d) then
            match target with
            | [] => false
            | q :: qs => (q == simplify (numer E r d) d) && accepts E t fuel (restAfter E r d) qs
          else accepts E t fuel (restAfter E r d) target)
    else target.isEmpty

end NQ.Angle
