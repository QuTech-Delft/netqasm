/-
Compiler correctness of the SDK builder model (C05), part 2: the code of the leaf operations
(array-entry access incl. future-indexed futures, condition operands and branches, `add`, measurement).
-/
import NetqasmVerif.Lemmas.SdkSim
namespace NQ.Sdk

theorem runs_append {p : List PCmd} {n : Nat} {A B : List PCmd} {s s1 s2 : St}
    (hA : Runs p n A.length s s1) (hB : Runs p (n + A.length) B.length s1 s2) :
    Runs p n (A ++ B).length s s2 :=
  runs_cast (runs_seq hA hB) List.length_append.symm

theorem entryLoc_R {s : St} {a : Nat} {ir : Reg} {x : Int} {i : Nat} (hr : s.regs ir = some x)
    (hx : idxOf x = some i) : entryLoc s (.entryR a ir) = some (a, i) := by
  obtain ⟨h0, rfl⟩ := idxOf_some hx
  simp [entryLoc, hr, idxOf, h0]

theorem readEntry_of {s : St} {e : POp} {a i : Nat} {v : Int} (he : entryLoc s e = some (a, i))
    (hv : readCell s.arrs a i = some v) : readEntry s e = some v := by
  unfold readCell at hv
  unfold readEntry
  rw [he]
  simp only
  split at hv
  · rename_i l hl
    rw [hl]; simp only
    split at hv
    · rename_i v' hv'; cases hv; rw [hv']
    · cases hv
  · cases hv

theorem writeEntry_of {s : St} {e : POp} {a i : Nat} {l : List (Option Int)} (v : Int)
    (he : entryLoc s e = some (a, i)) (ha : s.arrs a = some l) (hi : i < l.length) :
    writeEntry s e v = some (s.setArr a (l.set i (some v))) := by
  simp [writeEntry, he, ha, hi]

/-- the one command every `_get_access_commands` ends with: load from / store to a located entry -/
theorem access_last {p : List PCmd} {n : Nat} {st : Bool} {r : Reg} {e : POp} {a i : Nat} {ts : St}
    (hp : p[n]? = some (.instr (accessMn st) [.reg r, e])) (he : entryLoc ts e = some (a, i)) :
    (st = false → ∀ v, readCell ts.arrs a i = some v → Runs p n 1 ts (ts.setReg r v)) ∧
    (st = true → ∀ v l, ts.regs r = some v → ts.arrs a = some l → i < l.length →
      Runs p n 1 ts (ts.setArr a (l.set i (some v)))) :=
  ⟨fun hst v hv => by subst hst; exact runs_instr hp (exec_load_val (readEntry_of he hv)),
   fun hst v l hr ha hi => by subst hst; exact runs_instr hp (exec_store_val hr (writeEntry_of v he ha hi))⟩

theorem tmpIn_of_take {m m1 : Mem} {i : Nat} (h : takeReg m = .ok (m1, i)) : TmpIn m.active (R i) :=
  ⟨rfl, (takeReg_spec h).1⟩

theorem tmpIn_of_takeAt {m m1 : Mem} {rg : Option Nat} {i : Nat} (h : takeAt m rg = .ok (m1, i)) :
    TmpIn m.active (R i) := ⟨rfl, (takeAt_spec h).1⟩

theorem not_tmp_of_set_self {a : List Bool} {t : Nat} (ht : a.getD t true = false) :
    ¬ TmpIn (a.set t true) (R t) := by
  intro hc
  have := hc.2
  have e : (R t).idx = t := rfl
  rw [e, getD_set_self (getD_true_false_lt ht)] at this
  cases this

theorem Rel.opVal_reg {H : List (Reg × Bool)} {L MH : List Nat} {act mu a : List Bool} {hs : HSt} {ts ts2 : St}
    (hrel : Rel H L MH act mu hs ts) {hh : Nat} {x : Int} {r : Reg} {b : Bool}
    (hv : hs.hregs hh = some x) (hH : H[hh]? = some (r, b)) (hsub : Sub act a) (hlen : a.length = act.length)
    (h2 : TmpEq a ts ts2) : opVal ts2 (.reg r) = some x := by
  have hr := hrel.reg_val hv hH
  rw [NQ.Sdk.opVal_reg, h2.regs r (fun hc => hr.2.not_tmp (hc.sub hsub hlen))]
  exact hr.1

theorem tmp_kept {a : List Bool} {t : Nat} (ht : a.getD t true = false) {s s2 : St} {x : Int}
    (h2 : TmpEq (a.set t true) (s.setReg (R t) x) s2) : opVal s2 (.reg (R t)) = some x := by
  rw [NQ.Sdk.opVal_reg, h2.regs (R t) (not_tmp_of_set_self ht)]; simp

/-- `Future.get_address_entry()` denotes the entry `HostSem` locates the Future at -/
theorem addressEntry_loc {m : Mem} {f : Fut} {ent : POp} (h : addressEntry m f = .ok ent)
    {H : List (Reg × Bool)} {L MH : List Nat} {act mu : List Bool} {hs : HSt} {ts : St}
    (hext : Ext m.handles H) (hrel : Rel H L MH act mu hs ts) {a i : Nat} (hev : evalFut hs f = some (a, i)) :
    entryLoc ts ent = some (a, i) := by
  cases f with
  | lit a0 i0 => cases h; cases hev; rfl
  | reg a0 hh =>
    dsimp only [addressEntry] at h
    split at h
    · cases h
    rename_i ir b hh1
    cases h
    dsimp only [evalFut] at hev
    split at hev
    case h_2 => cases hev
    rename_i x hx
    split at hev
    case h_2 => cases hev
    rename_i i' hi'
    cases hev
    exact entryLoc_R (hrel.reg_val hx (hext _ _ (handle_get hh1))).1 hi'
  | fut a0 f => cases h

/-- the commands of `Future._get_access_commands`: as a load (`st = false`) they end with the entry's value
in `r`, as a store with the value of `r` in the entry; on the way only temporaries change -/
def AccessSim (f : Fut) (m : Mem) (st : Bool) (r : Reg) (cs : List PCmd) : Prop :=
  ∀ (H : List (Reg × Bool)) (L MH : List Nat) (act mu : List Bool) (hs : HSt) (ts : St) (p : List PCmd) (n : Nat),
    Ext m.handles H → Rel H L MH act mu hs ts → Sub act m.active → m.active.length = act.length →
    Placed p n cs → ∀ a i, evalFut hs f = some (a, i) →
    (st = false → ∀ v, readCell hs.arrs a i = some v →
      ∃ ts1, TmpEq m.active ts ts1 ∧ Runs p n cs.length ts (ts1.setReg r v)) ∧
    (st = true → ∀ v l, ts.regs r = some v → ¬ TmpIn m.active r → hs.arrs a = some l → i < l.length →
      ∃ ts1, TmpEq m.active ts ts1 ∧ Runs p n cs.length ts (ts1.setArr a (l.set i (some v))))

theorem access_sim (f : Fut) (m : Mem) (st : Bool) (r : Reg) (m' : Mem) (cs : List PCmd)
    (h : accessCmds m st r f = .ok (m', cs)) : AccessSim f m st r cs := by
  refine accessCmds_induct (P := fun f m st r _ cs => AccessSim f m st r cs) ?_ ?_ f h
  · intro m f e st r he H L MH act mu hs ts p n hext hrel hsub hlen hpl a i hev
    have last := access_last (st := st) (r := r) hpl.head (addressEntry_loc he hext hrel hev)
    rw [hrel.arrs] at last
    exact ⟨fun hst v hv => ⟨ts, TmpEq.refl _ _, last.1 hst v hv⟩,
      fun hst v l hr _ ha hi => ⟨ts, TmpEq.refl _ _, last.2 hst v l hr ha hi⟩⟩
  · intro f m st r a0 t m1 m2 cs2 m3 ht h1 ih h3 H L MH act mu hs ts p n hext hrel hsub hlen hpl a i hev
    have a1 := activate_spec h1
    have htmp : TmpIn m.active (R t) := ⟨rfl, a1.1⟩
    dsimp only [evalFut] at hev
    split at hev
    case h_2 => cases hev
    rename_i b j hbj
    split at hev
    case h_2 => cases hev
    rename_i vi hvi
    split at hev
    case h_2 => cases hev
    rename_i i' hi'
    cases hev
    -- the index is loaded into the temporary `R t` …
    obtain ⟨ts1, hte, hrun⟩ := (ih H L MH act mu hs ts p n
      (by rw [a1.2.2.handles]; exact hext) hrel
      (by rw [a1.2.1]; exact hsub.trans (Sub.set _ _))
      (by rw [a1.2.1]; simpa using hlen) hpl.left b j hbj).1 rfl vi hvi
    rw [a1.2.1] at hte
    have hte2 : TmpEq m.active ts (ts1.setReg (R t) vi) := (hte.of_set).setReg htmp vi
    -- … and addresses the entry
    have last := access_last (st := st) (r := r) hpl.right.head
      (entryLoc_R (s := ts1.setReg (R t) vi) (a := a0) (by simp) hi')
    rw [St.setReg_arrs, hte.arrs, hrel.arrs] at last
    constructor
    · intro hst v hv
      exact ⟨_, hte2, runs_append hrun (last.1 hst v hv)⟩
    · intro hst v l hr hnt ha hi
      have hne : r ≠ R t := by intro e; subst e; exact hnt htmp
      refine ⟨_, hte2, runs_append hrun (last.2 hst v l ?_ ha hi)⟩
      rw [St.setReg_regs_ne _ _ hne, hte.of_set.regs r hnt]; exact hr

/-- `_get_condition_operand`: after its commands the operand evaluates to the host value, and keeps
doing so whatever later temporaries are loaded -/
theorem condOperand_sim {m m1 : Mem} {v : Val} {cs : List PCmd} {o : POp} {t : Option Nat}
    (h : condOperand m v = .ok (m1, cs, o, t))
    {H : List (Reg × Bool)} {L MH : List Nat} {act mu : List Bool} {hs : HSt} {ts : St} {p : List PCmd} {n : Nat}
    (hext : Ext m.handles H) (hrel : Rel H L MH act mu hs ts) (hsub : Sub act m.active)
    (hlen : m.active.length = act.length) (hpl : Placed p n cs) {x : Int} (hv : evalVal hs v = some x) :
    ∃ ts1, TmpEq m.active ts ts1 ∧ Runs p n cs.length ts ts1 ∧
      ∀ ts2, TmpEq m1.active ts1 ts2 → opVal ts2 o = some x := by
  rcases condOperand_eq_ok h with ⟨rfl, rfl, _, ⟨y, rfl, rfl⟩ | ⟨hh, r, rfl, hh1, rfl⟩⟩ |
    ⟨f, t', ent, rfl, h1, rfl, rfl, _, hent⟩
  · cases hv
    exact ⟨ts, TmpEq.refl _ _, Runs.refl _ _ _, fun _ _ => rfl⟩
  · exact ⟨ts, TmpEq.refl _ _, Runs.refl _ _ _,
      fun ts2 h2 => hrel.opVal_reg hv (hext _ _ (handle_get hh1)) hsub hlen h2⟩
  · have s1 := takeReg_spec h1
    dsimp only [evalVal, readFut] at hv
    split at hv
    case h_2 => cases hv
    rename_i a i hai
    have hloc := addressEntry_loc hent (by rw [s1.2.2.handles]; exact hext) hrel hai
    refine ⟨ts.setReg (R t') x, (TmpEq.refl _ ts).setReg (tmpIn_of_take h1) x,
      runs_instr hpl.head (exec_load_val (readEntry_of hloc (by rw [hrel.arrs]; exact hv))), fun ts2 h2 => ?_⟩
    rw [s1.2.1] at h2
    exact tmp_kept s1.1 h2

theorem condB_iff (c : Cond) (a b : Int) : condB c a b = true ↔ condHolds c a b := by
  cases c <;> simp [condB, condHolds]

/-- the code in front of an `if` body (`_get_branch_commands*`) -/
theorem branch_sim {m m' : Mem} {c : Cond} {a b : Val} {st : List PCmd} {l : Lbl}
    (h : branchCmds m c a b = .ok (m', st, l))
    {H : List (Reg × Bool)} {L MH : List Nat} {act mu : List Bool} {hs : HSt} {ts : St} {p : List PCmd} {n : Nat}
    (hext : Ext m.handles H) (hrel : Rel H L MH act mu hs ts) (hsub : Sub act m.active)
    (hlen : m.active.length = act.length) (hpl : Placed p n st)
    {va vb : Int} (hva : evalVal hs a = some va) (hvb : c.unary = false → evalVal hs b = some vb) :
    ∃ ts1 ld oa ob, st = ld ++ [.instr (negBranch c) (branchOps c oa ob l)] ∧ TmpEq m.active ts ts1 ∧
      Runs p n ld.length ts ts1 ∧ opVal ts1 oa = some va ∧ (c.unary = false → opVal ts1 ob = some vb) := by
  obtain ⟨rfl, m1, ca, oa, ta, h1, ⟨hu, _, rfl⟩ | ⟨hu, m2, cb, ob, tb, m3, h2, _, _, rfl⟩⟩ := branchCmds_eq_ok h
  · obtain ⟨ts1, hte, hrun, hop⟩ := condOperand_sim h1 hext hrel hsub hlen hpl.left hva
    exact ⟨ts1, ca, oa, .lit 0, by simp [branchOps, hu], hte, hrun, hop ts1 (TmpEq.refl _ _),
      fun hc => by rw [hu] at hc; cases hc⟩
  · obtain ⟨ts1, hte1, hrun1, hop1⟩ := condOperand_sim h1 hext hrel hsub hlen hpl.left.left hva
    -- the first operand may have kept a temporary
    have t1 : Took m m1 ta := ((condOperand_spec h1).1.took : Took (newLabel m 0).1 m1 ta)
    have hsub1 : Sub m.active m1.active := by
      cases ta with
      | none => have e : m1.active = m.active := t1; rw [e]; exact Sub.refl _
      | some t => rw [t1.2]; exact Sub.set _ _
    have hlen1 : m1.active.length = m.active.length := by
      cases ta with
      | none => have e : m1.active = m.active := t1; rw [e]
      | some t => rw [t1.2]; simp
    obtain ⟨ts2, hte2, hrun2, hop2⟩ := condOperand_sim h2 (by rw [(condOperand_spec h1).1.same.handles]; exact hext)
      (hrel.tmp (hte1.mono (fun _ hx => hx.sub hsub hlen))) (hsub.trans hsub1) (by rw [hlen1]; exact hlen) hpl.left.right (hvb hu)
    exact ⟨ts2, ca ++ cb, oa, ob, by simp [branchOps, hu], hte1.trans (hte2.mono (fun _ hx => hx.sub hsub1 hlen1)),
      runs_append hrun1 hrun2, hop1 ts2 hte2, fun _ => hop2 ts2 (TmpEq.refl _ _)⟩

theorem addOther_sim {m m1 : Mem} {v : Val} {cs : List PCmd} {o : POp} {t : Option Nat}
    (h : addOther m v = .ok (m1, cs, o, t))
    {H : List (Reg × Bool)} {L MH : List Nat} {act mu : List Bool} {hs : HSt} {ts : St} {p : List PCmd} {n : Nat}
    (hext : Ext m.handles H) (hrel : Rel H L MH act mu hs ts) (hsub : Sub act m.active)
    (hlen : m.active.length = act.length) (hpl : Placed p n cs) {x : Int} (hv : evalVal hs v = some x) :
    ∃ ts1, TmpEq m.active ts ts1 ∧ Runs p n cs.length ts ts1 ∧
      ∀ ts2, TmpEq m1.active ts1 ts2 → opVal ts2 o = some x := by
  rcases addOther_eq_ok h with ⟨rfl, rfl, _, ⟨y, rfl, rfl⟩ | ⟨hh, r, rfl, hh1, rfl⟩⟩ |
    ⟨g, u, m', rfl, h1, h2, rfl, _⟩
  · cases hv
    exact ⟨ts, TmpEq.refl _ _, Runs.refl _ _ _, fun _ _ => rfl⟩
  · exact ⟨ts, TmpEq.refl _ _, Runs.refl _ _ _,
      fun ts2 h2 => hrel.opVal_reg hv (hext _ _ (handle_get hh1)) hsub hlen h2⟩
  · have s1 := takeReg_spec h1
    dsimp only [evalVal, readFut] at hv
    split at hv
    case h_2 => cases hv
    rename_i a i hai
    obtain ⟨tsA, hte, hrun⟩ := (access_sim g _ false (R u) _ _ h2 H L MH act mu hs ts p n
      (by rw [s1.2.2.handles]; exact hext) hrel (by rw [s1.2.1]; exact hsub.trans (Sub.set _ _))
      (by rw [s1.2.1]; simpa using hlen) hpl a i hai).1 rfl x hv
    rw [s1.2.1] at hte
    refine ⟨tsA.setReg (R u) x, hte.of_set.setReg (tmpIn_of_take h1) x, hrun, fun ts2 h2' => ?_⟩
    rw [((accessCmds_spec _ h2).took : _ = _), s1.2.1] at h2'
    exact tmp_kept s1.1 h2'

theorem addResH_some {x y r : Int} {md : Option Int} (h : addResH x y md = some r) :
    (∀ m, md = some m → 1 ≤ m) ∧ addRes x y md = r := by
  cases md with
  | none =>
    simp [addResH] at h
    exact ⟨fun _ hm => (by cases hm), (by simp [addRes, h])⟩
  | some m =>
    dsimp only [addResH] at h
    split at h
    · cases h
    · rename_i hm
      cases h
      exact ⟨fun m' hm' => by cases hm'; omega, rfl⟩

theorem writeCell_some {s s' : HSt} {a i : Nat} {v : Int} (h : writeCell s a i v = some s') :
    ∃ l, s.arrs a = some l ∧ i < l.length ∧ s' = s.setArr a (l.set i (some v)) := by
  unfold writeCell at h
  split at h
  · rename_i l hl
    split at h
    · rename_i hil; exact ⟨l, hl, hil, (Option.some.inj h).symm⟩
    · cases h
  · cases h

/-- `Future.add(other, mod)` -/
theorem addF_sim {m m' : Mem} {f : Fut} {o : Val} {md : Option Int} {cs : List PCmd}
    (h : emitAddF m f o md = .ok (m', cs))
    {H : List (Reg × Bool)} {L MH : List Nat} {mu : List Bool} {hs hs' : HSt} {ts : St} {p : List PCmd}
    {n fu nh na : Nat}
    (hext : Ext m.handles H) (hrel : Rel H L MH m.active mu hs ts) (hpl : Placed p n cs)
    (hh : hsem (fu + 1) nh na (.addF f o md) hs = some hs') :
    ∃ ts', Runs p n cs.length ts ts' ∧ Rel H L MH m.active mu hs' ts' := by
  dsimp only [hsem] at hh
  split at hh
  · cases hh
  rename_i a i hev
  split at hh
  case h_2 => cases hh
  rename_i x y hx hy
  split at hh
  case h_2 => cases hh
  rename_i r hr
  obtain ⟨l, hl, hil, rfl⟩ := writeCell_some hh
  obtain ⟨m1, t, m2, ld, m3, st, m4, ld2, oo, tmp2, m5, h1, h2, h3, h4, _, _, rfl⟩ := emitAddF_eq_ok h
  have s1 := takeReg_spec h1
  have htmp := tmpIn_of_take h1
  have sm2 := (accessCmds_spec _ h2).same
  have e2 : m2.active = m.active.set t true := ((accessCmds_spec _ h2).took : m2.active = _).trans s1.2.1
  have e3 : m3.active = m.active.set t true := ((accessCmds_spec _ h3).took : m3.active = _).trans e2
  have hsub1 : Sub m.active (m.active.set t true) := Sub.set _ _
  have hl1 : (m.active.set t true).length = m.active.length := by simp
  have hnt := not_tmp_of_set_self s1.1
  obtain ⟨hmd, hres⟩ := addResH_some hr
  obtain ⟨tsA, hteA, hrunA⟩ := (access_sim f m1 false (R t) m2 ld h2 H L MH m.active mu hs ts p n
    (by rw [s1.2.2.handles]; exact hext) hrel (by rw [s1.2.1]; exact hsub1) (by rw [s1.2.1]; exact hl1)
    hpl.left.left.left a i hev).1 rfl x hx
  rw [s1.2.1] at hteA
  have hte1 : TmpEq m.active ts (tsA.setReg (R t) x) := hteA.of_set.setReg htmp x
  obtain ⟨ts2, hte2, hrun2, hop2⟩ := addOther_sim h4
    (by rw [(accessCmds_spec _ h3).same.handles, sm2.handles, s1.2.2.handles]; exact hext) (hrel.tmp hte1)
    (by rw [e3]; exact hsub1) (by rw [e3]; exact hl1) hpl.left.left.right hy
  rw [e3] at hte2
  have hreg2 : ts2.regs (R t) = some x := by
    rw [hte2.regs (R t) hnt]; simp
  have hstep := step_addInstr ts2 (R t) oo md x y hpl.left.right.head hreg2 (hop2 ts2 (TmpEq.refl _ _)) hmd
  rw [hres] at hstep
  have hrel3 := hrel.tmp ((hte1.trans hte2.of_set).setReg htmp r)
  obtain ⟨tsD, hteD, hrunD⟩ := (access_sim f m2 true (R t) m3 st h3 H L MH m.active mu hs
    (ts2.setReg (R t) r) p _
    (by rw [sm2.handles, s1.2.2.handles]; exact hext) hrel3 (by rw [e2]; exact hsub1) (by rw [e2]; exact hl1)
    hpl.right a i hev).2 rfl r l (by simp) (by rw [e2]; exact hnt) hl hil
  rw [e2] at hteD
  exact ⟨tsD.setArr a (l.set i (some r)),
    runs_append (runs_append (B := [addInstr (R t) oo md]) (runs_append hrunA hrun2) (runs_one hstep)) hrunD,
    (hrel3.tmp hteD.of_set).setArr hl (by simp)⟩

/-- `RegFuture.add(other, mod)` -/
theorem addR_sim {m m' : Mem} {hh : Nat} {o : Val} {md : Option Int} {cs : List PCmd}
    (h : emitAddR m hh o md = .ok (m', cs))
    {H : List (Reg × Bool)} {L MH : List Nat} {mu : List Bool} {hs hs' : HSt} {ts : St} {p : List PCmd}
    {n fu nh na : Nat}
    (hext : Ext m.handles H) (hrel : Rel H L MH m.active mu hs ts) (hpl : Placed p n cs)
    (hsm : hsem (fu + 1) nh na (.addR hh o md) hs = some hs') :
    ∃ ts', Runs p n cs.length ts ts' ∧ Rel H L MH m.active mu hs' ts' := by
  dsimp only [hsem] at hsm
  split at hsm
  case h_2 => cases hsm
  rename_i x y hx hy
  split at hsm
  case h_2 => cases hsm
  rename_i r hr
  cases hsm
  obtain ⟨rg, m1, ld2, oo, tmp2, hh1, h1, _, rfl⟩ := emitAddR_eq_ok h
  obtain ⟨hmd, hres⟩ := addResH_some hr
  have hH := hext _ _ (handle_get hh1)
  have hrv := hrel.reg_val hx hH
  obtain ⟨ts1, hte1, hrun1, hop1⟩ := addOther_sim h1 hext hrel (Sub.refl _) rfl hpl.left hy
  have hreg : ts1.regs rg = some x := by
    rw [hte1.regs rg hrv.2.not_tmp]; exact hrv.1
  have hstep := step_addInstr ts1 rg oo md x y hpl.right.head hreg (hop1 ts1 (TmpEq.refl _ _)) hmd
  rw [hres] at hstep
  exact ⟨ts1.setReg rg r, runs_append (B := [addInstr rg oo md]) hrun1 (runs_one hstep),
    (hrel.tmp hte1).setBoth hx hH r⟩

theorem gates_sim : ∀ (gs : List Nat) (p : List PCmd) (n : Nat) (ts : St),
    Placed p n (gateCmds gs) →
    ∃ ts', Runs p n (gateCmds gs).length ts ts' ∧ ts'.arrs = ts.arrs ∧
      (∀ x, x ≠ Q0 → ts'.regs x = ts.regs x) ∧ ts'.trace = ts.trace ++ gateEvs gs ∧
      ts'.outcomes = ts.outcomes ∧ ts'.shmRegs = ts.shmRegs ∧ ts'.shmArrs = ts.shmArrs := by
  intro gs
  induction gs with
  | nil => intro p n ts _; exact ⟨ts, Runs.refl _ _ _, rfl, fun _ _ => rfl, by simp [gateEvs], rfl, rfl, rfl⟩
  | cons g gs ih =>
    intro p n ts hpl
    dsimp only [gateCmds] at hpl
    have r0 : Runs p n 1 ts (ts.setReg Q0 0) := runs_instr hpl.left.head rfl
    have r1 : Runs p (n + 1) 1 (ts.setReg Q0 0) ((ts.setReg Q0 0).emitEv (.gate g)) :=
      runs_instr hpl.left.tail.head rfl
    obtain ⟨ts', hr, ha, hq, ht, ho, hsr, hsa⟩ := ih p (n + 2) ((ts.setReg Q0 0).emitEv (.gate g)) hpl.right
    refine ⟨ts', runs_append (A := [_, _]) (runs_cons r0 r1) hr, ha,
      fun x hx => (hq x hx).trans (St.setReg_regs_ne _ _ hx), ?_, ho, hsr, hsa⟩
    rw [ht]; simp [St.emitEv, St.setReg, gateEvs]

theorem not_prot_M {act mu : List Bool} {k : Nat} (hk : mu.getD k true = false) : ¬ Prot act mu (M k) := by
  intro hp
  rcases hp with hp | hp
  · simp [M] at hp
  · have hl := getD_true_false_lt hk
    have h2 := hp.2
    simp [M, List.getD, List.getElem?_eq_getElem hl] at h2 hk
    rw [h2] at hk; cases hk

theorem qop_head_sim {H : List (Reg × Bool)} {L MH : List Nat} {act mu : List Bool} {hs : HSt} {ts : St}
    {p : List PCmd} {n k : Nat} {g : List Nat}
    (hMk : ¬ Prot act mu (M k)) (hrel : Rel H L MH act mu hs ts) (hpl : Placed p n (measHead g k)) :
    ∃ tsH, Runs p n (measHead g k).length ts tsH ∧
      Rel H L MH act mu { hs with trace := hs.trace ++ ([Ev.qalloc, Ev.init] ++ gateEvs g ++
          [Ev.meas (hs.outcomes.headD 0), Ev.qfree]), outcomes := hs.outcomes.tail } tsH ∧
      tsH.regs (M k) = some (hs.outcomes.headD 0) := by
  have hQ0 : ¬ Prot act mu Q0 := by
    intro hp; rcases hp with hp | hp <;> simp [Q0] at hp
  unfold measHead at hpl ⊢
  have pA := hpl.left.left
  have pM := hpl.right
  let o := hs.outcomes.headD 0
  have r0 : Runs p n 1 ts (ts.setReg Q0 0) := runs_instr pA.head rfl
  have r1 : Runs p (n + 1) 1 (ts.setReg Q0 0) ((ts.setReg Q0 0).emitEv .qalloc) :=
    runs_instr pA.tail.head rfl
  have r2 : Runs p (n + 1 + 1) 1 ((ts.setReg Q0 0).emitEv .qalloc)
      (((ts.setReg Q0 0).emitEv .qalloc).emitEv .init) :=
    runs_instr pA.tail.tail.head rfl
  let tsA := ((ts.setReg Q0 0).emitEv .qalloc).emitEv .init
  obtain ⟨tsG, rG, aG, qG, tG, oG, _, _⟩ := gates_sim g p (n + 3) tsA hpl.left.right
  let base := n + (([PCmd.instr .set [.reg Q0, .lit 0], PCmd.instr .qalloc [.reg Q0],
      PCmd.instr .init [.reg Q0]] : List PCmd) ++ gateCmds g).length
  have r3 : Runs p base 1 tsG (tsG.setReg Q0 0) := runs_instr pM.head rfl
  let tsM : St := { ((tsG.setReg Q0 0).setReg (M k) o).emitEv (.meas o) with outcomes := tsG.outcomes.tail }
  have r4 : Runs p (base + 1) 1 (tsG.setReg Q0 0) tsM :=
    runs_instr pM.tail.head (by simp [exec, tsM, St.setReg, o, oG, tsA, St.emitEv, hrel.outs])
  have r5 : Runs p (base + 1 + 1) 1 tsM (tsM.emitEv .qfree) := runs_instr pM.tail.tail.head rfl
  refine ⟨tsM.emitEv .qfree, ?_, ?_, ?_⟩
  · exact runs_append (B := [_, _, _]) (runs_append (A := [_, _, _]) (runs_cons r0 (runs_cons r1 r2)) rG)
      (runs_cons r3 (runs_cons r4 r5))
  · refine ⟨aG.trans hrel.arrs, ?_, ?_, ?_, hrel.inj, hrel.lens, hrel.mh⟩
    · show (((tsG.trace) ++ [Ev.meas o]) ++ [Ev.qfree]) = hs.trace ++ ([Ev.qalloc, Ev.init] ++ gateEvs g ++ [Ev.meas o, Ev.qfree])
      rw [tG]
      show ((((ts.trace ++ [Ev.qalloc]) ++ [Ev.init]) ++ gateEvs g) ++ [Ev.meas o]) ++ [Ev.qfree] = _
      rw [hrel.trace]
      simp [List.append_assoc]
    · show tsG.outcomes.tail = hs.outcomes.tail
      rw [oG]; simp [tsA, St.emitEv, St.setReg, hrel.outs]
    · -- a register of a live handle is neither Q0 nor `M k`
      intro hh v hv
      obtain ⟨r, b, e1, e2, e3⟩ := hrel.regs hh v hv
      have hq : r ≠ Q0 := fun e => hQ0 (e ▸ e3)
      have hm : r ≠ M k := fun e => hMk (e ▸ e3)
      refine ⟨r, b, e1, ?_, e3⟩
      show ((tsG.setReg Q0 0).setReg (M k) o).regs r = some v
      rw [St.setReg_regs_ne _ _ hm, St.setReg_regs_ne _ _ hq, qG r hq]
      exact (St.setReg_regs_ne _ _ hq).trans e2
  · show ((tsG.setReg Q0 0).setReg (M k) o).regs (M k) = some o
    simp

/-- `Qubit(conn)`, gates, `measure(future=…)` / `measure()`: `qop_head_sim`, then the outcome is stored
from `M k` into the entry (`access_sim`) -/
theorem qop_sim {m m' : Mem} {g : List Nat} {tgt : MTgt} {cs : List PCmd}
    (h : emitQop m g tgt = .ok (m', cs)) (htgt : tgt ≠ .newReg)
    {H : List (Reg × Bool)} {L MH : List Nat} {hs hs' : HSt} {ts : St} {p : List PCmd} {n fu : Nat}
    (hext : Ext m.handles H) (hrel : Rel H L MH m.active m.measUsed hs ts) (hpl : Placed p n cs)
    (hh : hsem (fu + 1) m.handles.length m.arrLens.length (.qop g tgt) hs = some hs') :
    ∃ ts', Runs p n cs.length ts ts' ∧ Rel H L MH m.active m.measUsed hs' ts' := by
  dsimp only [hsem] at hh
  rcases emitQop_eq_ok h with ⟨m0, f, m1, k, m2, st, h0, h1, h2, rfl, rfl⟩ | ⟨_, _, rfl, _⟩
  case inr => exact absurd rfl htgt
  -- `m0`: the memory manager after `alloc_array(1)` for a new Future; in both cases `f` is where the outcome goes
  have hm0 : m0.active = m.active ∧ m0.measUsed = m.measUsed ∧ m0.handles = m.handles := by
    rcases h0 with ⟨_, _, rfl⟩ | ⟨_, rfl⟩ <;> exact ⟨rfl, rfl, rfl⟩
  have hw : writeFut { hs with trace := hs.trace ++ ([Ev.qalloc, Ev.init] ++ gateEvs g ++
      [Ev.meas (hs.outcomes.headD 0), Ev.qfree]), outcomes := hs.outcomes.tail } f
      (hs.outcomes.headD 0) = some hs' := by
    rcases h0 with ⟨rfl, rfl, _⟩ | ⟨rfl, _⟩ <;> exact hh
  obtain ⟨hk, rfl⟩ := firstUnusedMeas_spec h1
  rw [hm0.2.1] at hk
  obtain ⟨tsH, hrunH, hrelH, hMv⟩ := qop_head_sim (g := g) (not_prot_M hk) hrel hpl.left
  unfold writeFut at hw
  split at hw
  case h_2 => cases hw
  rename_i a i hev
  obtain ⟨l, hl, hil, rfl⟩ := writeCell_some hw
  obtain ⟨tsD, hteD, hrunD⟩ := (access_sim f _ true (M k) m2 st h2 H L MH m.active m.measUsed _ tsH p _
    (by show Ext m0.handles H; rw [hm0.2.2]; exact hext) hrelH
    (by show Sub m.active m0.active; rw [hm0.1]; exact Sub.refl _)
    (by show m0.active.length = m.active.length; rw [hm0.1]) hpl.right a i hev).2 rfl _ l hMv
    (by intro hc; have := hc.1; simp [M] at this) hl hil
  have hteD' : TmpEq m.active tsH tsD := by
    have : TmpEq m0.active tsH tsD := hteD
    rwa [hm0.1] at this
  exact ⟨_, runs_append hrunH hrunD, (hrelH.tmp hteD').setArr hl (by simp)⟩

end NQ.Sdk
