/-
C03, part 6: `_build_subroutine` is faithful (reading the instructions back gives the proto
commands), the structure theorem (no drop / dup / reorder), and with it `NoArgs` of the output.
-/
import NetqasmVerif.Lemmas.AsmCompose
namespace NQ.Asm
open NQ

/-- every row is found by its own class name (no two rows share a class) -/
def TableOk (T : Table) : Prop := ∀ row ∈ T, rowOf T row.cls = some row

theorem buildOp_embed {k : FieldKind} {o : POperand} {x : Operand} (h : buildOp k o = some x) :
    embedOp x = o := by
  cases k <;> cases o <;> simp only [buildOp] at h <;> try (cases h; rfl)
  all_goals first | (cases h) | skip
  · rename_i a i
    cases i with
    | reg r => cases h; rfl
    | lit v => simp [buildRI] at h
  · rename_i a s e
    cases s <;> cases e <;> simp only [buildRI] at h <;> first | (cases h; rfl) | cases h

theorem buildOps_cons_some {k : FieldKind} {ks : List FieldKind} {o : POperand} {os : List POperand}
    {xs : List Operand} (h : buildOps (k :: ks) (o :: os) = some xs) :
    ∃ x xs', buildOp k o = some x ∧ buildOps ks os = some xs' ∧ xs = x :: xs' := by
  simp only [buildOps] at h
  cases h1 : buildOp k o with
  | none => simp [h1] at h
  | some x =>
    cases h2 : buildOps ks os with
    | none => simp [h1, h2] at h
    | some xs' => exact ⟨x, xs', rfl, rfl, by simpa [h1, h2] using h.symm⟩

theorem buildOps_embed {ks : List FieldKind} {os : List POperand} {xs : List Operand}
    (h : buildOps ks os = some xs) : xs.map embedOp = os := by
  induction os generalizing ks xs with
  | nil => cases ks <;> simp only [buildOps] at h <;> cases h; rfl
  | cons o os ih =>
    cases ks with
    | nil => cases h
    | cons k ks' =>
      obtain ⟨x, xs', h1, h2, rfl⟩ := buildOps_cons_some h
      rw [List.map_cons, buildOp_embed h1, ih h2]

theorem build_instr_ok {T : Table} {mn : String} {args : List Int} {ops : List POperand} {i : Instr}
    (h : build T (.instr mn args ops) = .ok i) :
    ∃ row os, nameMap T mn = some row ∧ buildOps row.shape ops = some os ∧ i = ⟨row.cls, os⟩ := by
  simp only [build] at h
  cases hn : nameMap T mn with
  | none => simp [hn] at h
  | some row =>
    simp only [hn] at h
    cases hb : buildOps row.shape ops with
    | none => simp [hb] at h
    | some os => exact ⟨row, os, rfl, hb, by simpa [hb] using h.symm⟩

theorem buildAll_cons_ok {T : Table} {c : PCmd} {cs : List PCmd} {A : List Instr}
    (h : buildAll T (c :: cs) = .ok A) :
    ∃ i is, build T c = .ok i ∧ buildAll T cs = .ok is ∧ A = i :: is := by
  simp only [buildAll] at h
  cases h1 : build T c with
  | error e => simp [h1] at h
  | ok i =>
    cases h2 : buildAll T cs with
    | error e => simp [h1, h2] at h
    | ok is => exact ⟨i, is, rfl, rfl, by simpa [h1, h2] using h.symm⟩

theorem build_embed {T : Table} (hT : TableOk T) {c : PCmd} {i : Instr}
    (hc : ∀ mn args ops, c = .instr mn args ops → args = []) (h : build T c = .ok i) : embed T i = c := by
  cases c with
  | label l => cases h
  | instr mn args ops =>
    cases hc mn args ops rfl
    obtain ⟨row, os, hn, hb, rfl⟩ := build_instr_ok h
    have hm := lastBy_some_mem hn
    have hmn : row.mn = mn := by simpa using hm.2
    simp only [embed, hT row hm.1, hmn, buildOps_embed hb]

theorem buildAll_embed {T : Table} (hT : TableOk T) {P2 : List PCmd} {A : List Instr}
    (hna : NoArgs P2) (h : buildAll T P2 = .ok A) : A.map (embed T) = P2 := by
  induction P2 generalizing A with
  | nil => cases h; rfl
  | cons c cs ih =>
    obtain ⟨i, is, h1, h2, rfl⟩ := buildAll_cons_ok h
    rw [List.map_cons, build_embed hT (fun mn a o e => hna mn a o (by simp [e])) h1,
      ih (fun mn a o hm => hna mn a o (List.mem_cons_of_mem _ hm)) h2]

theorem assemble_inv {T : Table} {exc : List (String × Nat)} {n : Nat} {P : List PCmd} {A : List Instr}
    {reserved : List Reg} (h : assemble T exc n P reserved = .ok A) :
    ∃ P2, assembleProto exc n P reserved = .ok P2 ∧ buildAll T P2 = .ok A := by
  simp only [assemble] at h
  cases h1 : assembleProto exc n P reserved with
  | error e => simp [h1] at h
  | ok P2 => simp only [h1] at h; exact ⟨P2, rfl, h⟩

/-- a source instruction and its image: same mnemonic, operands patched (literals that are not
immediates ↦ the scratch registers of `sets`, labels ↦ table entries) -/
def CmdPatched (exc : List (String × Nat)) (tbl : List (String × Nat)) (sets : List (Reg × Int))
    (c c' : PCmd) : Prop :=
  ∃ mn args ops ops1, c = .instr mn args ops ∧ OpsPatched exc mn sets 0 (allOps args ops) ops1 ∧
    c' = .instr mn [] (ops1.map (patchOp tbl))

def instrsOf (P : List PCmd) : List PCmd := P.filter (fun c => match c with | .label _ => false | .instr _ _ _ => true)

inductive Forall2 {α β : Type} (R : α → β → Prop) : List α → List β → Prop
  | nil : Forall2 R [] []
  | cons {a : α} {b : β} {as : List α} {bs : List β} : R a b → Forall2 R as bs → Forall2 R (a :: as) (b :: bs)

/-- one block of the output: the inserted assignments, then the image of the instruction -/
def blockCode (b : List (Reg × Int) × PCmd) : List PCmd := b.1.map setCmd ++ [b.2]

theorem patchCmd_setCmd (tbl : List (String × Nat)) (rv : Reg × Int) : patchCmd tbl (setCmd rv) = some (setCmd rv) := by
  simp [patchCmd, setCmd, patchOp]

theorem filterMap_setCmds (tbl : List (String × Nat)) (sets : List (Reg × Int)) :
    (sets.map setCmd).filterMap (patchCmd tbl) = sets.map setCmd := by
  induction sets with
  | nil => rfl
  | cons x xs ih => simp only [List.map_cons, List.filterMap_cons, patchCmd_setCmd, ih]

theorem structure_rcAll {c : RcCfg} (tbl : List (String × Nat)) {P P1 : List PCmd} (hna : NoArgs P)
    (h1 : rcAll c P = .ok P1) :
    ∃ blocks : List (List (Reg × Int) × PCmd),
      P1.filterMap (patchCmd tbl) = blocks.flatMap blockCode ∧
      Forall2 (fun src b => CmdPatched c.exc tbl b.1 src b.2 ∧ (∀ rv ∈ b.1, IsScratch c.nreg c.cur rv.1)
        ∧ (b.1.map Prod.fst).Nodup) (instrsOf P) blocks := by
  induction P generalizing P1 with
  | nil =>
    cases h1
    exact ⟨[], rfl, by simpa [instrsOf] using Forall2.nil⟩
  | cons y ys ih =>
    obtain ⟨cy, R, hc, h2, rfl⟩ := rcAll_cons h1
    obtain ⟨blocks, hb, hf⟩ := ih (fun mn a o hm => hna mn a o (List.mem_cons_of_mem _ hm)) h2
    cases y with
    | label l =>
      cases hc
      refine ⟨blocks, ?_, ?_⟩
      · simp [List.filterMap_cons, patchCmd, hb]
      · simpa [instrsOf, List.filter_cons] using hf
    | instr mn a o =>
      have ha : a = [] := hna mn a o (by simp)
      subst ha
      obtain ⟨sets, ops', tmp', hro, rfl⟩ := rcCmd_instr_spec hc
      obtain ⟨hinv, hpat, _⟩ := rcOps_spec hro
      refine ⟨(sets, .instr mn [] (ops'.map (patchOp tbl))) :: blocks, ?_, ?_⟩
      · simp only [List.filterMap_append, filterMap_setCmds, List.filterMap_cons, patchCmd, List.filterMap_nil,
          hb, List.flatMap_cons, blockCode, List.append_assoc]
      · simp only [instrsOf, List.filter_cons] at hf ⊢
        exact Forall2.cons ⟨⟨mn, [], o, ops', rfl, by simpa [allOps] using hpat, rfl⟩, hinv.scratch,
          hinv.nodup_sets⟩ hf

theorem forall2_of_map {α β γ : Type} {R : β → γ → Prop} {f : α → β} {l : List α} {bs : List γ}
    (h : Forall2 R (l.map f) bs) : Forall2 (fun a b => R (f a) b) l bs := by
  induction l generalizing bs with
  | nil => cases h; exact .nil
  | cons x xs ih =>
    cases h with
    | cons h1 h2 => exact .cons h1 (ih h2)

theorem instrsOf_makeArgs (P : List PCmd) : instrsOf (makeArgsOperands P) = (instrsOf P).map makeArgsCmd := by
  induction P with
  | nil => rfl
  | cons y ys ih =>
    simp only [instrsOf, makeArgsOperands] at ih
    cases y <;> simp [instrsOf, makeArgsOperands, makeArgsCmd, ih]

theorem Forall2.exists_left {α β : Type} {R : α → β → Prop} {as : List α} {bs : List β} (h : Forall2 R as bs)
    {b : β} (hb : b ∈ bs) : ∃ a ∈ as, R a b := by
  induction h with
  | nil => cases hb
  | cons h1 _ ih =>
    rcases List.mem_cons.1 hb with rfl | hb
    · exact ⟨_, List.mem_cons_self, h1⟩
    · obtain ⟨a, ha, hr⟩ := ih hb
      exact ⟨a, List.mem_cons_of_mem _ ha, hr⟩

/-- every command of the output is a `set` or the image of a source instruction, both without bracket -/
theorem noArgs_assembleProto {exc : List (String × Nat)} {n : Nat} {P P2 : List PCmd} {reserved : List Reg}
    (h : assembleProto exc n P reserved = .ok P2) : NoArgs P2 := by
  obtain ⟨P1, h1, h2, -⟩ := assembleProto_inv h
  obtain ⟨blocks, hb, hf⟩ := structure_rcAll (labelTable P1 0) (noArgs_makeArgs P) h1
  rw [assignBranchLabels_ok h2, hb]
  intro mn args ops hm
  obtain ⟨b, hbm, hy⟩ := List.mem_flatMap.1 hm
  obtain ⟨src, -, ⟨mn', a', o', o1, -, -, e⟩, -⟩ := hf.exists_left hbm
  rcases List.mem_append.1 hy with hy | hy
  · obtain ⟨rv, -, e'⟩ := List.mem_map.1 hy
    exact (PCmd.instr.inj e').2.1.symm
  · rw [e] at hy
    exact (PCmd.instr.inj (List.mem_singleton.1 hy)).2.1

theorem assemble_embed {T : Table} (hT : TableOk T) {exc : List (String × Nat)} {n : Nat} {P : List PCmd}
    {A : List Instr} {reserved : List Reg} (h : assemble T exc n P reserved = .ok A) :
    assembleProto exc n P reserved = .ok (A.map (embed T)) := by
  obtain ⟨P2, h1, h2⟩ := assemble_inv h
  rw [buildAll_embed hT (noArgs_assembleProto h1) h2]; exact h1

end NQ.Asm
