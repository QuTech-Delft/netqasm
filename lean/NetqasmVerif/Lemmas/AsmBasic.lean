/-
Helper definitions and lemmas for C03, part 1: the position maps, the patch relations, the hypotheses
of the simulation theorems (`SetOk`, `ExcCovers`, `NoArgs`, `LabelTargets`), multi-step execution, and
the structure of the output of `_replace_constants`.
-/
import NetqasmVerif.Model.Asm
namespace NQ.Asm
open NQ

def numMatRI : RI → Nat
  | .lit _ => 1
  | .reg _ => 0

/-- number of literals of one operand that are moved to a scratch register -/
def numMatOp (exc : List (String × Nat)) (mn : String) (j : Nat) : POperand → Nat
  | .lit _ => if exc.contains (mn, j) then 0 else 1
  | .entry _ i => numMatRI i
  | .slice _ s e => numMatRI s + numMatRI e
  | _ => 0

def numMat (exc : List (String × Nat)) (mn : String) : Nat → List POperand → Nat
  | _, [] => 0
  | j, o :: os => numMatOp exc mn j o + numMat exc mn (j + 1) os

/-- commands emitted by `_replace_constants` for one command -/
def len1 (exc : List (String × Nat)) : PCmd → Nat
  | .label _ => 1
  | .instr mn _ ops => numMat exc mn 0 ops + 1

/-- commands left by `_assign_branch_labels` for one command -/
def len2 : PCmd → Nat
  | .label _ => 0
  | .instr _ _ _ => 1

/-- instructions of the assembled subroutine emitted for one source command -/
def lenA (exc : List (String × Nat)) : PCmd → Nat
  | .label _ => 0
  | .instr mn args ops => numMat exc mn 0 (allOps args ops) + 1

def tpos1 (exc : List (String × Nat)) (P : List PCmd) (i : Nat) : Nat := ((P.take i).map (len1 exc)).sum
def tpos2 (P : List PCmd) (i : Nat) : Nat := ((P.take i).map len2).sum
/-- image of source position `i` in the assembled subroutine: the number of instructions emitted
for the first `i` source commands -/
def tpos (exc : List (String × Nat)) (P : List PCmd) (i : Nat) : Nat := ((P.take i).map (lenA exc)).sum

def IsScratch (n : Nat) (cur : List Reg) (r : Reg) : Prop := ∃ i, i < n ∧ r = scratchReg i ∧ r ∉ cur

def applySets (l : List (Reg × Int)) (ρ : Regs) : Regs := l.foldl (fun ρ rv => upd ρ rv.1 (some rv.2)) ρ

/-- same memory, same registers except possibly the scratch candidates (the `R i`, `i < n`, that
the program does not name) -/
def Agree {M : Type} (n : Nat) (cur : List Reg) (s t : State M) : Prop :=
  s.mem = t.mem ∧ ∀ r, ¬ IsScratch n cur r → s.regs r = t.regs r

def NamedIn (P : List PCmd) (r : Reg) : Prop :=
  ∃ mn args ops op, PCmd.instr mn args ops ∈ P ∧ op ∈ ops ∧ r ∈ opRegs op

inductive RIPatched (sets : List (Reg × Int)) : RI → RI → Prop
  | same (r : Reg) : RIPatched sets (.reg r) (.reg r)
  | mat (v : Int) (r : Reg) : (r, v) ∈ sets → RIPatched sets (.lit v) (.reg r)

/-- `keep`: the position is in the exception table -/
inductive OpPatched (sets : List (Reg × Int)) (keep : Bool) : POperand → POperand → Prop
  | reg (r : Reg) : OpPatched sets keep (.reg r) (.reg r)
  | litKeep (v : Int) : keep = true → OpPatched sets keep (.lit v) (.lit v)
  | litMat (v : Int) (r : Reg) : keep = false → (r, v) ∈ sets → OpPatched sets keep (.lit v) (.reg r)
  | lab (l : String) : OpPatched sets keep (.lab l) (.lab l)
  | tmpl (l : String) : OpPatched sets keep (.tmpl l) (.tmpl l)
  | addr (a : Int) : OpPatched sets keep (.addr a) (.addr a)
  | entry (a : Int) (i i' : RI) : RIPatched sets i i' → OpPatched sets keep (.entry a i) (.entry a i')
  | slice (a : Int) (s s' e e' : RI) : RIPatched sets s s' → RIPatched sets e e' →
      OpPatched sets keep (.slice a s e) (.slice a s' e')

inductive OpsPatched (exc : List (String × Nat)) (mn : String) (sets : List (Reg × Int)) :
    Nat → List POperand → List POperand → Prop
  | nil (j : Nat) : OpsPatched exc mn sets j [] []
  | cons {j : Nat} {o o' : POperand} {os os' : List POperand} :
      OpPatched sets (exc.contains (mn, j)) o o' → OpsPatched exc mn sets (j + 1) os os' →
      OpsPatched exc mn sets j (o :: os) (o' :: os')

theorem RIPatched.mono {s s' : List (Reg × Int)} {x y : RI} (h : RIPatched s x y)
    (hs : ∀ a ∈ s, a ∈ s') : RIPatched s' x y := by
  cases h with
  | same r => exact .same r
  | mat v r hm => exact .mat v r (hs _ hm)

theorem OpPatched.mono {s s' : List (Reg × Int)} {k : Bool} {x y : POperand} (h : OpPatched s k x y)
    (hs : ∀ a ∈ s, a ∈ s') : OpPatched s' k x y := by
  cases h with
  | reg r => exact .reg r
  | litKeep v hk => exact .litKeep v hk
  | litMat v r hk hm => exact .litMat v r hk (hs _ hm)
  | lab l => exact .lab l
  | tmpl l => exact .tmpl l
  | addr a => exact .addr a
  | entry a i i' hi => exact .entry a i i' (hi.mono hs)
  | slice a s1 s1' e e' h1 h2 => exact .slice a s1 s1' e e' (h1.mono hs) (h2.mono hs)

theorem OpsPatched.mono {exc mn} {s s' : List (Reg × Int)} {j : Nat} {xs ys : List POperand}
    (h : OpsPatched exc mn s j xs ys) (hs : ∀ a ∈ s, a ∈ s') : OpsPatched exc mn s' j xs ys := by
  induction h with
  | nil j => exact .nil j
  | cons h1 _ ih => exact .cons (h1.mono hs) ih

def CoversFrom (exc : List (String × Nat)) (mn : String) (j : Nat) (rs : List Role) : Prop :=
  ∀ k role, rs[k]? = some role → (role = .imm ∨ role = .tgt) → exc.contains (mn, j + k) = true

structure SetOk {M : Type} (mc : Machine M) : Prop where
  roles_set : mc.roles "set" = some [.dst, .imm]
  exec_set : ∀ v m, mc.exec "set" [.dst, .imm v] m = .ok (some v) m false

def ExcCovers {M : Type} (mc : Machine M) (exc : List (String × Nat)) : Prop :=
  ∀ mn rs, mc.roles mn = some rs → CoversFrom exc mn 0 rs

/-- `instr(args)` brackets already merged into the operands -/
def NoArgs (P : List PCmd) : Prop := ∀ mn args ops, PCmd.instr mn args ops ∈ P → args = []

/-- branch targets are given by label, never by number -/
def LabelTargets {M : Type} (mc : Machine M) (P : List PCmd) : Prop :=
  ∀ mn args ops rs v, PCmd.instr mn args ops ∈ P → mc.roles mn = some rs →
    tgtOf rs (allOps args ops) ≠ some (.lit v)

theorem evalOps_cons_some {ρ : Regs} {r : Role} {rs : List Role} {o : POperand} {os : List POperand}
    {vals : List Val} (h : evalOps ρ (r :: rs) (o :: os) = some vals) :
    ∃ v vs, evalOp ρ r o = some v ∧ evalOps ρ rs os = some vs ∧ vals = v :: vs := by
  simp only [evalOps] at h
  cases e1 : evalOp ρ r o with
  | none => simp [e1] at h
  | some v =>
    cases e2 : evalOps ρ rs os with
    | none => simp [e1, e2] at h
    | some vs => exact ⟨v, vs, rfl, rfl, by simpa [e1, e2] using h.symm⟩

theorem dstOf_nil (rs : List Role) : dstOf rs [] = none := by
  cases rs with
  | nil => rfl
  | cons r rs => cases r <;> rfl

theorem dstOf_cons_dst (r : Reg) (rs : List Role) (os : List POperand) :
    dstOf (.dst :: rs) (.reg r :: os) = some r := rfl

theorem dstOf_cons_skip {ro : Role} {o : POperand} (h : ¬ (ro = .dst ∧ ∃ r, o = .reg r)) (rs : List Role)
    (os : List POperand) : dstOf (ro :: rs) (o :: os) = dstOf rs os := by
  cases ro with
  | dst =>
    cases o with
    | reg r => exact absurd ⟨rfl, r, rfl⟩ h
    | _ => rfl
  | _ => rfl

theorem tgtOf_nil (rs : List Role) : tgtOf rs [] = none := by
  cases rs with
  | nil => rfl
  | cons r rs => cases r <;> rfl

theorem tgtOf_cons_tgt (rs : List Role) (o : POperand) (os : List POperand) :
    tgtOf (.tgt :: rs) (o :: os) = some o := rfl

theorem tgtOf_cons_skip {ro : Role} (h : ro ≠ .tgt) (rs : List Role) (o : POperand) (os : List POperand) :
    tgtOf (ro :: rs) (o :: os) = tgtOf rs os := by
  cases ro with
  | tgt => exact absurd rfl h
  | _ => rfl

theorem tgtOf_map (f : POperand → POperand) (rs : List Role) (ops : List POperand) :
    tgtOf rs (ops.map f) = (tgtOf rs ops).map f := by
  induction ops generalizing rs with
  | nil => rw [List.map_nil, tgtOf_nil]; rfl
  | cons o os ih =>
    cases rs with
    | nil => rfl
    | cons r rs' =>
      by_cases hr : r = .tgt
      · subst hr; rfl
      · rw [List.map_cons, tgtOf_cons_skip hr, tgtOf_cons_skip hr, ih]

theorem dstOf_map {f : POperand → POperand} (hf : ∀ o r, f o = .reg r ↔ o = .reg r) (rs : List Role)
    (ops : List POperand) : dstOf rs (ops.map f) = dstOf rs ops := by
  induction ops generalizing rs with
  | nil => rfl
  | cons o os ih =>
    cases rs with
    | nil => rfl
    | cons ro rs' =>
      by_cases e : ro = .dst ∧ ∃ r, o = .reg r
      · obtain ⟨rfl, r, rfl⟩ := e
        rw [List.map_cons, (hf _ r).2 rfl]; rfl
      · rw [List.map_cons, dstOf_cons_skip e, dstOf_cons_skip fun ⟨h, r, hr⟩ => e ⟨h, r, (hf o r).1 hr⟩, ih]

theorem Steps.trans {M : Type} {mc : Machine M} {P : List PCmd} {a b c : State M × Nat}
    (h1 : Steps mc P a b) (h2 : Steps mc P b c) : Steps mc P a c := by
  induction h1 with
  | refl _ => exact h2
  | step hs _ ih => exact .step hs (ih h2)

theorem Steps.single {M : Type} {mc : Machine M} {P : List PCmd} {s s' : State M} {pc pc' : Nat}
    (h : Asm.step mc P s pc = Outcome.next s' pc') : Steps mc P (s, pc) (s', pc') :=
  Steps.step h (Steps.refl _)

/-- bounded execution, used only to exhibit concrete runs -/
def runN {M : Type} (mc : Machine M) (P : List PCmd) : Nat → State M × Nat → Option (State M × Nat)
  | 0, c => some c
  | n + 1, c =>
    match step mc P c.1 c.2 with
    | .next s' pc' => runN mc P n (s', pc')
    | _ => none

theorem steps_of_runN {M : Type} {mc : Machine M} {P : List PCmd} {n : Nat} {c c' : State M × Nat}
    (h : runN mc P n c = some c') : Steps mc P c c' := by
  induction n generalizing c with
  | zero => cases h; exact .refl _
  | succ k ih =>
    simp only [runN] at h
    cases hs : step mc P c.1 c.2 with
    | next s' pc' =>
      simp only [hs] at h
      obtain ⟨s, pc⟩ := c
      exact .step hs (ih h)
    | fault k' => simp [hs] at h
    | halt => simp [hs] at h
    | stuck => simp [hs] at h

theorem pickScratch_spec {n : Nat} {cur tmp : List Reg} {r : Reg} (h : pickScratch n cur tmp = some r) :
    IsScratch n cur r ∧ r ∉ tmp := by
  simp only [pickScratch, Option.map_eq_some_iff] at h
  obtain ⟨i, hf, rfl⟩ := h
  have hm := List.mem_of_find?_eq_some hf
  have hp := List.find?_some hf
  simp only [Bool.and_eq_true, Bool.not_eq_true', List.contains_eq_mem, decide_eq_false_iff_not] at hp
  exact ⟨⟨i, List.mem_range.1 hm, rfl, hp.1⟩, hp.2⟩

theorem applySets_cons (x : Reg × Int) (xs : List (Reg × Int)) (ρ : Regs) :
    applySets (x :: xs) ρ = applySets xs (upd ρ x.1 (some x.2)) := rfl

theorem applySets_not_mem (l : List (Reg × Int)) (ρ : Regs) (r : Reg) (h : r ∉ l.map Prod.fst) :
    applySets l ρ r = ρ r := by
  induction l generalizing ρ with
  | nil => rfl
  | cons x xs ih =>
    simp only [List.map_cons, List.mem_cons, not_or] at h
    rw [applySets_cons, ih _ h.2]
    simp [upd, h.1]

theorem applySets_mem (l : List (Reg × Int)) (ρ : Regs) (r : Reg) (v : Int) (hm : (r, v) ∈ l)
    (hnd : (l.map Prod.fst).Nodup) : applySets l ρ r = some v := by
  induction l generalizing ρ with
  | nil => cases hm
  | cons x xs ih =>
    simp only [List.map_cons, List.nodup_cons] at hnd
    rw [applySets_cons]
    rcases List.mem_cons.1 hm with rfl | hm'
    · rw [applySets_not_mem _ _ _ hnd.1]; simp [upd]
    · exact ih _ hm' hnd.2

theorem applySets_append (a b : List (Reg × Int)) (ρ : Regs) :
    applySets (a ++ b) ρ = applySets b (applySets a ρ) := by
  simp [applySets, List.foldl_append]

/-- what one call of the replacement functions guarantees -/
structure RcInv (n : Nat) (cur : List Reg) (tmp : List Reg) (s : List (Reg × Int)) (tmp' : List Reg) : Prop where
  tmp_eq : tmp' = tmp ++ s.map Prod.fst
  scratch : ∀ rv ∈ s, IsScratch n cur rv.1
  nodup : tmp.Nodup → tmp'.Nodup

theorem RcInv.nodup_sets {n : Nat} {cur tmp' : List Reg} {s : List (Reg × Int)} (h : RcInv n cur [] s tmp') :
    (s.map Prod.fst).Nodup := by
  have := h.nodup List.nodup_nil
  rwa [h.tmp_eq, List.nil_append] at this

theorem RcInv.nil (n : Nat) (cur tmp : List Reg) : RcInv n cur tmp [] tmp :=
  ⟨by simp, by simp, id⟩

theorem RcInv.one {n : Nat} {cur tmp : List Reg} {r : Reg} (v : Int) (h : pickScratch n cur tmp = some r) :
    RcInv n cur tmp [(r, v)] (tmp ++ [r]) := by
  have := pickScratch_spec h
  refine ⟨by simp, ?_, ?_⟩
  · intro rv hrv; simp at hrv; subst hrv; exact this.1
  · intro hnd
    rw [List.nodup_append]
    refine ⟨hnd, by simp, ?_⟩
    intro a ha b hb
    simp at hb; subst hb
    intro hab; subst hab; exact this.2 ha

theorem RcInv.append {n : Nat} {cur t0 t1 t2 : List Reg} {s1 s2 : List (Reg × Int)}
    (h1 : RcInv n cur t0 s1 t1) (h2 : RcInv n cur t1 s2 t2) : RcInv n cur t0 (s1 ++ s2) t2 := by
  refine ⟨?_, ?_, fun h => h2.nodup (h1.nodup h)⟩
  · rw [h2.tmp_eq, h1.tmp_eq]; simp
  · intro rv hrv
    rcases List.mem_append.1 hrv with h | h
    · exact h1.scratch rv h
    · exact h2.scratch rv h

theorem rcRI_spec {c : RcCfg} {x x' : RI} {tmp tmp' : List Reg} {s : List (Reg × Int)}
    (h : rcRI c x tmp = .ok (s, x', tmp')) :
    RcInv c.nreg c.cur tmp s tmp' ∧ RIPatched s x x' ∧ s.length = numMatRI x := by
  cases x with
  | reg r =>
    simp only [rcRI, Except.ok.injEq, Prod.mk.injEq] at h
    obtain ⟨rfl, rfl, rfl⟩ := h
    exact ⟨RcInv.nil _ _ _, .same r, rfl⟩
  | lit v =>
    simp only [rcRI] at h
    cases hp : pickScratch c.nreg c.cur tmp with
    | none => simp [hp] at h
    | some r =>
      simp only [hp, Except.ok.injEq, Prod.mk.injEq] at h
      obtain ⟨rfl, rfl, rfl⟩ := h
      exact ⟨RcInv.one v hp, .mat v r (by simp), rfl⟩

theorem rcOp_spec {c : RcCfg} {mn : String} {j : Nat} {op op' : POperand} {tmp tmp' : List Reg}
    {s : List (Reg × Int)} (h : rcOp c mn j op tmp = .ok (s, op', tmp')) :
    RcInv c.nreg c.cur tmp s tmp' ∧ OpPatched s (c.exc.contains (mn, j)) op op'
      ∧ s.length = numMatOp c.exc mn j op := by
  cases op with
  | reg r =>
    simp only [rcOp, Except.ok.injEq, Prod.mk.injEq] at h
    obtain ⟨rfl, rfl, rfl⟩ := h
    exact ⟨RcInv.nil _ _ _, .reg r, rfl⟩
  | lab l =>
    simp only [rcOp, Except.ok.injEq, Prod.mk.injEq] at h
    obtain ⟨rfl, rfl, rfl⟩ := h
    exact ⟨RcInv.nil _ _ _, .lab l, rfl⟩
  | tmpl l =>
    simp only [rcOp, Except.ok.injEq, Prod.mk.injEq] at h
    obtain ⟨rfl, rfl, rfl⟩ := h
    exact ⟨RcInv.nil _ _ _, .tmpl l, rfl⟩
  | addr a =>
    simp only [rcOp, Except.ok.injEq, Prod.mk.injEq] at h
    obtain ⟨rfl, rfl, rfl⟩ := h
    exact ⟨RcInv.nil _ _ _, .addr a, rfl⟩
  | lit v =>
    simp only [rcOp] at h
    cases hk : c.exc.contains (mn, j) with
    | true =>
      simp only [hk, if_true, Except.ok.injEq, Prod.mk.injEq] at h
      obtain ⟨rfl, rfl, rfl⟩ := h
      exact ⟨RcInv.nil _ _ _, .litKeep v rfl, by simp only [numMatOp, hk]; rfl⟩
    | false =>
      simp only [hk] at h
      cases hp : pickScratch c.nreg c.cur tmp with
      | none => simp [hp] at h
      | some r =>
        simp only [hp, Bool.false_eq_true, if_false, Except.ok.injEq, Prod.mk.injEq] at h
        obtain ⟨rfl, rfl, rfl⟩ := h
        exact ⟨RcInv.one v hp, .litMat v r rfl (by simp), by simp only [numMatOp, hk]; rfl⟩
  | entry a i =>
    simp only [rcOp] at h
    cases hr : rcRI c i tmp with
    | error e => simp [hr] at h
    | ok res =>
      obtain ⟨s1, i', t1⟩ := res
      simp only [hr, Except.ok.injEq, Prod.mk.injEq] at h
      obtain ⟨rfl, rfl, rfl⟩ := h
      have := rcRI_spec hr
      exact ⟨this.1, .entry a i i' this.2.1, this.2.2⟩
  | slice a st e =>
    simp only [rcOp] at h
    cases hr : rcRI c st tmp with
    | error e => simp [hr] at h
    | ok res =>
      obtain ⟨s1, st', t1⟩ := res
      simp only [hr] at h
      cases hr2 : rcRI c e t1 with
      | error e => simp [hr2] at h
      | ok res2 =>
        obtain ⟨s2, e', t2⟩ := res2
        simp only [hr2, Except.ok.injEq, Prod.mk.injEq] at h
        obtain ⟨rfl, rfl, rfl⟩ := h
        have h1 := rcRI_spec hr
        have h2 := rcRI_spec hr2
        refine ⟨h1.1.append h2.1, .slice a st st' e e' (h1.2.1.mono (by simp_all)) (h2.2.1.mono (by simp_all)), ?_⟩
        simp [numMatOp, h1.2.2, h2.2.2]

theorem rcOps_spec {c : RcCfg} {mn : String} {j : Nat} {ops ops' : List POperand} {tmp tmp' : List Reg}
    {s : List (Reg × Int)} (h : rcOps c mn j ops tmp = .ok (s, ops', tmp')) :
    RcInv c.nreg c.cur tmp s tmp' ∧ OpsPatched c.exc mn s j ops ops' ∧ s.length = numMat c.exc mn j ops := by
  induction ops generalizing j tmp tmp' s ops' with
  | nil =>
    simp only [rcOps, Except.ok.injEq, Prod.mk.injEq] at h
    obtain ⟨rfl, rfl, rfl⟩ := h
    exact ⟨RcInv.nil _ _ _, .nil j, rfl⟩
  | cons o os ih =>
    simp only [rcOps] at h
    cases h1 : rcOp c mn j o tmp with
    | error e => simp [h1] at h
    | ok res =>
      obtain ⟨s1, o', t1⟩ := res
      simp only [h1] at h
      cases h2 : rcOps c mn (j + 1) os t1 with
      | error e => simp [h2] at h
      | ok res2 =>
        obtain ⟨s2, os', t2⟩ := res2
        simp only [h2, Except.ok.injEq, Prod.mk.injEq] at h
        obtain ⟨rfl, rfl, rfl⟩ := h
        have a := rcOp_spec h1
        have b := ih h2
        refine ⟨a.1.append b.1, .cons (a.2.1.mono (by simp_all)) (b.2.1.mono (by simp_all)), ?_⟩
        simp [numMat, a.2.2, b.2.2]

end NQ.Asm
