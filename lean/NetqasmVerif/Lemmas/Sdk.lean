/-
The builder model `emit` (Model/Sdk.lean) and the register pool of the memory manager, for C14 and C05:
* the pool as a list of flags, its order `Sub`, the order `Ext` of handle tables, and what the primitives
  (`activate`, `release`, `takeReg`, `takeAt`) do: a flag flipped, everything else as it was (`SameBut`);
* what a successful run of each builder function consists of (`<f>_eq_ok`), and induction over the successful
  runs of `accessCmds` and of `emit` (`accessCmds_induct`, `emit_induct`).
What a successful run guarantees is in Lemmas/SdkHelper.lean and Lemmas/SdkSpec.lean, what a failure for lack of
a register tells in Lemmas/SdkLack.lean.
-/
import NetqasmVerif.Model.Sdk
namespace NQ.Sdk

/-! ## the notions in which C14 is stated -/

def heldLen : Nat → List EprEv → Option Nat
  | n, [] => some n
  | n, .take :: es => heldLen (n + 1) es
  | n, .rel p :: es => if p < n then heldLen (n - 1) es else none

def peakEvs : Nat → List EprEv → Nat
  | n, [] => n
  | n, .take :: es => max n (peakEvs (n + 1) es)
  | n, .rel _ :: es => max n (peakEvs (n - 1) es)

/-- Operations that are *completed* when `emit` returns. Not completed are `newReg`
(`Builder.new_register`), which hands a register to the program for good, and an EPR operation whose
recorded events do not give back every register they take. -/
def Completed : Host → Prop
  | .skip => True
  | .seq a b => Completed a ∧ Completed b
  | .newArray _ _ => True
  | .newReg _ => False
  | .qop _ _ => True
  | .addF _ _ _ => True
  | .addR _ _ _ => True
  | .ifc _ _ _ _ body => Completed body
  | .loop _ _ _ _ body => Completed body
  | .loopBody _ _ _ _ body => Completed body
  | .foreach _ _ body => Completed body
  | .loopUntil _ body _ _ cl => Completed body ∧ Completed cl
  | .tryUntil _ body => Completed body
  | .epr evs => heldLen 0 evs = some 0

def free : List Bool → Nat
  | [] => 0
  | b :: bs => (if b then 0 else 1) + free bs

/-- levels of future-indexing of a Future: building an access to it holds one temporary per level -/
def Fut.depth : Fut → Nat
  | .lit _ _ => 0
  | .reg _ _ => 0
  | .fut _ f => f.depth + 1

/-- temporaries of a condition operand -/
def Val.tmp : Val → Nat
  | .fut _ => 1
  | _ => 0

def Val.addNeed : Val → Nat
  | .fut g => g.depth + 1
  | _ => 0

/-- temporaries needed to store a measurement outcome: those of the access to a given future -/
def MTgt.need : MTgt → Nat
  | .fut f => f.depth
  | _ => 0

/-- registers an operation needs on top of those that are active when it starts -/
def need : Host → Nat
  | .skip => 0
  | .seq a b => max (need a) (need b)
  | .newArray _ _ => 0
  | .newReg _ => 1
  | .qop _ t => t.need
  | .addF f o _ => 1 + max f.depth o.addNeed
  | .addR _ o _ => o.addNeed
  | .ifc _ c a b body => max (need body) (if c.unary then a.tmp else a.tmp + b.tmp)
  | .loop _ _ _ _ body => 1 + need body
  | .loopBody _ _ _ _ body => 1 + need body
  | .foreach _ _ body => 1 + need body
  | .loopUntil _ body ef _ cl => 1 + max (need body) (max ef.tmp (need cl))
  | .tryUntil _ body => need body
  | .epr evs => peakEvs 0 evs

def NoReg {α : Type} (x : Except BuildError α) : Prop := ∀ e, x = .error e → e ≠ .noRegister

def NoMeas {α : Type} (x : Except BuildError α) : Prop := ∀ e, x = .error e → e ≠ .noMeasRegister

theorem firstFree_spec : ∀ (l : List Bool) (i : Nat), firstFree l = some i → l.getD i true = false
  | [], i, h => by simp [firstFree] at h
  | b :: bs, i, h => by
    unfold firstFree at h
    cases b with
    | false => simp at h; subst h; simp
    | true =>
      simp only [if_true] at h
      cases hf : firstFree bs with
      | none => simp [hf] at h
      | some j =>
        simp [hf] at h; subst h
        have := firstFree_spec bs j hf
        simpa using this

theorem getD_true_false_lt {l : List Bool} {i : Nat} (h : l.getD i true = false) : i < l.length := by
  by_cases hi : i < l.length
  · exact hi
  · simp [List.getD, List.getElem?_eq_none (Nat.le_of_not_lt hi)] at h

theorem getD_false_true_lt {l : List Bool} {i : Nat} (h : l.getD i false = true) : i < l.length := by
  by_cases hi : i < l.length
  · exact hi
  · simp [List.getD, List.getElem?_eq_none (Nat.le_of_not_lt hi)] at h

theorem set_same {l : List Bool} {i : Nat} {b : Bool} (h : l.getD i (!b) = b) : l.set i b = l := by
  apply List.ext_getElem
  · simp
  · intro j h1 h2
    by_cases hij : i = j
    · subst hij
      simp [List.getD, List.getElem?_eq_getElem (by simpa using h1)] at h
      simp [h]
    · simp [hij]

theorem set_restore {l : List Bool} {i : Nat} (h : l.getD i true = false) :
    (l.set i true).set i false = l := by
  rw [List.set_set]
  exact set_same (b := false) (by simpa using h)

theorem getD_set_self {l : List Bool} {i : Nat} (h : i < l.length) (b d : Bool) :
    (l.set i b).getD i d = b := by
  simp [List.getD, h]

theorem getD_set_ne {l : List Bool} {i j : Nat} (h : i ≠ j) (b d : Bool) :
    (l.set i b).getD j d = l.getD j d := by
  simp [List.getD, h]

theorem restore_two {a : List Bool} {t u : Nat} (ht : a.getD t true = false)
    (hu : (a.set t true).getD u true = false) :
    (((a.set t true).set u true).set t false).set u false = a := by
  have hne : t ≠ u := by
    intro e; subst e
    rw [getD_set_self (getD_true_false_lt ht)] at hu
    cases hu
  rw [List.set_comm _ _ (Ne.symm hne), set_restore ht, set_restore (by rwa [getD_set_ne hne] at hu)]

theorem getD_set_true_iff {a : List Bool} {i j : Nat} (hi : i < a.length) :
    (a.set i true).getD j false = true ↔ (j = i ∨ a.getD j false = true) := by
  by_cases e : i = j
  · subst e; rw [getD_set_self hi]; simp
  · rw [getD_set_ne e]
    constructor
    · intro h; exact Or.inr h
    · intro h; rcases h with h | h
      · exact absurd h.symm e
      · exact h

theorem getD_set_false_iff {a : List Bool} {i j : Nat} :
    (a.set i false).getD j false = true ↔ (j ≠ i ∧ a.getD j false = true) := by
  by_cases e : i = j
  · subst e
    constructor
    · intro h
      by_cases hl : i < a.length
      · rw [getD_set_self hl] at h; cases h
      · have : (a.set i false).length ≤ i := by simpa using Nat.le_of_not_lt hl
        simp [List.getD, List.getElem?_eq_none this] at h
    · intro h; exact absurd rfl h.1
  · rw [getD_set_ne e]
    constructor
    · intro h; exact ⟨fun e' => e e'.symm, h⟩
    · intro h; exact h.2

theorem getD_false_of_true_false {a : List Bool} {i : Nat} (h : a.getD i true = false) : a.getD i false = false := by
  have hl := getD_true_false_lt h
  simp [List.getD, List.getElem?_eq_getElem hl] at h ⊢; exact h

theorem active_mono_set {a : List Bool} {t i : Nat} (h : a.getD i false = true) :
    (a.set t true).getD i false = true := by
  by_cases e : t = i
  · subst e; exact getD_set_self (getD_false_true_lt h) _ _
  · rw [getD_set_ne e]; exact h

/-- every register active in `a` is active in `a'` -/
def Sub (a a' : List Bool) : Prop := ∀ i, a.getD i false = true → a'.getD i false = true

theorem Sub.refl (a : List Bool) : Sub a a := fun _ h => h
theorem Sub.set (a : List Bool) (t : Nat) : Sub a (a.set t true) := fun _ h => active_mono_set h
theorem Sub.trans {a b c : List Bool} (h1 : Sub a b) (h2 : Sub b c) : Sub a c := fun i h => h2 i (h1 i h)

theorem prefix_get {α : Type} {l t : List α} {k : Nat} {v : α} (h : l[k]? = some v) :
    (l ++ t)[k]? = some v := by
  have hl : k < l.length := by
    by_cases hl : k < l.length
    · exact hl
    · simp [List.getElem?_eq_none (Nat.le_of_not_lt hl)] at h
  rw [List.getElem?_append_left hl]; exact h

/-- the handle table only grows: what a handle of `h` names, it names in `H` -/
def Ext (h H : List (Reg × Bool)) : Prop := ∀ (k : Nat) (v : Reg × Bool), h[k]? = some v → H[k]? = some v

theorem Ext.refl (h : List (Reg × Bool)) : Ext h h := fun _ _ x => x
theorem Ext.trans {a b c : List (Reg × Bool)} (h1 : Ext a b) (h2 : Ext b c) : Ext a c :=
  fun k v x => h2 k v (h1 k v x)
theorem Ext.of_append {a t H : List (Reg × Bool)} (h : Ext (a ++ t) H) : Ext a H :=
  fun k v x => h k v (prefix_get x)
theorem Ext.append (a t : List (Reg × Bool)) : Ext a (a ++ t) := fun _ _ x => prefix_get x

theorem getInactive_spec {m : Mem} {i : Nat} (h : getInactive m = .ok i) :
    m.active.getD i true = false := by
  unfold getInactive at h
  split at h
  · rename_i j hj
    cases h
    exact firstFree_spec _ _ hj
  · cases h

theorem handle_get {m : Mem} {h : Nat} {x : Reg × Bool} (hh : handle m h = .ok x) : m.handles[h]? = some x := by
  unfold handle at hh
  split at hh
  · rename_i y hy; cases hh; exact hy
  · cases hh

/-- everything but the register flags (and the ghost peak) is unchanged -/
structure SameBut (m m' : Mem) : Prop where
  meas : m'.measUsed = m.measUsed
  rret : m'.regsToReturn = m.regsToReturn
  aret : m'.arraysToReturn = m.arraysToReturn
  lens : m'.arrLens = m.arrLens
  lbl : m'.lbl = m.lbl
  handles : m'.handles = m.handles

theorem SameBut.refl (m : Mem) : SameBut m m := ⟨rfl, rfl, rfl, rfl, rfl, rfl⟩

theorem SameBut.trans {a b c : Mem} (h1 : SameBut a b) (h2 : SameBut b c) : SameBut a c :=
  ⟨h2.meas.trans h1.meas, h2.rret.trans h1.rret, h2.aret.trans h1.aret, h2.lens.trans h1.lens,
   h2.lbl.trans h1.lbl, h2.handles.trans h1.handles⟩

theorem activate_spec {m m' : Mem} {i : Nat} (h : activate m i = .ok m') :
    m.active.getD i true = false ∧ m'.active = m.active.set i true ∧ SameBut m m' := by
  unfold activate at h
  split at h
  · cases h
  · rename_i hf
    cases h
    exact ⟨by simpa using hf, rfl, ⟨rfl, rfl, rfl, rfl, rfl, rfl⟩⟩

theorem release_spec {m m' : Mem} {i : Nat} (h : release m i = .ok m') :
    m.active.getD i false = true ∧ m'.active = m.active.set i false ∧ SameBut m m' ∧ m'.peak = m.peak := by
  unfold release at h
  split at h
  · rename_i hf
    cases h
    exact ⟨hf, rfl, ⟨rfl, rfl, rfl, rfl, rfl, rfl⟩, rfl⟩
  · cases h

theorem activate_same {m m' : Mem} {i : Nat} (h : activate m i = .ok m') : SameBut m m' := (activate_spec h).2.2

theorem release_same {m m' : Mem} {i : Nat} (h : release m i = .ok m') : SameBut m m' := (release_spec h).2.2.1

theorem releaseOpt_same {m m' : Mem} {t : Option Nat} (h : releaseOpt m t = .ok m') : SameBut m m' := by
  cases t with
  | none => simp [releaseOpt] at h; subst h; exact SameBut.refl _
  | some t => exact release_same h

theorem takeReg_eq_ok {m m' : Mem} {i : Nat} (h : takeReg m = .ok (m', i)) :
    getInactive m = .ok i ∧ activate m i = .ok m' := by
  unfold takeReg at h
  split at h
  · cases h
  · rename_i j hj
    split at h
    · cases h
    · rename_i m1 h1; cases h; exact ⟨hj, h1⟩

theorem takeAt_activate {m m' : Mem} {rg : Option Nat} {i : Nat} (h : takeAt m rg = .ok (m', i)) :
    activate m i = .ok m' := by
  cases rg with
  | none => exact (takeReg_eq_ok h).2
  | some j =>
    simp only [takeAt] at h
    split at h
    · cases h
    · rename_i m1 h1; cases h; exact h1

theorem takeAt_spec {m m' : Mem} {rg : Option Nat} {i : Nat} (h : takeAt m rg = .ok (m', i)) :
    m.active.getD i true = false ∧ m'.active = m.active.set i true ∧ SameBut m m' :=
  activate_spec (takeAt_activate h)

theorem takeReg_spec {m m' : Mem} {i : Nat} (h : takeReg m = .ok (m', i)) :
    m.active.getD i true = false ∧ m'.active = m.active.set i true ∧ SameBut m m' := takeAt_spec (rg := none) h

theorem takeAt_same {m m' : Mem} {rg : Option Nat} {i : Nat} (h : takeAt m rg = .ok (m', i)) : SameBut m m' :=
  (takeAt_spec h).2.2

theorem takeReg_same {m m' : Mem} {i : Nat} (h : takeReg m = .ok (m', i)) : SameBut m m' := (takeReg_spec h).2.2

theorem active_after_take {m m1 : Mem} {rg : Option Nat} {i : Nat} (h1 : takeAt m rg = .ok (m1, i)) :
    Sub m.active m1.active := (takeAt_spec h1).2.1 ▸ Sub.set _ _

theorem release_after_take {m m' : Mem} {a : List Bool} {i : Nat}
    (hfree : a.getD i true = false) (hact : m.active = a.set i true)
    (h : release m i = .ok m') : m'.active = a := by
  have := release_spec h
  rw [this.2.1, hact]
  exact set_restore hfree

theorem release_ok_of_taken {m : Mem} {a : List Bool} {i : Nat}
    (hfree : a.getD i true = false) (hact : m.active = a.set i true) :
    ∃ m', release m i = .ok m' := by
  unfold release
  have : m.active.getD i false = true := by
    rw [hact]; exact getD_set_self (getD_true_false_lt hfree) _ _
  rw [if_pos this]
  exact ⟨_, rfl⟩

theorem releaseOpt_none {m m' : Mem} (h : releaseOpt m none = .ok m') : m' = m := by
  simp [releaseOpt] at h; exact h.symm

/-! ## what a successful run of a builder function consists of

Each `_eq_ok` rule opens the chain of matches of one function of `Model/Sdk.lean` once; the properties of
the function are then read off the successful sub-calls. -/

theorem accessCmds_induct {P : Fut → Mem → Bool → Reg → Mem → List PCmd → Prop}
    (leaf : ∀ {m f e} st r, addressEntry m f = .ok e → P f m st r m [.instr (accessMn st) [.reg r, e]])
    (fut : ∀ {f m st r a t m1 m2 cs m3}, getInactive m = .ok t → activate m t = .ok m1 →
      P f m1 false (R t) m2 cs → release m2 t = .ok m3 →
      P (.fut a f) m st r m3 (cs ++ [.instr (accessMn st) [.reg r, .entryR a (R t)]])) :
    ∀ (f : Fut) {m : Mem} {st : Bool} {r : Reg} {m' : Mem} {cs : List PCmd},
      accessCmds m st r f = .ok (m', cs) → P f m st r m' cs := by
  intro f
  induction f with
  | lit a i => intro m st r m' cs h; cases h; exact leaf (f := .lit a i) st r rfl
  | reg a hh =>
    intro m st r m' cs h
    unfold accessCmds at h
    split at h
    · cases h
    · rename_i ir _ hir
      cases h; exact leaf (f := .reg a hh) st r (by simp only [addressEntry, hir])
  | fut a f ih =>
    intro m st r m' cs h
    unfold accessCmds at h
    split at h
    · cases h
    · rename_i t ht
      split at h
      · cases h
      · rename_i m1 h1
        split at h
        · cases h
        · rename_i m2 cs2 h2
          split at h
          · cases h
          · rename_i m3 h3
            cases h
            exact fut ht h1 (ih h2) h3

theorem condOperand_eq_ok {m m1 : Mem} {v : Val} {cs : List PCmd} {o : POp} {t : Option Nat}
    (h : condOperand m v = .ok (m1, cs, o, t)) :
    (m1 = m ∧ cs = [] ∧ t = none ∧
      ((∃ x, v = .lit x ∧ o = .lit x) ∨ ∃ hh r, v = .reg hh ∧ handle m hh = .ok (r, true) ∧ o = .reg r)) ∨
    ∃ f i e, v = .fut f ∧ takeReg m = .ok (m1, i) ∧ cs = [.instr .load [.reg (R i), e]] ∧
      o = .reg (R i) ∧ t = some i ∧ addressEntry m1 f = .ok e := by
  cases v with
  | lit x => cases h; exact .inl ⟨rfl, rfl, rfl, .inl ⟨_, rfl, rfl⟩⟩
  | reg hh =>
    simp only [condOperand] at h
    split at h
    · cases h
    · rename_i r isRF hr
      split at h
      · rename_i hrf
        cases h; cases hrf
        exact .inl ⟨rfl, rfl, rfl, .inr ⟨_, _, rfl, hr, rfl⟩⟩
      · cases h
  | fut f =>
    simp only [condOperand] at h
    split at h
    · cases h
    · rename_i m' i h1
      split at h
      · cases h
      · rename_i e he
        cases h; exact .inr ⟨_, _, _, rfl, h1, rfl, rfl, rfl, he⟩

theorem addOther_eq_ok {m m1 : Mem} {v : Val} {cs : List PCmd} {o : POp} {t : Option Nat}
    (h : addOther m v = .ok (m1, cs, o, t)) :
    (m1 = m ∧ cs = [] ∧ t = none ∧
      ((∃ x, v = .lit x ∧ o = .lit x) ∨ ∃ hh r, v = .reg hh ∧ handle m hh = .ok (r, false) ∧ o = .reg r)) ∨
    ∃ g i m0, v = .fut g ∧ takeReg m = .ok (m0, i) ∧ accessCmds m0 false (R i) g = .ok (m1, cs) ∧
      o = .reg (R i) ∧ t = some i := by
  cases v with
  | lit x => cases h; exact .inl ⟨rfl, rfl, rfl, .inl ⟨_, rfl, rfl⟩⟩
  | reg hh =>
    simp only [addOther] at h
    split at h
    · cases h
    · rename_i r isRF hr
      split at h
      · cases h
      · rename_i hrf
        cases h
        cases isRF
        · exact .inl ⟨rfl, rfl, rfl, .inr ⟨_, _, rfl, hr, rfl⟩⟩
        · exact absurd rfl hrf
  | fut g =>
    simp only [addOther] at h
    split at h
    · cases h
    · rename_i m0 i h1
      split at h
      · cases h
      · rename_i m2 ld h2
        cases h; exact .inr ⟨_, _, _, rfl, h1, h2, rfl, rfl⟩

theorem branchCmds_eq_ok {m m' : Mem} {c : Cond} {a b : Val} {cs : List PCmd} {l : Lbl}
    (h : branchCmds m c a b = .ok (m', cs, l)) :
    l = (newLabel m 0).2 ∧ ∃ m1 ca oa ta, condOperand (newLabel m 0).1 a = .ok (m1, ca, oa, ta) ∧
      ((c.unary = true ∧ releaseOpt m1 ta = .ok m' ∧ cs = ca ++ [.instr (negBranch c) [oa, .lab l]]) ∨
       (c.unary = false ∧ ∃ m2 cb ob tb m3, condOperand m1 b = .ok (m2, cb, ob, tb) ∧
          releaseOpt m2 ta = .ok m3 ∧ releaseOpt m3 tb = .ok m' ∧
          cs = (ca ++ cb) ++ [.instr (negBranch c) [oa, ob, .lab l]])) := by
  unfold branchCmds at h
  simp only at h
  split at h
  · rename_i hu
    split at h
    · cases h
    · rename_i m1 cs1 oa ta h1
      split at h
      · cases h
      · rename_i m2 h2
        cases h
        exact ⟨rfl, _, _, _, _, h1, .inl ⟨hu, h2, rfl⟩⟩
  · rename_i hu
    split at h
    · cases h
    · rename_i m1 ca oa ta h1
      split at h
      · cases h
      · rename_i m2 cb ob tb h2
        split at h
        · cases h
        · rename_i m3 h3
          split at h
          · cases h
          · rename_i m4 h4
            cases h
            exact ⟨rfl, _, _, _, _, h1, .inr ⟨by simpa using hu, _, _, _, _, _, h2, h3, h4, rfl⟩⟩

theorem buildCondition_eq_ok {m m' : Mem} {c : Cond} {a b : Val} {body cs : List PCmd}
    (h : buildCondition m c a b body = .ok (m', cs)) :
    (body = [] ∧ m' = m ∧ cs = []) ∨
    (body ≠ [] ∧ ∃ st l, branchCmds m c a b = .ok (m', st, l) ∧ cs = st ++ body ++ [.label l]) := by
  unfold buildCondition at h
  split at h
  · rename_i he
    cases h; exact .inl ⟨List.isEmpty_iff.mp he, rfl, rfl⟩
  · rename_i he
    split at h
    · cases h
    · rename_i m1 st l h1
      cases h; exact .inr ⟨fun e => he (List.isEmpty_iff.mpr e), _, _, h1, rfl⟩

theorem breakCmds_eq_ok {m m' : Mem} {ef : Val} {ev : Int} {lx : Lbl} {cs : List PCmd}
    (h : breakCmds m ef ev lx = .ok (m', cs)) :
    ∃ m1 c1 o t, condOperand m ef = .ok (m1, c1, o, t) ∧ releaseOpt m1 t = .ok m' ∧
      cs = c1 ++ [.instr .blt [o, .lit (ev + 1), .lab lx]] := by
  unfold breakCmds at h
  split at h
  · cases h
  · rename_i m1 cs1 o t h1
    split at h
    · cases h
    · rename_i m2 h2
      cases h; exact ⟨_, _, _, _, h1, h2, rfl⟩

theorem emitAddF_eq_ok {m m' : Mem} {f : Fut} {o : Val} {md : Option Int} {cs : List PCmd}
    (h : emitAddF m f o md = .ok (m', cs)) :
    ∃ m1 t m2 ld m3 st m4 ld2 oo tmp2 m5, takeReg m = .ok (m1, t) ∧
      accessCmds m1 false (R t) f = .ok (m2, ld) ∧ accessCmds m2 true (R t) f = .ok (m3, st) ∧
      addOther m3 o = .ok (m4, ld2, oo, tmp2) ∧ release m4 t = .ok m5 ∧ releaseOpt m5 tmp2 = .ok m' ∧
      cs = (ld ++ ld2) ++ [addInstr (R t) oo md] ++ st := by
  unfold emitAddF at h
  split at h
  · cases h
  · rename_i m1 t h1
    split at h
    · cases h
    · rename_i m2 ld h2
      split at h
      · cases h
      · rename_i m3 st h3
        split at h
        · cases h
        · rename_i m4 ld2 oo tmp2 h4
          split at h
          · cases h
          · rename_i m5 h5
            split at h
            · cases h
            · rename_i m6 h6
              cases h; exact ⟨_, _, _, _, _, _, _, _, _, _, _, h1, h2, h3, h4, h5, h6, rfl⟩

theorem emitAddR_eq_ok {m m' : Mem} {hh : Nat} {o : Val} {md : Option Int} {cs : List PCmd}
    (h : emitAddR m hh o md = .ok (m', cs)) :
    ∃ r m1 ld2 oo tmp2, handle m hh = .ok (r, true) ∧ addOther m o = .ok (m1, ld2, oo, tmp2) ∧
      releaseOpt m1 tmp2 = .ok m' ∧ cs = ld2 ++ [addInstr r oo md] := by
  unfold emitAddR at h
  split at h
  · cases h
  · rename_i r isRF hr
    split at h
    · cases h
    · rename_i hrf
      split at h
      · cases h
      · rename_i m1 ld2 oo tmp2 h1
        split at h
        · cases h
        · rename_i m2 h2
          cases h
          cases isRF
          · exact absurd rfl hrf
          · exact ⟨_, _, _, _, _, hr, h1, h2, rfl⟩

theorem firstUnusedMeas_spec {m m' : Mem} {k : Nat} (h : firstUnusedMeas m = .ok (m', k)) :
    m.measUsed.getD k true = false ∧ m' = { m with measUsed := m.measUsed.set k true } := by
  unfold firstUnusedMeas at h
  split at h
  · rename_i i hi
    cases h
    exact ⟨firstFree_spec _ _ hi, rfl⟩
  · cases h

/-- the commands of `emitQop` before the outcome is stored -/
def measHead (g : List Nat) (k : Nat) : List PCmd :=
  [.instr .set [.reg Q0, .lit 0], .instr .qalloc [.reg Q0], .instr .init [.reg Q0]] ++ gateCmds g ++
    [.instr .set [.reg Q0, .lit 0], .instr .meas [.reg Q0, .reg (M k)], .instr .qfree [.reg Q0]]

theorem emitQop_eq_ok {m m' : Mem} {g : List Nat} {tgt : MTgt} {cs : List PCmd}
    (h : emitQop m g tgt = .ok (m', cs)) :
    (∃ m0 f m1 k m2 st,
      (tgt = .newFut ∧ f = .lit m.arrLens.length 0 ∧
          m0 = { m with arrLens := m.arrLens ++ [1],
                        arraysToReturn := m.arraysToReturn ++ [⟨m.arrLens.length, 1, none⟩] } ∨
        tgt = .fut f ∧ m0 = m) ∧
      firstUnusedMeas m0 = .ok (m1, k) ∧ accessCmds m1 true (M k) f = .ok (m2, st) ∧
      m' = { m2 with measUsed := m2.measUsed.set k false } ∧ cs = measHead g k ++ st) ∨
    (∃ m1 k, tgt = .newReg ∧ firstUnusedMeas m = .ok (m1, k) ∧
      m' = bindHandle { m1 with regsToReturn := m1.regsToReturn ++ [M k] } (M k) true ∧
      cs = measHead g k) := by
  unfold emitQop at h
  cases tgt with
  | newFut =>
    simp only at h
    split at h
    · cases h
    · rename_i m1 k h1
      split at h
      · cases h
      · rename_i m2 st h2
        cases h; exact .inl ⟨_, _, _, _, _, _, .inl ⟨rfl, rfl, rfl⟩, h1, h2, rfl, rfl⟩
  | fut f =>
    simp only at h
    split at h
    · cases h
    · rename_i m1 k h1
      split at h
      · cases h
      · rename_i m2 st h2
        cases h; exact .inl ⟨_, _, _, _, _, _, .inr ⟨rfl, rfl⟩, h1, h2, rfl, rfl⟩
  | newReg =>
    simp only at h
    split at h
    · cases h
    · rename_i m1 k h1
      cases h; exact .inr ⟨_, _, rfl, h1, rfl, rfl⟩

theorem emitQop_newReg_eq_ok {m m' : Mem} {g : List Nat} {cs : List PCmd}
    (h : emitQop m g .newReg = .ok (m', cs)) :
    ∃ m1 k, firstUnusedMeas m = .ok (m1, k) ∧
      m' = bindHandle { m1 with regsToReturn := m1.regsToReturn ++ [M k] } (M k) true ∧
      cs = measHead g k := by
  rcases emitQop_eq_ok h with ⟨_, _, _, _, _, _, ⟨h0, _⟩ | ⟨h0, _⟩, _⟩ | ⟨m1, k, _, h1, hm, hc⟩
  · cases h0
  · cases h0
  · exact ⟨m1, k, h1, hm, hc⟩

/-- what a helper that hands a temporary to its caller leaves behind -/
def Took (m m1 : Mem) : Option Nat → Prop
  | none => m1.active = m.active
  | some t => m.active.getD t true = false ∧ m1.active = m.active.set t true

theorem releaseOpt_took {m m1 m2 : Mem} {t : Option Nat} (ht : Took m m1 t)
    (h : releaseOpt m1 t = .ok m2) : m2.active = m.active := by
  cases t with
  | none => obtain rfl := releaseOpt_none h; exact ht
  | some t => exact release_after_take ht.1 ht.2 h

theorem releaseOpt_took_two {m m1 m2 m3 m4 : Mem} {ta tb : Option Nat} (h1 : Took m m1 ta)
    (h2 : Took m1 m2 tb) (r1 : releaseOpt m2 ta = .ok m3) (r2 : releaseOpt m3 tb = .ok m4) :
    m4.active = m.active := by
  cases ta with
  | none => obtain rfl := releaseOpt_none r1; exact (releaseOpt_took h2 r2).trans h1
  | some t =>
    have r3 := release_spec r1
    cases tb with
    | none =>
      obtain rfl := releaseOpt_none r2
      rw [r3.2.1, h2, h1.2]; exact set_restore h1.1
    | some u =>
      rw [(release_spec r2).2.1, r3.2.1, h2.2, h1.2]
      exact restore_two h1.1 (by rw [← h1.2]; exact h2.1)

theorem newLabel_active (m : Mem) (k : Nat) : (newLabel m k).1.active = m.active := rfl

theorem buildLoop_active (m : Mem) (s e d : Int) (r : Reg) (body : List PCmd) :
    (buildLoop m s e d r body).1.active = m.active := by
  unfold buildLoop
  split <;> rfl

theorem firstUnusedMeas_active {m m' : Mem} {k : Nat} (h : firstUnusedMeas m = .ok (m', k)) :
    m'.active = m.active := by
  rw [(firstUnusedMeas_spec h).2]

/-- the three counted loops, which `emit` builds in the same way: `rg` the requested loop register,
`b` whether the handle bound for the body is a `RegFuture`, `s e d` start, stop and step of the index
(`foreach` runs over the static length of its array) -/
inductive LoopOp (m : Mem) : Host → Option Nat → Bool → Int → Int → Int → Host → Prop
  | loop {rg s e d body} : LoopOp m (.loop rg s e d body) rg false s e d body
  | loopBody {rg s e d body} : LoopOp m (.loopBody rg s e d body) rg true s e d body
  | foreach {arr wi body n} : arrLen m arr = .ok n → LoopOp m (.foreach arr wi body) none false 0 n 1 body

theorem emit_newReg_eq_ok {m m' : Mem} {v : Int} {cs : List PCmd} (h : emit m (.newReg v) = .ok (m', cs)) :
    ∃ m1 i, takeReg m = .ok (m1, i) ∧
      m' = bindHandle { m1 with regsToReturn := m1.regsToReturn ++ [R i] } (R i) true ∧
      cs = [.instr .set [.reg (R i), .lit v]] := by
  unfold emit at h
  split at h
  · cases h
  · rename_i m1 i h1
    cases h; exact ⟨_, _, h1, rfl, rfl⟩

/-- `loop_until` has two cases: a body that emits nothing (`untilNil`), and otherwise -/
theorem emit_induct {P : Mem → Host → Mem → List PCmd → Prop}
    (skip : ∀ m, P m .skip m [])
    (seq : ∀ {m m1 m2 a b ca cb}, emit m a = .ok (m1, ca) → emit m1 b = .ok (m2, cb) →
      P m a m1 ca → P m1 b m2 cb → P m (.seq a b) m2 (ca ++ cb))
    (newArray : ∀ m len init n, n ≠ 0 → n = (match init with | some vs => vs.length | none => len) →
      P m (.newArray len init)
        { m with arrLens := m.arrLens ++ [n],
                 arraysToReturn := m.arraysToReturn ++ [⟨m.arrLens.length, n, init⟩] } [])
    (newReg : ∀ {m m1 i} v, takeReg m = .ok (m1, i) →
      P m (.newReg v) (bindHandle { m1 with regsToReturn := m1.regsToReturn ++ [R i] } (R i) true)
        [.instr .set [.reg (R i), .lit v]])
    (qop : ∀ {m m' g t cs}, emitQop m g t = .ok (m', cs) → P m (.qop g t) m' cs)
    (addF : ∀ {m m' f o md cs}, emitAddF m f o md = .ok (m', cs) → P m (.addF f o md) m' cs)
    (addR : ∀ {m m' h o md cs}, emitAddR m h o md = .ok (m', cs) → P m (.addR h o md) m' cs)
    (ifc : ∀ {m m1 m' cb c a b body bc cs}, emit m body = .ok (m1, bc) → P m body m1 bc →
      buildCondition m1 c a b bc = .ok (m', cs) → P m (.ifc cb c a b body) m' cs)
    (loop : ∀ {m op rg b s e d body}, LoopOp m op rg b s e d body → ∀ {m1 i m2 cs m4}, takeAt m rg = .ok (m1, i) →
      emit (bindHandle m1 (R i) b) body = .ok (m2, cs) → P (bindHandle m1 (R i) b) body m2 cs →
      release (buildLoop m2 s e d (R i) cs).1 i = .ok m4 → P m op m4 (buildLoop m2 s e d (R i) cs).2)
    (untilNil : ∀ {m m1 i m2 m3 n body ef ev cl}, takeReg m = .ok (m1, i) →
      emit (bindHandle m1 (R i) true) body = .ok (m2, []) → P (bindHandle m1 (R i) true) body m2 [] →
      release m2 i = .ok m3 → P m (.loopUntil n body ef ev cl) m3 [])
    (untilBody : ∀ {m m1 i m2 cs m5 brk m6 clc m7 n body ef ev cl}, takeReg m = .ok (m1, i) →
      emit (bindHandle m1 (R i) true) body = .ok (m2, cs) → cs ≠ [] →
      P (bindHandle m1 (R i) true) body m2 cs →
      breakCmds (newLabel (newLabel m2 3).1 4).1 ef ev (newLabel (newLabel m2 3).1 4).2 = .ok (m5, brk) →
      emit m5 cl = .ok (m6, clc) → P m5 cl m6 clc → release m6 i = .ok m7 →
      P m (.loopUntil n body ef ev cl) m7
        (loopUntilEntry (R i) n (newLabel m2 3).2 (newLabel (newLabel m2 3).1 4).2 ++ cs ++ brk ++ clc ++
          loopUntilExit (R i) (newLabel m2 3).2 (newLabel (newLabel m2 3).1 4).2))
    (tryUntil : ∀ {m m' n body cs}, emit m body = .ok (m', cs) → P m body m' cs →
      P m (.tryUntil n body) m' cs)
    (epr : ∀ {m m1 evs held}, emitEprH m [] evs = .ok (m1, held) → P m (.epr evs) m1 []) :
    ∀ (op : Host) {m m' : Mem} {cs : List PCmd}, emit m op = .ok (m', cs) → P m op m' cs := by
  -- the shape shared by the three counted loops
  have loopShape : ∀ {m op rg b s e d body}, LoopOp m op rg b s e d body →
      (∀ {m m' cs}, emit m body = .ok (m', cs) → P m body m' cs) → ∀ {m' out},
      (match takeAt m rg with
        | .error e => (.error e : Except BuildError (Mem × List PCmd))
        | .ok (m1, i) =>
          match emit (bindHandle m1 (R i) b) body with
          | .error e => .error e
          | .ok (m2, cs) =>
            let (m3, out) := buildLoop m2 s e d (R i) cs
            match release m3 i with
            | .error e => .error e
            | .ok m4 => .ok (m4, out)) = .ok (m', out) → P m op m' out := by
    intro m op rg b s e d body hop ih m' out h
    simp only at h
    split at h
    · cases h
    · rename_i m1 i h1
      split at h
      · cases h
      · rename_i m2 bc h2
        split at h
        · cases h
        · rename_i m4 h4
          cases h
          exact loop hop h1 h2 (ih h2) h4
  intro op
  induction op with
  | skip => intro m m' cs h; cases h; exact skip m
  | seq a b iha ihb =>
    intro m m' cs h
    unfold emit at h
    split at h
    · cases h
    · rename_i m1 ca h1
      split at h
      · cases h
      · rename_i m2 cb h2
        cases h
        exact seq h1 h2 (iha h1) (ihb h2)
  | newArray len init =>
    intro m m' cs h
    simp only [emit] at h
    split at h <;> split at h
    · cases h
    · rename_i hn; cases h; exact newArray m len _ _ hn rfl
    · cases h
    · rename_i hn; cases h; exact newArray m len _ _ hn rfl
  | newReg v =>
    intro m m' cs h
    obtain ⟨m1, i, h1, rfl, rfl⟩ := emit_newReg_eq_ok h
    exact newReg v h1
  | qop g t => intro m m' cs h; exact qop h
  | addF f o md => intro m m' cs h; exact addF h
  | addR hh o md => intro m m' cs h; exact addR h
  | ifc cb c a b body ih =>
    intro m m' cs h
    unfold emit at h
    split at h
    · cases h
    · rename_i m1 bc h1
      exact ifc h1 (ih h1) h
  | loop rg s e d body ih => intro m m' cs h; exact loopShape .loop ih h
  | loopBody rg s e d body ih => intro m m' cs h; exact loopShape .loopBody ih h
  | foreach arr wi body ih =>
    intro m m' cs h
    unfold emit at h
    split at h
    · cases h
    · rename_i n hn
      exact loopShape (.foreach hn) ih h
  | loopUntil n body ef ev cl ihb ihc =>
    intro m m' cs h
    simp only [emit] at h
    split at h
    · cases h
    · rename_i m1 i h1
      split at h
      · cases h
      · rename_i m2 bc h2
        split at h
        · rename_i he
          obtain rfl := List.isEmpty_iff.mp he
          split at h
          · cases h
          · rename_i m3 h3
            cases h
            exact untilNil h1 h2 (ihb h2) h3
        · rename_i he
          split at h
          · cases h
          · rename_i m5 brk h5
            split at h
            · cases h
            · rename_i m6 clc h6
              split at h
              · cases h
              · rename_i m7 h7
                cases h
                exact untilBody h1 h2 (fun e => he (List.isEmpty_iff.mpr e)) (ihb h2) h5 h6 (ihc h6) h7
  | tryUntil n body ih => intro m m' cs h; exact tryUntil h (ih h)
  | epr evs =>
    intro m m' cs h
    unfold emit at h
    split at h
    · cases h
    · rename_i m1 held h1
      cases h
      exact epr h1

theorem LoopOp.completed {m : Mem} {op body : Host} {rg : Option Nat} {b : Bool} {s e d : Int}
    (h : LoopOp m op rg b s e d body) :
    Completed op → Completed body := by cases h <;> exact id

theorem emit_newReg_active {m m' : Mem} {v : Int} {cs : List PCmd}
    (h : emit m (.newReg v) = .ok (m', cs)) :
    ∃ i, m.active.getD i true = false ∧ m'.active = m.active.set i true := by
  obtain ⟨m1, i, h1, rfl, _⟩ := emit_newReg_eq_ok h
  exact ⟨i, (takeReg_spec h1).1, (takeReg_spec h1).2.1⟩

/-- only an initialiser with all entries equal takes a register (for its loop) -/
theorem initArray_eq_ok {m m' : Mem} {pend out : List PCmd} {d : ArrDecl}
    (h : initArray m pend d = .ok (m', out)) :
    (m' = m ∧ ∃ cs, out = pend ++ .instr .array [.lit d.len, .addr d.addr] :: cs ∧
      (cs = [] ∨ ∃ vs, cs = storeInits d.addr 0 vs)) ∨
    ∃ vs v i m1, d.init = some vs ∧ getInactive m = .ok i ∧ activate m i = .ok m1 ∧
      release (buildLoop m1 0 vs.length 1 (R i) [.instr .store [.lit v, .entryR d.addr (R i)]]).1 i
        = .ok m' ∧
      out = .instr .array [.lit d.len, .addr d.addr] :: (pend ++
        (buildLoop m1 0 vs.length 1 (R i) [.instr .store [.lit v, .entryR d.addr (R i)]]).2) := by
  unfold initArray at h
  simp only at h
  split at h
  · cases h; exact .inl ⟨rfl, [], rfl, .inl rfl⟩
  · rename_i vs hvs
    split at h
    · split at h
      · cases h
      · rename_i i hi
        split at h
        · cases h
        · rename_i m1 h1
          split at h
          · cases h
          · rename_i m3 h3
            cases h; exact .inr ⟨_, _, _, _, hvs, hi, h1, h3, rfl⟩
    · cases h; exact .inl ⟨rfl, _, rfl, .inr ⟨_, rfl⟩⟩

theorem flush_eq_ok {m m' : Mem} {pend : List PCmd} {sub : Option (List PCmd)}
    (h : flush m pend = .ok (m', sub)) :
    ∃ m1 ini, initArrays m [] m.arraysToReturn = .ok (m1, ini) ∧
      ((m' = m1 ∧ sub = none ∧ pend = []) ∨
       (m' = { m1 with arraysToReturn := [], regsToReturn := [], measUsed := List.replicate 16 false } ∧
        sub = some (ini ++ pend ++ m1.arraysToReturn.map (fun d => PCmd.instr .retArr [.addr d.addr])
          ++ m1.regsToReturn.map (fun r => PCmd.instr .retReg [.reg r])))) := by
  unfold flush at h
  split at h
  · cases h
  · rename_i m1 ini h1
    simp only at h
    split at h
    · rename_i he
      cases h
      have := List.isEmpty_iff.mp he
      simp only [List.append_eq_nil_iff] at this
      exact ⟨_, _, h1, .inl ⟨rfl, rfl, this.1.1.2⟩⟩
    · cases h; exact ⟨_, _, h1, .inr ⟨rfl, rfl⟩⟩

theorem free_set_true : ∀ (l : List Bool) (i : Nat), l.getD i true = false →
    free (l.set i true) + 1 = free l
  | [], i, h => by simp at h
  | b :: bs, 0, h => by
    simp at h; subst h; simp [free]; omega
  | b :: bs, i + 1, h => by
    have := free_set_true bs i (by simpa using h)
    simp [free, List.set]; omega

theorem free_set_false (l : List Bool) (i : Nat) (h : l.getD i false = true) :
    free (l.set i false) = free l + 1 := by
  have := free_set_true (l.set i false) i (getD_set_self (getD_false_true_lt h) _ _)
  rw [List.set_set, set_same (b := true) h] at this
  exact this.symm

theorem free_eq_zero : ∀ {l : List Bool}, firstFree l = none → free l = 0
  | [], _ => rfl
  | true :: bs, h => by
    simp only [firstFree, if_true, Option.map_eq_none_iff] at h
    simpa [free] using free_eq_zero h
  | false :: bs, h => by simp [firstFree] at h

/-! the primitives succeed where a register is free -/

theorem getInactive_ok {m : Mem} (h : 0 < free m.active) : ∃ i, getInactive m = .ok i := by
  cases hf : firstFree m.active with
  | none => exact absurd (free_eq_zero hf) (by omega)
  | some i => exact ⟨i, by simp [getInactive, hf]⟩

theorem activate_ok {m : Mem} {i : Nat} (h : m.active.getD i true = false) :
    ∃ m', activate m i = .ok m' := by
  unfold activate
  rw [if_neg (by rw [h]; simp)]
  exact ⟨_, rfl⟩

theorem takeReg_ok {m : Mem} (h : 0 < free m.active) : ∃ m' i, takeReg m = .ok (m', i) := by
  obtain ⟨i, hi⟩ := getInactive_ok h
  obtain ⟨m', hm⟩ := activate_ok (getInactive_spec hi)
  exact ⟨m', i, by simp [takeReg, hi, hm]⟩

end NQ.Sdk
