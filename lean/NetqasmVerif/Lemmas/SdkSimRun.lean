/-
Compiler correctness of the SDK builder model (C05), part 9: the segmented view (`compileSegs`,
`hrunSegs`) is what the driver-checked functions `Sdk.run` and `hrun` compute on a program whose
segments are each closed by a flush.
-/
import NetqasmVerif.Lemmas.SdkSimProg
namespace NQ.Sdk

def flat : List (List Host) → List Top
  | [] => []
  | ops :: rest => ops.map Top.op ++ Top.flush :: flat rest

theorem runProg_ops : ∀ (ops : List Host) (m : Mem) (pend : List PCmd) (step : Nat) (acc : RunOut) (rest : List Top),
    (∀ m1 cs, emitOps m ops = .ok (m1, cs) →
      ∃ acc', runProg m pend step acc (ops.map Top.op ++ rest) = runProg m1 (pend ++ cs) (step + ops.length) acc' rest ∧
        acc'.subs = acc.subs ∧ acc'.err = acc.err) ∧
    (∀ e, emitOps m ops = .error e → (runProg m pend step acc (ops.map Top.op ++ rest)).err ≠ none) := by
  intro ops
  induction ops with
  | nil =>
    intro m pend step acc rest
    constructor
    · intro m1 cs h
      simp [emitOps] at h; obtain ⟨rfl, rfl⟩ := h
      exact ⟨acc, by simp, rfl, rfl⟩
    · intro e h; simp [emitOps] at h
  | cons op ops ih =>
    intro m pend step acc rest
    constructor
    · intro m1 cs h
      dsimp only [emitOps] at h
      split at h
      · cases h
      · rename_i m' c1 h1
        split at h
        · cases h
        · rename_i m2 c2 h2
          cases h
          obtain ⟨acc', hrun, hs, he⟩ := (ih m' (pend ++ c1) (step + 1)
            { acc with snaps := acc.snaps ++ [m'.snap] } rest).1 m1 c2 h2
          refine ⟨acc', ?_, hs, he⟩
          simp only [List.map_cons, List.cons_append, runProg, h1]
          rw [hrun]
          simp [List.append_assoc, Nat.add_assoc, Nat.add_comm 1]
    · intro e h
      dsimp only [emitOps] at h
      split at h
      · rename_i e1 h1
        simp only [List.map_cons, List.cons_append, runProg, h1]
        simp
      · rename_i m' c1 h1
        split at h
        · rename_i e2 h2
          simp only [List.map_cons, List.cons_append, runProg, h1]
          exact (ih m' (pend ++ c1) (step + 1) _ rest).2 e2 h2
        · cases h

theorem run_segs : ∀ (segs : List (List Host)) (m : Mem) (step : Nat) (acc : RunOut),
    (runProg m [] step acc (flat segs)).err = none →
    ∃ m' subs, compileSegs m segs = .ok (m', subs) ∧
      (runProg m [] step acc (flat segs)).subs = acc.subs ++ subs ∧
      (runProg m [] step acc (flat segs)).mem = m' := by
  intro segs
  induction segs with
  | nil => intro m step acc _; exact ⟨m, [], rfl, by simp [flat, runProg], by simp [flat, runProg]⟩
  | cons ops rest ih =>
    intro m step acc herr
    simp only [flat] at herr ⊢
    cases he : emitOps m ops with
    | error e => exact absurd herr ((runProg_ops ops m [] step acc _).2 e he)
    | ok r =>
      obtain ⟨m1, pend⟩ := r
      obtain ⟨acc', hrun, hs, hee⟩ := (runProg_ops ops m [] step acc (Top.flush :: flat rest)).1 m1 pend he
      rw [hrun] at herr ⊢
      simp only [List.nil_append, runProg] at herr ⊢
      cases hf : flush m1 pend with
      | error e =>
        rw [hf] at herr
        simp at herr
      | ok r2 =>
        obtain ⟨m2, sub⟩ := r2
        rw [hf] at herr
        simp only at herr ⊢
        obtain ⟨m', subs, hc, hsub, hmem⟩ := ih m2 _ _ herr
        refine ⟨m', sub :: subs, by simp [compileSegs, he, hf, hc], ?_, hmem⟩
        rw [hsub, hs]; simp

theorem splitSeg_flat (ops : List Host) (rest : List Top) :
    splitSeg (ops.map Top.op ++ Top.flush :: rest) = (ops, some rest) := by
  induction ops with
  | nil => simp [splitSeg]
  | cons o os ih => simp [splitSeg, ih]

theorem hrunProg_segs (fuel : Nat) : ∀ (segs : List (List Host)) (g nh na : Nat) (s : HSt) (vs : List HView),
    segs.length < g →
    (hrunProg fuel g nh na s vs (flat segs)).final = (hrunSegs fuel nh na s segs).map (·.1) := by
  intro segs
  induction segs with
  | nil =>
    intro g nh na s vs hg
    cases g with
    | zero => omega
    | succ g => simp [flat, hrunProg, splitSeg, runSegment, segDecls, initDecls, runOps, hrunSegs]
  | cons ops rest ih =>
    intro g nh na s vs hg
    cases g with
    | zero => omega
    | succ g =>
      simp only [flat, hrunProg, splitSeg_flat, hrunSegs]
      cases hseg : runSegment fuel nh na ops s with
      | none => simp
      | some r =>
        obtain ⟨s1, nh1, na1⟩ := r
        simp only
        rw [ih g nh1 na1 _ _ (by simp at hg; omega)]
        cases hrunSegs fuel nh1 na1 (clearAll s1 (segMHandles nh ops)) rest with
        | none => simp
        | some r2 => simp

theorem flat_length_ge : ∀ (segs : List (List Host)), segs.length ≤ (flat segs).length
  | [] => by simp [flat]
  | ops :: rest => by
    have := flat_length_ge rest
    simp [flat]; omega

end NQ.Sdk
