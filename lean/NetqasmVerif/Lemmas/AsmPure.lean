/-
C03: the assembler as a function of VALUES.

* `IR` / `deref`: a proto program as programs build it — commands, operand lists and bracket
  operands are objects that may be shared; its meaning is `deref ir`, the list of command values.
  `assembleIR` is what `assemble_subroutine` has to compute on such an IR.
* `buildAll_noop`: a program that `_build_subroutine` accepts (no labels, every literal at an exempt
  position, registers inside brackets) is a fixed point of the three passes — so assembling the SAME
  ProtoSubroutine object a second time (the passes rewrite the IR in place, by design) gives the same
  subroutine (`assemble_twice`).
-/
import NetqasmVerif.Lemmas.AsmBuild
namespace NQ.Asm
open NQ

/-- object graph of a `ProtoSubroutine`: `cmds[i]` names a command object, a command object names
its operands-list object, a list object names operand objects -/
structure IR where
  order : List Nat                       -- the command objects in program order (an object may occur twice)
  cmdObj : Nat → Option (Sum String (String × List Int × Nat))   -- label | (mnemonic, args, operands-list object)
  listObj : Nat → List Nat               -- operands-list object ↦ operand objects
  opObj : Nat → POperand                 -- operand object ↦ its value

def IR.deref (ir : IR) : List PCmd :=
  ir.order.filterMap (fun c =>
    match ir.cmdObj c with
    | none => none
    | some (.inl l) => some (.label l)
    | some (.inr (mn, args, lst)) => some (.instr mn args ((ir.listObj lst).map ir.opObj)))

def assembleIR (T : Table) (exc : List (String × Nat)) (n : Nat) (ir : IR) (reserved : List Reg := []) :
    Except Err (List Instr) :=
  assemble T exc n ir.deref reserved

theorem patch_nil (o : POperand) : patchOp [] o = o := by
  cases o <;> simp [patchOp, lookupLabel]

theorem noArgs_makeArgs_id {P : List PCmd} (h : NoArgs P) : makeArgsOperands P = P := by
  induction P with
  | nil => rfl
  | cons x xs ih =>
    have := ih (fun mn a o hm => h mn a o (List.mem_cons_of_mem _ hm))
    cases x with
    | label l => simp only [makeArgsOperands, List.map_cons, makeArgsCmd] at this ⊢; rw [this]
    | instr mn a o =>
      have ha : a = [] := h mn a o (by simp)
      subst ha
      simp only [makeArgsOperands, List.map_cons, makeArgsCmd, allOps, List.map_nil, List.nil_append] at this ⊢
      rw [this]

def isImmKind : FieldKind → Bool
  | .imm8 | .int32 => true
  | _ => false

/-- decidable table condition: every immediate position of the row is exempt -/
def immExempt (exc : List (String × Nat)) (mn : String) : Nat → List FieldKind → Bool
  | _, [] => true
  | j, k :: ks => (!isImmKind k || exc.contains (mn, j)) && immExempt exc mn (j + 1) ks

/-- An operand that `buildOp` accepts is the read-back `embedOp x` of the built one (no label, registers
inside brackets, a literal only at an immediate kind), and on such an operand both rewriting passes
compute to the identity; `hk`: an immediate position is exempt from constant replacement. -/
theorem buildOp_noop {k : FieldKind} {o : POperand} {x : Operand} (h : buildOp k o = some x) {c : RcCfg}
    {mn : String} {j : Nat} (hk : isImmKind k = true → c.exc.contains (mn, j) = true) (tmp : List Reg)
    (tbl : List (String × Nat)) : rcOp c mn j o tmp = .ok ([], o, tmp) ∧ patchOp tbl o = o := by
  cases buildOp_embed h
  cases x with
  | imm v =>
    have : c.exc.contains (mn, j) = true := hk (by cases k <;> first | rfl | cases h)
    exact ⟨by simp only [embedOp, rcOp, this, if_true], rfl⟩
  | _ => exact ⟨rfl, rfl⟩

theorem buildOps_noop {ks : List FieldKind} {os : List POperand} {xs : List Operand} (hb : buildOps ks os = some xs)
    {c : RcCfg} {mn : String} {j : Nat} (he : immExempt c.exc mn j ks = true) (tmp : List Reg)
    (tbl : List (String × Nat)) : rcOps c mn j os tmp = .ok ([], os, tmp) ∧ os.map (patchOp tbl) = os := by
  induction os generalizing ks j xs with
  | nil => exact ⟨rfl, rfl⟩
  | cons o os ih =>
    cases ks with
    | nil => cases hb
    | cons k ks' =>
      obtain ⟨x, xs', h1, h2, -⟩ := buildOps_cons_some hb
      simp only [immExempt, Bool.and_eq_true, Bool.or_eq_true, Bool.not_eq_true'] at he
      obtain ⟨a, b⟩ := buildOp_noop h1 (c := c) (mn := mn) (j := j) (fun hi => he.1.resolve_left (by simp [hi])) tmp tbl
      obtain ⟨a', b'⟩ := ih h2 he.2
      exact ⟨by simp only [rcOps, a, a']; rfl, by rw [List.map_cons, b, b']⟩

/-- a program that `buildAll` accepts is left as it is by constant replacement and by label resolution, and
defines no label -/
theorem buildAll_noop {T : Table} {c : RcCfg} (hE : T.all (fun r => immExempt c.exc r.mn 0 r.shape) = true)
    {P2 : List PCmd} {A : List Instr} (h : buildAll T P2 = .ok A) (tbl : List (String × Nat)) :
    rcAll c P2 = .ok P2 ∧ (∀ n, labelTable P2 n = []) ∧ P2.filterMap (patchCmd tbl) = P2 := by
  induction P2 generalizing A with
  | nil => exact ⟨rfl, fun _ => rfl, rfl⟩
  | cons cm cs ih =>
    obtain ⟨i, is, h1, h2, -⟩ := buildAll_cons_ok h
    obtain ⟨a, b, d⟩ := ih h2
    cases cm with
    | label l => cases h1
    | instr mn args ops =>
      obtain ⟨row, os, hn, hb, -⟩ := build_instr_ok h1
      have hm := lastBy_some_mem hn
      have he := (List.all_eq_true.1 hE) row hm.1
      rw [show row.mn = mn by simpa using hm.2] at he
      obtain ⟨p, q⟩ := buildOps_noop hb he [] tbl
      exact ⟨by simp [rcAll, rcCmd, p, a], fun n => by simp [labelTable, b], by simp [patchCmd, q, d]⟩

/-- **assembling twice.**  After `assemble_subroutine` the IR holds the rewritten commands (the passes
work in place): `A.map (embed T)`, by `assemble_embed`.  Assembling that IR again — with any reserved
set — gives the same subroutine. -/
theorem assemble_twice {T : Table} (hT : TableOk T) {exc : List (String × Nat)}
    (hE : T.all (fun r => immExempt exc r.mn 0 r.shape) = true) {n : Nat} {P : List PCmd} {A : List Instr}
    {reserved : List Reg} (h : assemble T exc n P reserved = .ok A) (reserved' : List Reg) :
    assemble T exc n (A.map (embed T)) reserved' = .ok A := by
  obtain ⟨P2, h1, h2⟩ := assemble_inv h
  have hna := noArgs_assembleProto h1
  rw [buildAll_embed hT hna h2]
  obtain ⟨a, b, d⟩ := buildAll_noop (c := ⟨exc, n, currentRegisters P2 ++ reserved'⟩) hE h2 []
  simp [assemble, assembleProto, replaceConstants, noArgs_makeArgs_id hna, a, assignBranchLabels, b, hasDup, d, h2]

/-- the model has no object identity: `assembleIR` is DEFINED on `deref`, so two IRs with the same
command VALUES, however their objects are shared, assemble to the same subroutine (that the real
`assemble_subroutine` behaves so is checked by the differential streams, not proved) -/
theorem assemble_pure (T : Table) (exc : List (String × Nat)) (n : Nat) (reserved : List Reg) (ir₁ ir₂ : IR)
    (h : ir₁.deref = ir₂.deref) : assembleIR T exc n ir₁ reserved = assembleIR T exc n ir₂ reserved := by
  simp only [assembleIR, h]

end NQ.Asm
