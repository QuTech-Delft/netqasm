/-
Character level, one operand: `parseOperand S (showOperand S o) = .ok (opTok o)`
(`parseOperand_show`).  Addresses go through `parseAddress_index`, which reduces `@a[R]` for any
bracket-free `R` to `parseIndex S a R` (the part of `parseAddress` that reads the text between
the brackets); `parseIndex_entry` / `parseIndex_slice` evaluate that.  The bracket values are
stated for `PVal` (`showVal`: a register or an integer, `parseAddress_entry_val`,
`parseAddress_slice_val`) because source programs also write integers there
(`Lemmas/AsmTextOperand.lean`); printed instructions only have registers
(`parseAddress_entry`, `parseAddress_slice`).
-/
import NetqasmVerif.Lemmas.TextLex
namespace NQ.Text
open NQ

variable {S : Syms}

theorem parseTopVal_showInt (v : Int) : parseTopVal S (showInt v) = .ok (.lit v) := by
  simp [parseTopVal, parseConst_showInt]

theorem parseTopVal_showReg (hS : SOk S) (r : Reg) (hb : r.bank < S.banks.length) :
    parseTopVal S (showReg S r) = .ok (.reg r) := by
  simp only [parseTopVal, parseConst_showReg hS r hb, parseRegister_showReg hS r hb]
  simp [showReg]

theorem showInt_opChars (v : Int) : ∀ c ∈ showInt v, opChar S c = true :=
  fun c hc => numChar_opChar (showInt_chars v c hc)

theorem idxOpen_notin_base (hS : SOk S) (a : Int) : S.idxOpen ∉ S.addrStart :: showInt a := fun h => by
  rcases List.mem_cons.1 h with h | h
  · exact hS.oa h
  · exact notin_of_class (showInt_opChars a) hS.symO.1 h

theorem dropWhile_addrStart_base (hS : SOk S) (a : Int) :
    (S.addrStart :: showInt a).dropWhile (fun c => decide (c = S.addrStart)) = showInt a := by
  have : (showInt a).dropWhile (fun c => decide (c = S.addrStart)) = showInt a :=
    dropWhile_all_false fun c hc => decide_eq_false fun h =>
      notin_of_class (showInt_opChars a) hS.symA.1 (h ▸ hc)
  simp [List.dropWhile, this]

theorem isBr_false (hS : SOk S) {c : Char} (h : opChar S c = true) :
    (decide (c = S.idxOpen) || decide (c = S.idxClose)) = false := by
  simp only [Bool.or_eq_false_iff, decide_eq_false_iff_not]
  constructor
  · intro hc; subst hc; simp [hS.symO.1] at h
  · intro hc; subst hc; simp [hS.symC.1] at h

theorem parseAddress_addr (hS : SOk S) (a : Int) :
    parseAddress S (S.addrStart :: showInt a) = .ok (.addr a) := by
  simp only [parseAddress, findChar_notin (idxOpen_notin_base hS a), dropWhile_addrStart_base hS a,
    parseVal_showInt]
  simp

theorem inner_eq_of_noBr (R : List Char)
    (hbr : ∀ c ∈ R, (decide (c = S.idxOpen) || decide (c = S.idxClose)) = false)
    (hne : R ≠ []) (hstrip : strip R = R) :
    strip (dropWhileEnd (fun c => decide (c = S.idxOpen) || decide (c = S.idxClose))
      ((S.idxOpen :: (R ++ [S.idxClose])).dropWhile
        (fun c => decide (c = S.idxOpen) || decide (c = S.idxClose)))) = R := by
  rw [← List.cons_append, trim_wrapped (by simp) (by simp) hbr hne, hstrip]

/-- what `parse_address` does with the text between the brackets -/
def parseIndex (S : Syms) (a : Int) (inner : List Char) : Except TErr POp :=
  if inner.contains S.sliceDelim then
    match splitOn S.sliceDelim inner with
    | [s, e] =>
      match parseVal S (strip s) with
      | .error er => .error er
      | .ok s' =>
        match parseVal S (strip e) with
        | .error er => .error er
        | .ok e' => .ok (.slice a s' e')
    | _ => .error .value
  else
    match parseVal S inner with
    | .error er => .error er
    | .ok i => .ok (.entry a i)

theorem parseIndex_entry {a : Int} {inner : List Char} {i : PVal} (hd : S.sliceDelim ∉ inner)
    (hi : parseVal S inner = .ok i) : parseIndex S a inner = .ok (.entry a i) := by
  rw [parseIndex, if_neg (by simpa using hd), hi]

theorem parseIndex_slice {a : Int} {l r : List Char} {s e : PVal} (hl : S.sliceDelim ∉ l)
    (hr : S.sliceDelim ∉ r) (hs : parseVal S (strip l) = .ok s) (he : parseVal S (strip r) = .ok e) :
    parseIndex S a (l ++ S.sliceDelim :: r) = .ok (.slice a s e) := by
  rw [parseIndex, if_pos (by simp), splitOn_append hl, splitOn_notin hr]
  simp only [hs, he]

theorem parseAddress_index (hS : SOk S) (a : Int) (R : List Char)
    (hbr : ∀ c ∈ R, (decide (c = S.idxOpen) || decide (c = S.idxClose)) = false)
    (hne : R ≠ []) (hstrip : strip R = R) :
    parseAddress S (S.addrStart :: showInt a ++ S.idxOpen :: R ++ [S.idxClose]) = parseIndex S a R := by
  have hw : S.addrStart :: showInt a ++ S.idxOpen :: R ++ [S.idxClose]
      = (S.addrStart :: showInt a) ++ S.idxOpen :: (R ++ [S.idxClose]) := by simp
  simp only [parseAddress, List.getLast?_concat]
  rw [hw, findChar_append (idxOpen_notin_base hS a)]
  simp only [beq_self_eq_true, if_true, List.take_left' rfl, List.drop_left' rfl,
    dropWhile_addrStart_base hS a,
    parseVal_showInt, List.isEmpty_cons, Bool.false_eq_true, if_false,
    inner_eq_of_noBr R hbr hne hstrip]
  rfl

/-- `str` of a bracket value (`Register.__str__` or `str(int)`) -/
def showVal (S : Syms) : PVal → List Char
  | .int v => showInt v
  | .reg r => showReg S r

def valOk (S : Syms) : PVal → Prop
  | .int _ => True
  | .reg r => r.bank < S.banks.length

theorem showVal_chars (p : PVal) (hp : valOk S p) : ∀ c ∈ showVal S p, opChar S c = true := by
  cases p with
  | int v => exact showInt_opChars v
  | reg r => exact showReg_chars r hp

theorem parseVal_showVal (hS : SOk S) (p : PVal) (hp : valOk S p) : parseVal S (showVal S p) = .ok p := by
  cases p with
  | int v => exact parseVal_showInt v
  | reg r => exact parseVal_showReg hS r hp

theorem strip_showVal (hS : SOk S) (p : PVal) (hp : valOk S p) : strip (showVal S p) = showVal S p := by
  cases p with
  | int v => exact strip_showInt hS v
  | reg r => exact strip_showReg hS r hp

theorem showVal_ne_nil (p : PVal) : showVal S p ≠ [] := by
  cases p with
  | int v => exact showInt_ne_nil v
  | reg r => simp [showVal, showReg]

theorem showVal_last (p : PVal) : ∃ l c, showVal S p = l ++ [c] ∧ isDigit c = true := by
  cases p with
  | int v => exact showInt_last v
  | reg r => exact last_append (fun _ h => h) [bankChar S r.bank] (showInt_last r.idx)

def showEntry (S : Syms) (a : Int) (i : PVal) : List Char :=
  S.addrStart :: showInt a ++ S.idxOpen :: showVal S i ++ [S.idxClose]

def showSlice (S : Syms) (a : Int) (s e : PVal) : List Char :=
  S.addrStart :: showInt a ++ S.idxOpen :: showVal S s ++ S.sliceDelim :: showVal S e ++ [S.idxClose]

theorem parseAddress_entry_val (hS : SOk S) (a : Int) (i : PVal) (hi : valOk S i) :
    parseAddress S (showEntry S a i) = .ok (.entry a i) := by
  have hR := showVal_chars i hi
  rw [showEntry, parseAddress_index hS a _ (fun c hc => isBr_false hS (hR c hc)) (showVal_ne_nil i)
    (strip_showVal hS i hi),
    parseIndex_entry (notin_of_class hR hS.symD.1) (parseVal_showVal hS i hi)]

theorem parseAddress_slice_val (hS : SOk S) (a : Int) (s e : PVal) (hs : valOk S s) (he : valOk S e) :
    parseAddress S (showSlice S a s e) = .ok (.slice a s e) := by
  have hRs := showVal_chars s hs
  have hRe := showVal_chars e he
  have hstrip : strip (showVal S s ++ S.sliceDelim :: showVal S e)
      = showVal S s ++ S.sliceDelim :: showVal S e :=
    strip_of_all (List.forall_mem_append.2 ⟨fun c hc => opChar_not_space hS (hRs c hc),
      List.forall_mem_cons.2 ⟨hS.symD.2, fun c hc => opChar_not_space hS (hRe c hc)⟩⟩)
  have hbr : ∀ c ∈ showVal S s ++ S.sliceDelim :: showVal S e,
      (decide (c = S.idxOpen) || decide (c = S.idxClose)) = false :=
    List.forall_mem_append.2 ⟨fun c hc => isBr_false hS (hRs c hc),
      List.forall_mem_cons.2 ⟨by simp [hS.dO, hS.dC], fun c hc => isBr_false hS (hRe c hc)⟩⟩
  have hw : showSlice S a s e = S.addrStart :: showInt a ++
      S.idxOpen :: (showVal S s ++ S.sliceDelim :: showVal S e) ++ [S.idxClose] := by
    simp [showSlice]
  rw [hw, parseAddress_index hS a _ hbr (by simp [showVal_ne_nil]) hstrip,
    parseIndex_slice (notin_of_class hRs hS.symD.1) (notin_of_class hRe hS.symD.1)
      (by rw [strip_showVal hS s hs]; exact parseVal_showVal hS s hs)
      (by rw [strip_showVal hS e he]; exact parseVal_showVal hS e he)]

theorem parseAddress_entry (hS : SOk S) (a : Int) (i : Reg) (hb : i.bank < S.banks.length) :
    parseAddress S (showOperand S (.entry a i)) = .ok (.entry a (.reg i)) :=
  parseAddress_entry_val hS a (.reg i) hb

theorem parseAddress_slice (hS : SOk S) (a : Int) (s e : Reg) (hs : s.bank < S.banks.length)
    (he : e.bank < S.banks.length) :
    parseAddress S (showOperand S (.slice a s e)) = .ok (.slice a (.reg s) (.reg e)) :=
  parseAddress_slice_val hS a (.reg s) (.reg e) hs he

theorem parseOperand_opChars (hS : SOk S) {l : List Char} (hl : ∀ c ∈ l, opChar S c = true) :
    parseOperand S l = parseTopVal S l := by
  have : ¬ l.head? = some S.addrStart := fun h => by
    cases l with
    | nil => cases h
    | cons c cs =>
      have := hl c List.mem_cons_self
      rw [Option.some.inj h, hS.symA.1] at this; cases this
  simp only [parseOperand, beq_iff_eq, this, if_false]

theorem parseOperand_addrStart {w : List Char} (h : w.head? = some S.addrStart) :
    parseOperand S w = parseAddress S w := by
  simp only [parseOperand, h, beq_self_eq_true, if_true]

theorem parseOperand_show (hS : SOk S) (o : Operand) (hb : banksOk S.banks.length o = true) :
    parseOperand S (showOperand S o) = .ok (opTok o) := by
  cases o with
  | reg r =>
    simp only [banksOk, decide_eq_true_eq] at hb
    exact (parseOperand_opChars hS (showReg_chars r hb)).trans (parseTopVal_showReg hS r hb)
  | imm v => exact (parseOperand_opChars hS (showInt_opChars v)).trans (parseTopVal_showInt v)
  | addr a => exact (parseOperand_addrStart rfl).trans (parseAddress_addr hS a)
  | entry a i =>
    simp only [banksOk, decide_eq_true_eq] at hb
    exact (parseOperand_addrStart rfl).trans (parseAddress_entry hS a i hb)
  | slice a s e =>
    simp only [banksOk, Bool.and_eq_true, decide_eq_true_eq] at hb
    exact (parseOperand_addrStart rfl).trans (parseAddress_slice hS a s e hb.1 hb.2)

end NQ.Text
