/-
Bridge between the EPR bookkeeping model (`Model/Epr.lean`, C12) and the controller model of C04/C13
(`Model/Exec.lean`) on the part they share: unit modules and the set of used physical qubits.
A keep-response consumed by C12's handler is exactly a successful (not deferred, not faulting)
`Exec.keepResp`, so C13's invariant is preserved by real response handling with a hypothesis on the
link layer's physical id only.
-/
import NetqasmVerif.Lemmas.EprInv
import NetqasmVerif.Lemmas.ExecInvStep
namespace NQ.Bridge
open NQ

/-- exec's unit module (physical ids as `Nat`) seen with Python ints -/
def liftU (u : List (Option Nat)) : List (Option Int) := u.map (Option.map Int.ofNat)

/-- the two models agree on the shared state: every application the EPR model knows exists in the
controller model with the same unit module, and the same physical qubits are marked used. -/
structure UnitRel (e : Epr.State) (x : Exec.State) : Prop where
  apps : ∀ a m, Epr.getApp e.apps a = some m → ∃ ap, x.apps a = some ap ∧ m.unit = liftU ap.unit
  used : ∀ q : Nat, (q : Int) ∈ e.used ↔ q ∈ x.used

theorem liftU_length (u : List (Option Nat)) : (liftU u).length = u.length := by simp [liftU]

theorem liftU_getD (u : List (Option Nat)) (k : Nat) :
    ((liftU u).getD k none).isSome = (u[k]?.join).isSome := by
  simp only [liftU, List.getD_eq_getElem?_getD, List.getElem?_map]
  cases h : u[k]? with
  | none => simp
  | some o => cases o <;> simp

theorem liftU_set (u : List (Option Nat)) (i p : Nat) :
    (liftU u).set i (some (p : Int)) = liftU (u.set i (some p)) := by
  simp [liftU, List.map_set]

theorem mem_addUsed (l : List Int) (p q : Int) : q ∈ Epr.addUsed l p ↔ q = p ∨ q ∈ l := by
  unfold Epr.addUsed
  split
  · rename_i h
    have : p ∈ l := by simpa using h
    constructor
    · exact Or.inr
    · rintro (rfl | h) <;> assumption
  · simp [or_comm]

/-- A keep-response consumed by the handler of the EPR model is a successful `Exec.keepResp` on the
related controller state, for the virtual address the handler read from the request's qubit array;
the states stay related. -/
theorem keep_consumption_simulated {okf : Nat} {e e' : Epr.State} {r : Epr.Resp} {x : Exec.State} {p : Nat}
    (hR : UnitRel e x) (hc : Epr.Consumed okf e r e') (hK : r.ty = .K) (hp : r.phys = (p : Int)) :
    ∃ (app : Nat) (v : Int) (i : Nat),
      (Exec.keepResp x app v p).2 = none ∧
      UnitRel e' (Exec.keepResp x app v p).1 ∧
      Epr.mapped e app i = none ∧ Epr.mapped e' app i = some (p : Int) := by
  obtain ⟨hd, rest, app, m, m1, used1, vq, prev, arr, arr', c⟩ := hc.parts
  have happ := c.mem
  have hs := c.eq
  obtain ⟨qa, qarr, v, i, _, _, _, hhv, hi, hm1, hu1, _, _⟩ := c.keep hK
  obtain ⟨ap, hxa, hmu⟩ := hR.apps app m happ
  have hlen : m.unit.length = ap.unit.length := by rw [hmu, liftU_length]
  obtain ⟨hfree, hilt⟩ := Epr.allocPos_free hi
  obtain ⟨hvn, hpy, _⟩ := Epr.allocPos_some hi
  rw [hlen] at hvn
  rw [Epr.pyIdx_eq, hlen] at hpy
  have hfree' : ap.unit[i]?.join = none := by
    have := liftU_getD ap.unit i
    rw [← hmu, hfree] at this
    cases h : ap.unit[i]?.join with
    | none => rfl
    | some q => rw [h] at this; cases this
  have hnotdef : ¬ (0 ≤ v ∧ v < (ap.unit.length : Int) ∧ (ap.unit[v.toNat]?.join).isSome = true) := by
    rintro ⟨h0, hlt, hs'⟩
    unfold Epr.hasVirtual at hhv
    rw [if_neg (by rw [hlen]; omega)] at hhv
    rw [hmu, liftU_getD] at hhv
    rw [hhv] at hs'; cases hs'
  have hres : Exec.keepResp x app v p =
      ({ x with used := Exec.sadd p x.used,
                apps := Exec.upd x.apps app (some { ap with unit := ap.unit.set i (some p) }),
                reserved := x.reserved.filter (fun q => q != p) }, none) := by
    unfold Exec.keepResp
    simp only [hxa]
    rw [if_neg hnotdef, if_neg hvn]
    simp only [hpy, hfree']
  refine ⟨app, v, i, by rw [hres], ?_, ?_, ?_⟩
  · rw [hres]
    subst hs
    constructor
    · intro a m' hm'
      by_cases ha : a = app
      · subst ha
        simp only [Epr.getApp_setApp_same, Option.some.injEq] at hm'
        subst hm'
        refine ⟨{ ap with unit := ap.unit.set i (some p) }, by simp [Exec.upd], ?_⟩
        simp only [hm1, hmu, hp, liftU_set]
      · simp only [Epr.getApp_setApp_ne _ _ _ _ ha] at hm'
        obtain ⟨ap', h1, h2⟩ := hR.apps a m' hm'
        exact ⟨ap', by simp [Exec.upd, ha, h1], h2⟩
    · intro q
      simp only [hu1, hp, mem_addUsed, Exec.mem_sadd]
      rw [hR.used q]
      constructor
      · rintro (h | h)
        · left; exact Int.ofNat_inj.mp h
        · right; exact h
      · rintro (h | h)
        · left; rw [h]
        · right; exact h
  · unfold Epr.mapped; rw [happ]; exact hfree
  · subst hs
    unfold Epr.mapped
    simp only [Epr.getApp_setApp_same, hm1, hp]
    exact Epr.getD_set_self hilt

theorem measure_consumption_keeps_rel {okf : Nat} {e e' : Epr.State} {r : Epr.Resp} {x : Exec.State}
    (hR : UnitRel e x) (hc : Epr.Consumed okf e r e') (hM : r.ty = .M) : UnitRel e' x := by
  obtain ⟨hd, rest, app, m, m1, used1, vq, prev, arr, arr', c⟩ := hc.parts
  have happ := c.mem
  have hs := c.eq
  obtain ⟨hm1, hu1, _, _⟩ := c.meas hM
  subst hs
  constructor
  · intro a m' hm'
    by_cases ha : a = app
    · subst ha
      simp only [Epr.getApp_setApp_same, Option.some.injEq] at hm'
      subst hm'
      obtain ⟨ap, h1, h2⟩ := hR.apps a m happ
      exact ⟨ap, h1, by simp only [hm1, h2]⟩
    · simp only [Epr.getApp_setApp_ne _ _ _ _ ha] at hm'
      exact hR.apps a m' hm'
  · intro q; simp only [hu1]; exact hR.used q

/-- the controller operations (all `keep`) that a sequence of consumptions amounts to -/
def KeepOps (pend : List Epr.Resp) (ops : List Exec.Op) : Prop :=
  ∀ op ∈ ops, ∃ a v p, op = Exec.Op.keep a v p ∧ ∃ r ∈ pend, r.ty = .K ∧ r.phys = (p : Int)

/-- one consumption, either type, as zero or one controller operation -/
theorem micro_simulated {okf : Nat} {e e' : Epr.State} {x : Exec.State}
    (hm : Epr.Micro okf e e') (hR : UnitRel e x)
    (hnn : ∀ r ∈ e.pending, r.ty = .K → ∃ p : Nat, r.phys = (p : Int)) :
    ∃ ops : List Exec.Op, KeepOps e.pending ops ∧ UnitRel e' (ops.foldl Exec.apply x) ∧
      (∀ r ∈ e'.pending, r ∈ e.pending) := by
  obtain ⟨pre, r, rest, s2, hpend, hc, _, hs⟩ := hm
  have hrmem : r ∈ e.pending := by rw [hpend]; simp
  have hsub : ∀ y ∈ e'.pending, y ∈ e.pending := by
    subst hs
    intro y hy
    rw [hpend]
    simp only [List.mem_append, List.mem_cons] at hy ⊢
    rcases hy with h | h
    · exact Or.inl h
    · exact Or.inr (Or.inr h)
  have hrel_pend : ∀ {xx}, UnitRel s2 xx → UnitRel e' xx := by
    intro xx h; subst hs; exact ⟨h.apps, h.used⟩
  obtain ⟨_, _, _, _, _, _, _, _, _, _, c⟩ := hc.parts
  have hO := c.ty
  cases hK : r.ty with
  | other => exact absurd hK hO
  | M =>
    refine ⟨[], ?_, hrel_pend (measure_consumption_keeps_rel hR hc hK), hsub⟩
    intro op hop; cases hop
  | K =>
    obtain ⟨p, hp⟩ := hnn r hrmem hK
    obtain ⟨app, v, i, _, hrel, _, _⟩ := keep_consumption_simulated hR hc hK hp
    refine ⟨[.keep app v p], ?_, by simpa [Exec.apply] using hrel_pend hrel, hsub⟩
    intro op hop
    simp only [List.mem_singleton] at hop
    exact ⟨app, v, p, hop, r, hrmem, hK, hp⟩

theorem micros_simulated {okf : Nat} {e e' : Epr.State} (hm : Epr.Micros okf e e') :
    ∀ {x : Exec.State}, UnitRel e x →
    (∀ r ∈ e.pending, r.ty = .K → ∃ p : Nat, r.phys = (p : Int)) →
    ∃ ops : List Exec.Op, KeepOps e.pending ops ∧ UnitRel e' (ops.foldl Exec.apply x) := by
  induction hm with
  | refl s => intro x hR _; exact ⟨[], (fun op hop => by cases hop), hR⟩
  | cons h1 _ ih =>
    intro x hR hnn
    obtain ⟨ops1, hk1, hR1, hsub⟩ := micro_simulated h1 hR hnn
    obtain ⟨ops2, hk2, hR2⟩ := ih hR1 (fun r hr => hnn r (hsub r hr))
    refine ⟨ops1 ++ ops2, ?_, by rw [List.foldl_append]; exact hR2⟩
    intro op hop
    rcases List.mem_append.mp hop with h | h
    · exact hk1 op h
    · obtain ⟨a, v, p, h1', r, hr, h2⟩ := hk2 op h
      exact ⟨a, v, p, h1', r, hsub r hr, h2⟩

end NQ.Bridge
