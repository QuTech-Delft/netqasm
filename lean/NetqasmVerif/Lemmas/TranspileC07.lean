/-
The cases of `ExpandSound` for the concrete semantics `MQ`, one lemma per kind of template, from the
C07 theorems about Gen/NvDecomp and the tie Gen/NvExpand = Gen/NvDecomp (`twoTie`, `singleTie`,
`rotTie`, `movTie`).
-/
import NetqasmVerif.Lemmas.TranspileQSound
import NetqasmVerif.Props.C07
namespace NQ.Tr
open NQ NQ.NV

theorem run_single {Q : Type} (A : QAction Q) (g : GI) (q : Q) : A.run [g] q = A.act g q := rfl

/-- C07's operator identity for a two-qubit gate and placement, in the form `lift` consumes -/
theorem c07_two (gn : GName) (hgn : gn = .cnot ∨ gn = .cphase) (p : Placement) (seq : List GI)
    (hseq : repOf Gen.nvTwo gn p = some seq) :
    ∃ T, equivUpToScalar? (circuit p.nq seq) (some T) = true ∧
      equivUpToScalar? (circuit p.nq [⟨gn, [p.roles.1, p.roles.2], 0, 0⟩]) (some T) = true := by
  have hrep : repOk Gen.nvTwo gn p = true := by
    rcases hgn with rfl | rfl
    · exact C07.cnot_placements_eq p
    · exact C07.cphase_placements_eq p
  unfold repOk at hrep
  rw [hseq] at hrep
  simp only [twoOk] at hrep
  obtain ⟨T, hT⟩ : ∃ T, target2 gn p = some T := by
    rcases hgn with rfl | rfl <;> simp [target2]
  refine ⟨T, ?_⟩
  rw [← hT]
  exact ⟨hrep, List.all_eq_true.1 (List.all_eq_true.1 targets_self.2 gn
    (by rcases hgn with rfl | rfl <;> simp)) p (by cases p <;> simp)⟩

theorem two_sound_plain {C Q : Type} (A : QAction Q) (hA : QLawful A) (Mc : Sem (C × Q)) {cfg : Cfg}
    {key : String} {gn : GName} {p : Placement} {rm : TOp → Option Nat}
    (htie : twoTie cfg key gn p rm = true) (hgn : gn = .cnot ∨ gn = .cphase) (hp : p ≠ .cc)
    (hlt : ∀ top k, rm top = some k → k < p.nq)
    {g : Instr} {ta tb ts : Reg} {ex : List Instr} (hex : useTemplate cfg key g ta tb ts = .ok ex)
    {ρ : Nat → Nat} (hinj : ∀ i j, i < p.nq → j < p.nq → ρ i = ρ j → i = j)
    {regs : Reg → Option Int} (E : Env rm ρ regs ta tb ts) (c : C) (q : Q) :
    RunStraight (MQ A Mc) (serialise ex) ⟨regs, (c, q)⟩
      ⟨regs, (c, A.act ⟨gn, [ρ p.roles.1, ρ p.roles.2], 0, 0⟩ q)⟩ := by
  unfold twoTie at htie
  split at htie
  · cases htie
  · rename_i body he
    have htie' : (roleSeq rm body).isSome = true ∧ roleSeq rm body = repOf Gen.nvTwo gn p := by
      cases p
      · simpa [Bool.and_eq_true] using htie
      · simpa [Bool.and_eq_true] using htie
      · exact absurd rfl hp
    obtain ⟨seq, hseq⟩ := Option.isSome_iff_exists.1 htie'.1
    obtain ⟨T, h1, h2⟩ := c07_two gn hgn p seq (htie'.2 ▸ hseq)
    have hrun := run_template A Mc hex he hseq E hinj hlt c q
    rw [hA.lift p.nq seq [⟨gn, [p.roles.1, p.roles.2], 0, 0⟩] T ρ q hinj h1 h2] at hrun
    simpa [run_single, ren] using hrun

theorem setOf_setInstr {cfg : Cfg} (hC : ClsTie cfg = true) (r : Reg) (v : Int) :
    setOf cfg ⟨"core.SetInstruction", [.reg r, .imm v]⟩ = some (r, v) := by
  unfold ClsTie at hC
  simp only [Bool.and_eq_true] at hC
  have h2 := hC.2
  unfold setOf
  cases hi : infoOf cfg "core.SetInstruction" with
  | none => rw [hi] at h2; cases h2
  | some info => rw [hi] at h2; simp only at h2 ⊢; simp [h2]

/-- carbon–carbon: `set s 0`, then the circuit over (electron, carbon, carbon) -/
theorem two_sound_cc {C Q : Type} (A : QAction Q) (hA : QLawful A) (Mc : Sem (C × Q)) {cfg : Cfg}
    (hMc : SemLocal Mc cfg) (hC : ClsTie cfg = true)
    {key : String} {gn : GName} (htie : twoTie cfg key gn .cc rmCC = true)
    (hgn : gn = .cnot ∨ gn = .cphase)
    {g : Instr} {ta tb ts : Reg} {ex : List Instr} (hex : useTemplate cfg key g ta tb ts = .ok ex)
    (ρ : Nat → Nat) (hinj : ∀ i j, i < 3 → j < 3 → ρ i = ρ j → i = j) (hρ0 : ρ 0 = 0)
    (u : St (C × Q)) (hta : readQ u.regs ta = some (ρ 1)) (htb : readQ u.regs tb = some (ρ 2))
    (hna : ta ≠ ts) (hnb : tb ≠ ts) :
    ∃ u', RunStraight (MQ A Mc) (serialise ex) u u' ∧
      u'.mem = (u.mem.1, A.act ⟨gn, [ρ 1, ρ 2], 0, 0⟩ u.mem.2) ∧
      ∀ r, r ≠ ts → u'.regs r = u.regs r := by
  unfold twoTie at htie
  split at htie
  · cases htie
  rename_i body he
  simp only [Bool.and_eq_true, beq_iff_eq] at htie
  obtain ⟨⟨hhead, hsome⟩, heq⟩ := htie
  obtain ⟨seq, hseq⟩ := Option.isSome_iff_exists.1 hsome
  obtain ⟨body', he', hb⟩ := useTemplate_ok hex
  rw [he] at he'
  cases he'
  cases body with
  | nil => cases hhead
  | cons t0 tail =>
    cases hhead
    obtain ⟨os, l', hos, hb', rfl⟩ := instBody_cons_some hb
    cases hos
    obtain ⟨u1, hu1, hm1, hr1⟩ := hMc.setSem _ ts 0 u (setOf_setInstr hC ts 0)
    have hexec : (MQ A Mc).exec ⟨"core.SetInstruction", [.reg ts, .imm 0]⟩ u = some u1 :=
      (mq_exec_set A Mc rfl u).trans hu1
    have hser : serialise (⟨setS0.cls, [.reg ts, .imm 0]⟩ :: l')
        = ⟨"core.SetInstruction", [.reg ts, .imm 0]⟩ :: serialise l' := by
      have : isDebugCls "core.SetInstruction" = false := by decide +kernel
      simp [serialise, isDebug_mk, setS0, this]
    have E : Env rmCC ρ u1.regs ta tb ts := by
      intro g top k hk
      cases top <;> cases hk
      · exact ⟨ta, rfl, by simp only [readQ, hr1 ta, hna, ↓reduceIte]; exact hta⟩
      · exact ⟨tb, rfl, by simp only [readQ, hr1 tb, hnb, ↓reduceIte]; exact htb⟩
      · exact ⟨ts, rfl, by simp [readQ, hr1 ts, natOf, hρ0]⟩
    obtain ⟨T, h1, h2⟩ := c07_two gn hgn .cc seq (heq ▸ hseq)
    have hrun := run_body A Mc E g (fun i j ⟨_, hi⟩ ⟨_, hj⟩ => hinj i j (rmCC_lt _ _ hi) (rmCC_lt _ _ hj))
      tail l' seq u1.mem.1 u1.mem.2 hb' hseq
    rw [hA.lift 3 seq [⟨gn, [1, 2], 0, 0⟩] T ρ u1.mem.2 hinj h1 h2] at hrun
    rw [hser]
    exact ⟨_, ⟨u1, hexec, hrun⟩, by simp [run_single, ren, hm1], fun r hr => by simp [hr1 r, hr]⟩

/-- What `giOf regs i = some gi` says about the operands, as a family indexed by the operand shape
`gkind gn` of the gate: a user who knows the kind rewrites the index and has the shape, without the
cases of the other kinds. Kind 4 (controlled rotations) are NV instructions, never vanilla input. -/
def GiShape (regs : Reg → Option Int) (i : Instr) (gn : GName) (gi : GI) : Nat → Prop
  | 1 => ∃ r q, i.ops = [.reg r] ∧ readQ regs r = some q ∧ gi = ⟨gn, [q], 0, 0⟩
  | 2 => ∃ r n d q n' d', i.ops = [.reg r, .imm n, .imm d] ∧ readQ regs r = some q ∧ natOf n = some n' ∧
      natOf d = some d' ∧ gi = ⟨gn, [q], n', d'⟩
  | 3 => ∃ r0 r1 a b, i.ops = [.reg r0, .reg r1] ∧ readQ regs r0 = some a ∧ readQ regs r1 = some b ∧
      a ≠ b ∧ gi = ⟨gn, [a, b], 0, 0⟩
  | _ => True

theorem giOf_shape {regs : Reg → Option Int} {i : Instr} {gn : GName} {gi : GI}
    (hg : gnameOf i.cls = some gn) (h : giOf regs i = some gi) : GiShape regs i gn gi (gkind gn) := by
  unfold giOf at h
  rw [hg] at h
  split at h
  · rename_i g' r hg' hops
    cases hg'
    split at h
    · rename_i hk
      obtain ⟨q, hq, rfl⟩ := Option.map_eq_some_iff.1 h
      rw [hk]; exact ⟨r, q, hops, hq, rfl⟩
    · cases h
  · rename_i g' r n d hg' hops
    cases hg'
    split at h
    · rename_i hk
      split at h
      · rename_i q n' d' hq hn hd
        cases h
        rw [hk]; exact ⟨r, n, d, q, n', d', hops, hq, hn, hd, rfl⟩
      · cases h
    · cases h
  · rename_i g' r0 r1 hg' hops
    cases hg'
    split at h
    · rename_i hk
      split at h
      · rename_i a b ha hb
        split at h
        · cases h
        · rename_i hne
          cases h
          rw [hk]; exact ⟨r0, r1, a, b, hops, ha, hb, hne, rfl⟩
      · cases h
    · cases h
  · rename_i g' _ _ _ _ hg' _
    cases hg'
    split at h
    · rename_i hk; rw [hk]; trivial
    · cases h
  · cases h

/-- fixed one-qubit gates: C07's `single_gates_eq` through the tie -/
theorem single_sound {C Q : Type} (A : QAction Q) (hA : QLawful A) (Mc : Sem (C × Q)) {cfg : Cfg}
    {key : String} {gn : GName} (hk : gkind gn = 1) (htie : singleTie cfg key gn = true)
    {g : Instr} {a : Reg} {ex : List Instr} (hex : useTemplate cfg key g a a a = .ok ex)
    {regs : Reg → Option Int} {x : Nat} (hx : readQ regs a = some x) (c : C) (q : Q) :
    RunStraight (MQ A Mc) (serialise ex) ⟨regs, (c, q)⟩ ⟨regs, (c, A.act ⟨gn, [x], 0, 0⟩ q)⟩ := by
  unfold singleTie at htie
  split at htie
  · cases htie
  rename_i body he
  split at htie
  · rename_i seq hseq
    simp only [List.any_eq_true, Bool.and_eq_true, beq_iff_eq] at htie
    obtain ⟨e, hmem, he1, he2⟩ := htie
    have hok := C07.single_gates_eq e hmem
    rw [he1, he2] at hok
    unfold singleOk at hok
    have hself := List.all_eq_true.1 targets_self.1 gn (by cases gn <;> simp [gkind] at hk <;> simp)
    -- the target exists, since something is proportional to it
    obtain ⟨T, hT⟩ : ∃ T, (target1 gn).map (embed1 1 0) = some T := by
      cases hT : (target1 gn).map (embed1 1 0) with
      | some T => exact ⟨T, rfl⟩
      | none =>
        rw [hT] at hok
        revert hok
        cases circuit 1 seq <;> intro hok <;> cases hok
    rw [hT] at hok hself
    have E : Env rm1 (fun _ => x) regs a a a := by
      intro g top k hk
      cases top <;> cases hk
      exact ⟨a, rfl, hx⟩
    have hinj : ∀ i j, i < 1 → j < 1 → (fun _ : Nat => x) i = (fun _ : Nat => x) j → i = j := by
      intro i j hi hj _; omega
    have hrun := run_template A Mc hex he hseq E hinj
      (fun top k hk' => by cases top <;> simp [rm1] at hk' <;> omega) c q
    rw [hA.lift 1 seq [⟨gn, [0], 0, 0⟩] T (fun _ => x) q hinj hok hself] at hrun
    simpa [run_single, ren] using hrun
  · cases htie

theorem natOf_cast (m : Nat) : natOf (m : Int) = some m := by simp [natOf]

theorem natOf_eq {n : Int} {m : Nat} (h : natOf n = some m) : n = (m : Int) := by
  unfold natOf at h
  split at h
  · simp only [Option.some.injEq] at h; omega
  · cases h

theorem run_rot {C Q : Type} (A : QAction Q) (Mc : Sem (C × Q)) {cN : String} {gn : GName}
    (hg : gnameOf cN = some gn) (hk : gkind gn = 2) (hnd : isDebugCls cN = false)
    {regs : Reg → Option Int} {a : Reg} {n d : Int} {x n' d' : Nat} (hx : readQ regs a = some x)
    (hn : natOf n = some n') (hd : natOf d = some d') (c : C) (q : Q) :
    RunStraight (MQ A Mc) (serialise [⟨cN, [.reg a, .imm n, .imm d]⟩]) ⟨regs, (c, q)⟩
      ⟨regs, (c, A.act ⟨gn, [x], n', d'⟩ q)⟩ := by
  have hser : serialise [(⟨cN, [.reg a, .imm n, .imm d]⟩ : Instr)] = [⟨cN, [.reg a, .imm n, .imm d]⟩] := by
    simp [serialise, isDebug_mk, hnd]
  rw [hser]
  refine ⟨_, mq_exec_of_giOf A Mc (g := ⟨cN, _⟩) hg ?_, rfl⟩
  simp [giOf, hg, hk, hx, hn, hd]

/-- rotations: the same rotation is emitted (simulation mode) or the same angle with
denominator 4 (hardware mode) -/
theorem rot_sound {C Q : Type} (A : QAction Q) (hA : QLawful A) (Mc : Sem (C × Q)) {cfg : Cfg}
    {gn : GName} (hk : gkind gn = 2) {g : Instr} (htie : rotTie cfg g.cls gn = true)
    {a : Reg} {n d : Int} (hops : g.ops = [.reg a, .imm n, .imm d]) {ex : List Instr}
    (hex : expandGate1 cfg g = .ok ex)
    {regs : Reg → Option Int} {x n' d' : Nat} (hx : readQ regs a = some x) (hn : natOf n = some n')
    (hd : natOf d = some d') (c : C) (q : Q) :
    RunStraight (MQ A Mc) (serialise ex) ⟨regs, (c, q)⟩ ⟨regs, (c, A.act ⟨gn, [x], n', d'⟩ q)⟩ := by
  unfold rotTie at htie
  obtain ⟨h1, h2⟩ := Bool.and_eq_true_iff.1 htie
  unfold expandGate1 at hex
  rw [hops] at hex
  obtain ⟨body, he, hb⟩ := useTemplate_ok hex
  by_cases hhw : cfg.hw = true
  · rw [if_pos hhw] at he
    split at h2
    · rename_i cN hexp
      obtain ⟨hg, hnd⟩ := Bool.and_eq_true_iff.1 h2
      rw [hexp] at he
      cases he
      have hnn := natOf_eq hn
      have hdd := natOf_eq hd
      by_cases hdle : 0 ≤ d ∧ d ≤ 4
      · simp only [instBody, instOps, instOp, hwNumOf, hops, hdle, and_self, ↓reduceIte,
          Option.map_some, Option.some.injEq] at hb
        subst hb
        -- the emitted numerator `n·2^(4-d)` over denominator 4 is the same angle
        have hval : n * (2 : Int) ^ (4 - d).toNat = ((n' * 2 ^ (4 - d') : Nat) : Int) := by
          have : (4 - d).toNat = 4 - d' := by omega
          rw [this, hnn]; push_cast; rfl
        have hrot : GName.isRot gn = true := by cases gn <;> simp [gkind] at hk <;> rfl
        rw [← hA.angle gn x n' d' (n' * 2 ^ (4 - d')) 4 q hrot (by
          rw [Nat.mul_assoc, ← Nat.pow_add, Nat.sub_add_cancel (by omega)])]
        exact run_rot A Mc (eq_of_beq hg) hk (by simpa using hnd) hx (hval ▸ natOf_cast _) rfl c q
      · simp only [instBody, instOps, instOp, hwNumOf, hops, hdle, ↓reduceIte, Option.map_none] at hb
        cases hb
    · cases h2
  · rw [if_neg hhw, String.append_empty] at he
    split at h1
    · rename_i cN hexp
      obtain ⟨hg, hnd⟩ := Bool.and_eq_true_iff.1 h1
      rw [hexp] at he
      cases he
      simp only [instBody, instOps, instOp, hops, List.getElem?_cons_succ, List.getElem?_cons_zero,
        Option.some.injEq] at hb
      subst hb
      exact run_rot A Mc (eq_of_beq hg) hk (by simpa using hnd) hx hn hd c q
    · cases h1

/-- C07's `mov_transfer` for the representative move circuit of a direction, in the form
`transferLaw` consumes; the `φ` it leaves on the source is `movPhi` -/
theorem c07_mov (ec : Bool) (seq : List GI) (h : movRep ec = some seq) :
    ∃ U, circuit 2 seq = some U ∧ isTransfer (movDir ec).1 (movDir ec).2 U = true ∧
      movPhi ec = phiOf (movDir ec).1 (movDir ec).2 U := by
  unfold movRep at h
  cases hf : Gen.nvMov.find? (fun e => if ec then e.1 == 0 else e.2.1 == 0) with
  | none => rw [hf] at h; cases h
  | some e =>
    rw [hf] at h
    simp only [Option.map_some, Option.some.injEq] at h
    have hmem : e ∈ Gen.nvMov := List.mem_of_find?_eq_some hf
    have hp := List.find?_some hf
    have hok := C07.mov_transfer e hmem
    rw [h] at hok
    unfold movOk at hok
    have hroles : movRoles e.1 e.2.1 = some (movDir ec) ∨ movRoles e.1 e.2.1 = none := by
      unfold movRoles movDir
      cases ec with
      | true =>
        have h1 : e.1 = 0 := by simpa using hp
        by_cases h2 : e.2.1 = 0 <;> simp [h1, h2]
      | false =>
        have h2 : e.2.1 = 0 := by simpa using hp
        by_cases h1 : e.1 = 0 <;> simp [h1, h2]
    rcases hroles with hr | hr
    · rw [hr] at hok
      cases hc : circuit 2 seq with
      | none => rw [hc] at hok; simp at hok
      | some U =>
        rw [hc] at hok
        refine ⟨U, rfl, by simpa using hok, ?_⟩
        unfold movPhi movRep
        rw [hf]
        simp [h, hc]
    · rw [hr] at hok; simp at hok

theorem mov_sound {C Q : Type} (A : QAction Q) (hA : QLawful A) (Mc : Sem (C × Q)) {cfg : Cfg}
    {key : String} {ec : Bool} {rm : TOp → Option Nat} (htie : movTie cfg key ec rm = true)
    (hlt : ∀ top k, rm top = some k → k < 2)
    {g : Instr} {ta tb ts : Reg} {ex : List Instr} (hex : useTemplate cfg key g ta tb ts = .ok ex)
    {ρ : Nat → Nat} (hinj : ∀ i j, i < 2 → j < 2 → ρ i = ρ j → i = j)
    {regs : Reg → Option Int} (E : Env rm ρ regs ta tb ts) (c : C) {q q' : Q}
    (htr : A.transfer (movPhi ec) (ρ (movDir ec).1) (ρ (movDir ec).2) q = some q') :
    RunStraight (MQ A Mc) (serialise ex) ⟨regs, (c, q)⟩ ⟨regs, (c, q')⟩ := by
  unfold movTie at htie
  split at htie
  · cases htie
  rename_i body he
  simp only [Bool.and_eq_true, beq_iff_eq] at htie
  obtain ⟨seq, hseq⟩ := Option.isSome_iff_exists.1 htie.1
  obtain ⟨U, hU, hT, hphi⟩ := c07_mov ec seq (htie.2 ▸ hseq)
  have hrun := run_template A Mc hex he hseq E hinj hlt c q
  rw [hphi] at htr
  rw [hA.transferLaw seq U _ _ ρ q q' hinj hU hT htr] at hrun
  exact hrun

end NQ.Tr
