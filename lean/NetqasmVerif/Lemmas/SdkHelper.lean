/-
What the operand and access helpers of the builder guarantee (`accessCmds`, `condOperand`, `addOther`, `branchCmds`,
`breakCmds`, `emitAddF`, `emitAddR`): one notion, `Helper`, the rules by which the builder composes helpers, and
one statement `<f>_spec` per function beside its success rule `<f>_eq_ok` of Lemmas/Sdk.lean.
-/
import NetqasmVerif.Lemmas.SdkLabels
import NetqasmVerif.Lemmas.SdkWrites
import NetqasmVerif.Lemmas.SdkOK
namespace NQ.Sdk

theorem labelsIn_eq_nil {cs : List PCmd} : labelsIn cs = [] ↔ ∀ l, PCmd.label l ∉ cs := by
  induction cs with
  | nil => simp [labelsIn]
  | cons c cs ih =>
    cases c with
    | label l => exact iff_of_false nofun fun h => h l (List.mem_cons_self ..)
    | instr mn ops => simp [labelsIn, ih]

/-- What a helper of the builder leaves behind when it has built the commands `cs` that compute an operand: the
manager as it was, but for the temporary `t` it hands to its caller; classical code without labels that writes
only registers free in `m` and the register `r` its caller named, and is well formed if `m` and `r` are. -/
structure Helper (m m' : Mem) (t : Option Nat) (r : Option Reg) (cs : List PCmd) : Prop where
  same : SameBut m m'
  took : Took m m' t
  nolab : labelsIn cs = []
  writes : WritesTmp m.active r cs
  plain : MemOK m → (∀ x, r = some x → regOK x = true) → Plain cs

namespace Helper
variable {m m1 m2 m3 : Mem} {t : Option Nat} {r r' : Option Reg} {a b cs cs' : List PCmd}

theorem nil (m : Mem) (r : Option Reg) : Helper m m none r [] :=
  ⟨.refl _, rfl, rfl, .nil _ _, fun _ _ => Plain.nil⟩

/-- one more command, judged in the state the helper started from -/
theorem snoc {c : PCmd} (h : Helper m m1 none r a) (hl : ∀ l, c ≠ .label l)
    (hw : ∀ x, writeOf c = some x → some x = r ∨ TmpIn m.active x)
    (hp : MemOK m → (∀ x, r = some x → regOK x = true) → cmdOK c = true ∧ isQCmd c = false) :
    Helper m m1 none r (a ++ [c]) :=
  ⟨h.same, h.took, by rw [labelsIn_append, h.nolab]; cases c; exact absurd rfl (hl _); rfl,
    h.writes.append (.single hw), fun ok hr => (h.plain ok hr).append (plain_cons.2 ⟨hp ok hr, Plain.nil⟩)⟩

theorem one {c : PCmd} (hl : ∀ l, c ≠ .label l)
    (hw : ∀ x, writeOf c = some x → some x = r ∨ TmpIn m.active x)
    (hp : MemOK m → (∀ x, r = some x → regOK x = true) → cmdOK c = true ∧ isQCmd c = false) :
    Helper m m none r [c] := (nil m r).snoc hl hw hp

/-- the same state change with any commands taken from `cs` -/
theorem sub (h : Helper m m1 t r cs) (hc : ∀ c ∈ cs', c ∈ cs) : Helper m m1 t r cs' :=
  ⟨h.same, h.took, labelsIn_eq_nil.2 fun l hm => labelsIn_eq_nil.1 h.nolab l (hc _ hm),
    fun c hm => h.writes c (hc c hm),
    fun ok hr => ⟨fun c hm => (h.plain ok hr).1 c (hc c hm), fun c hm => (h.plain ok hr).2 c (hc c hm)⟩⟩

theorem memOK (h : Helper m m1 t r cs) (ok : MemOK m) : MemOK m1 := ok.of_took h.same h.took

/-- one helper after another that handed nothing on -/
theorem seq (h1 : Helper m m1 none r a) (h2 : Helper m1 m2 t r b) : Helper m m2 t r (a ++ b) :=
  have e : m1.active = m.active := h1.took
  ⟨h1.same.trans h2.same, by cases t <;> simpa [Took, e] using h2.took,
    by rw [labelsIn_append, h1.nolab, h2.nolab]; rfl, h1.writes.append (e ▸ h2.writes),
    fun ok hr => (h1.plain ok hr).append (h2.plain (h1.memOK ok) hr)⟩

/-- a helper run with the temporary `i` in hand: it may write `R i` as well -/
theorem taking {i : Nat} (h1 : activate m i = .ok m1) (h : Helper m1 m2 none r' cs)
    (hr : ∀ x, r' = some x → r = some x ∨ x = R i) : Helper m m2 (some i) r cs :=
  have a1 := activate_spec h1
  have hi : TmpIn m.active (R i) := ⟨rfl, a1.1⟩
  ⟨(activate_same h1).trans h.same, ⟨a1.1, (h.took : m2.active = _).trans a1.2.1⟩, h.nolab,
    (h.writes.of_eq_set a1.2.1).weaken fun x hx => (hr x hx).imp id fun (e : x = R i) => e.symm ▸ hi,
    fun ok hx => h.plain (ok.activate h1) fun x e => (hr x e).elim (hx x) fun (e : x = R i) =>
      e.symm ▸ regOK_R (by have := getD_true_false_lt a1.1; rwa [ok.act] at this)⟩

theorem any (h : Helper m m1 t none cs) : Helper m m1 t r cs :=
  ⟨h.same, h.took, h.nolab, h.writes.weaken nofun, fun ok _ => h.plain ok nofun⟩

/-- the caller gives the temporary back -/
theorem release (h : Helper m m1 t r cs) (h2 : releaseOpt m1 t = .ok m2) : Helper m m2 none r cs :=
  ⟨h.same.trans (releaseOpt_same h2), releaseOpt_took h.took h2, h.nolab, h.writes, h.plain⟩

/-- two helpers in a row, the second of which may write the temporary the first handed on, and the two temporaries
given back in the order they were taken in -/
theorem seq2 {ta tb : Option Nat} {m4 : Mem} (h1 : Helper m m1 ta r a) (h2 : Helper m1 m2 tb r' b)
    (hr : ∀ x, r' = some x → r = some x ∨ ∃ i, ta = some i ∧ x = R i) (r1 : releaseOpt m2 ta = .ok m3)
    (r2 : releaseOpt m3 tb = .ok m4) : Helper m m4 none r (a ++ b) :=
  have hw : ∀ x, r' = some x → r = some x ∨ TmpIn m.active x ∧ (MemOK m → regOK x = true) := fun x hx =>
    (hr x hx).imp id fun ⟨i, hi, e⟩ => by
      subst hi e
      exact ⟨⟨rfl, h1.took.1⟩, fun ok => regOK_R (by have := getD_true_false_lt h1.took.1; rwa [ok.act] at this)⟩
  ⟨h1.same.trans (h2.same.trans ((releaseOpt_same r1).trans (releaseOpt_same r2))),
    releaseOpt_took_two h1.took h2.took r1 r2, by rw [labelsIn_append, h1.nolab, h2.nolab]; rfl,
    h1.writes.append ((WritesTmp.of_took h1.took h2.writes).weaken fun x hx => (hw x hx).imp id And.left),
    fun ok hx => (h1.plain ok hx).append (h2.plain (h1.memOK ok) fun x e => (hw x e).elim (hx x) fun h => h.2 ok)⟩

/-- a helper run between taking the temporary `i` and giving it back, before the temporary it handed on -/
theorem bracket {i : Nat} {t : Option Nat} {m4 m5 : Mem} (h1 : activate m i = .ok m1) (h : Helper m1 m4 t r' cs)
    (hr : ∀ x, r' = some x → r = some x ∨ x = R i) (h5 : Sdk.release m4 i = .ok m5)
    (h6 : releaseOpt m5 t = .ok m2) : Helper m m2 none r cs :=
  seq2 (taking h1 (nil m1 none) nofun) h (fun x hx => (hr x hx).imp id fun e => ⟨i, rfl, e⟩) h5 h6

end Helper

theorem accessCmds_spec (f : Fut) {m m' : Mem} {st : Bool} {r : Reg} {cs : List PCmd}
    (h : accessCmds m st r f = .ok (m', cs)) : Helper m m' none (some r) cs := by
  refine accessCmds_induct (P := fun _ m _ r m' cs => Helper m m' none (some r) cs) ?_ ?_ f h
  · intro m f e st r he
    refine .one nofun (fun x hx => .inl ?_) fun ok hr => ?_
    · cases st <;> cases hx; rfl
    · exact (plain_cons.1 (plain_access st (hr r rfl) (addressEntry_ok ok he))).1
  · intro _ m st r a t m1 m2 cs m3 ht h1 ih h3
    have hb := (Helper.taking h1 ih (r := some r) fun x hx => .inr (Option.some.inj hx).symm).release h3
    refine hb.snoc nofun (fun x hx => .inl ?_) fun ok hr => ?_
    · cases st <;> cases hx; rfl
    · exact (plain_cons.1 (plain_access st (hr r rfl) (e := .entryR a (R t)) (regOK_R (getInactive_lt ok ht)))).1

theorem MemOK.access {f : Fut} {m m' : Mem} {st : Bool} {r : Reg} {cs : List PCmd} (ok : MemOK m)
    (h : accessCmds m st r f = .ok (m', cs)) : MemOK m' := (accessCmds_spec f h).memOK ok

theorem condOperand_spec {m m1 : Mem} {v : Val} {cs : List PCmd} {o : POp} {t : Option Nat}
    (h : condOperand m v = .ok (m1, cs, o, t)) : Helper m m1 t none cs ∧ (MemOK m → opOK o = true) := by
  rcases condOperand_eq_ok h with ⟨rfl, rfl, rfl, ⟨x, _, rfl⟩ | ⟨_, _, _, hr, rfl⟩⟩ | ⟨f, i, e, _, h1, rfl, rfl, rfl, he⟩
  · exact ⟨.nil _ _, fun _ => rfl⟩
  · exact ⟨.nil _ _, fun ok => ok.handle hr⟩
  · have hi := fun ok : MemOK m => regOK_R (ok.takeReg h1).2
    exact ⟨.taking (takeReg_eq_ok h1).2 (r' := some (R i)) (.one nofun (fun x hx => .inl (by cases hx; rfl))
      fun ok hr => by simp [cmdOK, hr, addressEntry_ok ok he, shapeOK, isQCmd, isQ]) fun x hx => .inr (Option.some.inj hx).symm, hi⟩

theorem addOther_spec {m m1 : Mem} {v : Val} {cs : List PCmd} {o : POp} {t : Option Nat}
    (h : addOther m v = .ok (m1, cs, o, t)) : Helper m m1 t none cs ∧ (MemOK m → opOK o = true) := by
  rcases addOther_eq_ok h with ⟨rfl, rfl, rfl, ⟨x, _, rfl⟩ | ⟨_, _, _, hr, rfl⟩⟩ | ⟨g, i, m0, _, h1, h2, rfl, rfl⟩
  · exact ⟨.nil _ _, fun _ => rfl⟩
  · exact ⟨.nil _ _, fun ok => ok.handle hr⟩
  · exact ⟨.taking (takeReg_eq_ok h1).2 (accessCmds_spec g h2) fun x hx => .inr (Option.some.inj hx).symm,
      fun ok => regOK_R (ok.takeReg h1).2⟩

theorem breakCmds_spec {m m' : Mem} {ef : Val} {ev : Int} {lx : Lbl} {cs : List PCmd} (hl : lx.kind < 5)
    (h : breakCmds m ef ev lx = .ok (m', cs)) : Helper m m' none none cs := by
  obtain ⟨m1, c1, o, t, h1, h2, rfl⟩ := breakCmds_eq_ok h
  obtain ⟨s1, ho⟩ := condOperand_spec h1
  exact (s1.release h2).snoc nofun nofun fun ok _ => by simp [cmdOK, isQCmd, isQ, ho ok, hl, shapeOK, labAt]

theorem emitAddR_spec {m m' : Mem} {hh : Nat} {o : Val} {md : Option Int} {cs : List PCmd}
    (h : emitAddR m hh o md = .ok (m', cs)) : ∃ r, handle m hh = .ok (r, true) ∧ Helper m m' none (some r) cs := by
  obtain ⟨r, m1, ld2, oo, tmp2, hr, h1, h2, rfl⟩ := emitAddR_eq_ok h
  obtain ⟨s1, ho⟩ := addOther_spec h1
  exact ⟨r, hr, (s1.any.release h2).snoc (by cases md <;> nofun) (fun x hx => .inl (by rw [addInstr_write] at hx; exact hx.symm))
    fun ok hx => (plain_cons.1 (plain_addInstr (hx r rfl) (ho ok) md)).1⟩

theorem emitAddF_spec {m m' : Mem} {f : Fut} {o : Val} {md : Option Int} {cs : List PCmd}
    (h : emitAddF m f o md = .ok (m', cs)) : Helper m m' none none cs := by
  obtain ⟨m1, t, m2, ld, m3, st, m4, ld2, oo, tmp2, m5, h1, h2, h3, h4, h5, h6, rfl⟩ := emitAddF_eq_ok h
  obtain ⟨s4, ho⟩ := addOther_spec h4
  have s2 := accessCmds_spec f h2
  have s3 := accessCmds_spec f h3
  -- the commands are placed in another order than they were built in
  refine ((Helper.bracket (r := none) (takeReg_eq_ok h1).2 (s2.seq (s3.seq s4.any)) (fun x hx => .inr (Option.some.inj hx).symm)
    h5 h6).snoc (c := addInstr (R t) oo md) (by cases md <;> nofun) (fun x hx => .inr ?_) fun ok _ => ?_).sub ?_
  · rw [addInstr_write] at hx; cases hx; exact ⟨rfl, (takeReg_spec h1).1⟩
  · exact (plain_cons.1 (plain_addInstr (regOK_R (ok.takeReg h1).2)
      (ho ((s3.memOK (s2.memOK (ok.takeReg h1).1)))) md)).1
  · intro c hc; simp only [List.mem_append, List.mem_singleton] at hc ⊢; grind

theorem branchCmds_spec {m m' : Mem} {c : Cond} {a b : Val} {cs : List PCmd} {l : Lbl}
    (h : branchCmds m c a b = .ok (m', cs, l)) : Helper (newLabel m 0).1 m' none none cs ∧ l = (newLabel m 0).2 := by
  obtain ⟨rfl, m1, ca, oa, ta, h1, hc⟩ := branchCmds_eq_ok h
  obtain ⟨sa, ha⟩ := condOperand_spec h1
  refine ⟨?_, rfl⟩
  rcases hc with ⟨hu, h2, rfl⟩ | ⟨hu, m2, cb, ob, tb, m3, h2, h3, h4, rfl⟩
  · refine (sa.release h2).snoc nofun (fun x hx => by rw [negBranch_write] at hx; cases hx) fun ok _ => ?_
    have sh := negBranch_shape c oa oa (newLabel m 0).2
    rw [if_pos hu] at sh
    simp [cmdOK, isQCmd, ha ok, sh, show (newLabel m 0).2.kind = 0 from rfl]
  · obtain ⟨sb, hb⟩ := condOperand_spec h2
    refine (sa.seq2 sb nofun h3 h4).snoc nofun (fun x hx => by rw [negBranch_write] at hx; cases hx) fun ok _ => ?_
    have sh := negBranch_shape c oa ob (newLabel m 0).2
    simp only [hu, Bool.false_eq_true, if_false] at sh
    simp [cmdOK, isQCmd, ha ok, hb (sa.memOK ok), sh, show (newLabel m 0).2.kind = 0 from rfl]

theorem buildCondition_sameL {m m' : Mem} {c : Cond} {a b : Val} {body cs : List PCmd}
    (h : buildCondition m c a b body = .ok (m', cs)) : SameButL m m' := by
  rcases buildCondition_eq_ok h with ⟨_, rfl, _⟩ | ⟨_, _, _, h1, _⟩
  · exact .refl _
  · exact (newLabel_sameL m 0).trans (branchCmds_spec h1).1.same.toL

end NQ.Sdk
