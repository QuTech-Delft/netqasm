/-
scratch_ok, about the pass itself: every register an expansion chunk WRITES (its `set`s) is the
register `get_unused_register` returns for the `used` set at that very gate.
-/
import NetqasmVerif.Lemmas.TranspileSim
namespace NQ.Tr
open NQ

/-- `c` is a class for which `isinstance(·, core.SetInstruction)` holds -/
def isSetCls (cfg : Cfg) (c : String) : Bool :=
  match infoOf cfg c with
  | some i => i.isSet
  | none => false

/-- keys of the carbon–carbon rows, the only ones that borrow a register -/
def ccKeys : List String := ["cnot_cc", "cnot_cc@debug", "cphase_cc", "cphase_cc@debug"]

def isScratchSet (ops : List TOp) : Bool :=
  match ops with
  | [.s, .lit _] => true
  | _ => false

/-- table facts: an expansion template contains a `set` only in the carbon–carbon rows, and only
of the form `set s <literal>`; no gate class is named like a carbon–carbon row (one-qubit templates
are looked up by class name, so such a class would reach those rows) -/
def SetsOnlyScratch (cfg : Cfg) : Bool :=
  cfg.exps.all (fun r => r.body.all (fun t =>
    !isSetCls cfg t.cls || (ccKeys.contains r.key && isScratchSet t.ops)))
  && cfg.infos.all (fun i => !ccKeys.contains i.cls && !ccKeys.contains (i.cls ++ "@hw"))

theorem useTemplate_sets {cfg : Cfg} (hS : SetsOnlyScratch cfg = true) {key g a b s l}
    (h : useTemplate cfg key g a b s = .ok l) {y : Instr} (hy : y ∈ l) {r : Reg} {v : Int}
    (hset : setOf cfg y = some (r, v)) : ccKeys.contains key = true ∧ r = s := by
  obtain ⟨row, hr, rfl, t, ht, hc, hops⟩ := useTemplate_mem h hy
  obtain ⟨info, hi, hs, hyops⟩ := setOf_some hset
  have hcls : isSetCls cfg y.cls = true := by rw [isSetCls, hi]; exact hs
  have h2 := List.all_eq_true.1 (List.all_eq_true.1 (Bool.and_eq_true_iff.1 hS).1 row hr) t ht
  rw [← hc, hcls] at h2
  simp only [Bool.not_true, Bool.false_or, Bool.and_eq_true] at h2
  refine ⟨h2.1, ?_⟩
  have h3 := h2.2
  unfold isScratchSet at h3
  split at h3
  · rename_i lv hto
    rw [hto, hyops] at hops
    simp only [instOps, instOp, Option.some.injEq, List.cons.injEq, Operand.reg.injEq] at hops
    exact hops.1.symm
  · cases h3

theorem plainKeys_not_cc (cfg : Cfg) :
    ∀ k ∈ ["cnot_ec", "cnot_ce", "cphase_ec", "mov_ec", "mov_ce"], ccKeys.contains (k ++ sfx cfg) = false := by
  unfold sfx
  cases cfg.debug <;> decide

theorem expandInstr_sets {cfg : Cfg} (hS : SetsOnlyScratch cfg = true) {info rv used g l}
    (hi : infoOf cfg g.cls = some info) (hg : infoGate info = true)
    (h : expandInstr cfg info rv used g = .ok l) {y : Instr} (hy : y ∈ l) {r : Reg} {v : Int}
    (hset : setOf cfg y = some (r, v)) : getUnused used = .ok r := by
  unfold expandInstr at h
  split at h
  · -- one-qubit gates emit no `set`
    unfold expandGate1 at h
    split at h
    · have hk := (useTemplate_sets hS h hy hset).1
      obtain ⟨hm, hc⟩ := infoOf_cls hi
      unfold SetsOnlyScratch at hS
      simp only [Bool.and_eq_true] at hS
      have h2 := (List.all_eq_true.1 hS.2) info hm
      simp only [Bool.and_eq_true, Bool.not_eq_eq_eq_not, Bool.not_true, hc] at h2
      by_cases hhw : cfg.hw = true
      · simp only [hhw, ↓reduceIte] at hk; rw [h2.2] at hk; cases hk
      · simp only [hhw, Bool.false_eq_true, ↓reduceIte, String.append_empty] at hk; rw [h2.1] at hk; cases hk
    · cases h
  · split at h
    · obtain ⟨r0, r1, k, a, b, s, _, hd, hu⟩ := expandGate2_ok h
      obtain ⟨hcc, rfl⟩ := useTemplate_sets hS hu hy hset
      cases hd
      case cnotCC hs | cphaseCC hs => exact hs
      all_goals exact absurd hcc (by rw [plainKeys_not_cc cfg _ (by simp)]; decide)
    · unfold infoGate at hg; simp_all

end NQ.Tr
