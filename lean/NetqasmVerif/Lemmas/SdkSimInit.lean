/-
Compiler correctness of the SDK builder model (C05), part 6: array declaration and initialisation at
the head of a subroutine (`_build_cmds_allocated_arrays` / `_build_cmds_init_array`), closed form:
after the initialisation code every array created since the last flush holds exactly its initial
values — for the plain store list and for the all-equal loop optimisation (including the
re-ordering of the pending commands that the loop variant performs).
-/
import NetqasmVerif.Lemmas.SdkSimTop
namespace NQ.Sdk

abbrev Arrs := Nat → Option (List (Option Int))

def updArr (arrs : Arrs) (a : Nat) (l : List (Option Int)) : Arrs := fun x => if x = a then some l else arrs x

theorem updArr_upd (arrs : Arrs) (a : Nat) (l1 l2 : List (Option Int)) :
    updArr (updArr arrs a l1) a l2 = updArr arrs a l2 := by
  funext x; by_cases e : x = a <;> simp [updArr, e]

theorem updArr_self {arrs : Arrs} {a : Nat} {l : List (Option Int)} (h : arrs a = some l) :
    updArr arrs a l = arrs := by
  funext x; by_cases e : x = a
  · subst e; simp [updArr, h]
  · simp [updArr, e]

theorem updArr_comm (arrs : Arrs) {a b : Nat} (l1 l2 : List (Option Int)) (h : a ≠ b) :
    updArr (updArr arrs a l1) b l2 = updArr (updArr arrs b l2) a l1 := by
  funext x
  by_cases e1 : x = a
  · subst e1
    simp [updArr, h]
  · by_cases e2 : x = b
    · subst e2; simp [updArr, e1]
    · simp [updArr, e1, e2]

theorem setArr_arrs (s : St) (a : Nat) (l : List (Option Int)) : (s.setArr a l).arrs = updArr s.arrs a l := rfl

def applyDecls (arrs : Arrs) : List ArrDecl → Arrs
  | [] => arrs
  | d :: ds => applyDecls (updArr arrs d.addr (initList d)) ds

theorem applyDecls_append (arrs : Arrs) (a b : List ArrDecl) :
    applyDecls arrs (a ++ b) = applyDecls (applyDecls arrs a) b := by
  induction a generalizing arrs with
  | nil => rfl
  | cons d ds ih => simp [applyDecls, ih]

theorem applyDecls_other (arrs : Arrs) (ds : List ArrDecl) (a : Nat) (h : ∀ d ∈ ds, d.addr ≠ a) :
    applyDecls arrs ds a = arrs a := by
  induction ds generalizing arrs with
  | nil => rfl
  | cons d ds ih =>
    simp only [applyDecls]
    rw [ih _ (fun d' hd' => h d' (by simp [hd']))]
    have := h d (by simp)
    simp [updArr, Ne.symm this]

theorem applyDecls_upd_comm (arrs : Arrs) (ds : List ArrDecl) (a : Nat) (x y : List (Option Int))
    (h : ∀ d ∈ ds, d.addr ≠ a) :
    updArr (applyDecls (updArr arrs a x) ds) a y = updArr (applyDecls arrs ds) a y := by
  induction ds generalizing arrs with
  | nil => simp [applyDecls, updArr_upd]
  | cons d ds ih =>
    simp only [applyDecls]
    have hd := h d (by simp)
    rw [updArr_comm arrs x (initList d) (Ne.symm hd)]
    exact ih _ (fun d' hd' => h d' (by simp [hd']))

theorem initDecls_spec (s : HSt) (ds : List ArrDecl) :
    (initDecls s ds).arrs = applyDecls s.arrs ds ∧ (initDecls s ds).hregs = s.hregs ∧
    (initDecls s ds).trace = s.trace ∧ (initDecls s ds).outcomes = s.outcomes := by
  induction ds generalizing s with
  | nil => exact ⟨rfl, rfl, rfl, rfl⟩
  | cons d ds ih =>
    simp only [initDecls, applyDecls]
    have := ih (s.setArr d.addr (initList d))
    exact ⟨this.1, this.2.1, this.2.2.1, this.2.2.2⟩

/-- `TmpEq` without the arrays -/
structure RegEq (a : List Bool) (ts ts' : St) : Prop where
  regs : ∀ x, ¬ TmpIn a x → ts'.regs x = ts.regs x
  trace : ts'.trace = ts.trace
  outs : ts'.outcomes = ts.outcomes
  shmR : ts'.shmRegs = ts.shmRegs
  shmA : ts'.shmArrs = ts.shmArrs

theorem RegEq.refl (a : List Bool) (ts : St) : RegEq a ts ts := ⟨fun _ _ => rfl, rfl, rfl, rfl, rfl⟩
theorem RegEq.trans {a : List Bool} {x y z : St} (h1 : RegEq a x y) (h2 : RegEq a y z) : RegEq a x z :=
  ⟨fun r hr => (h2.regs r hr).trans (h1.regs r hr), h2.trace.trans h1.trace, h2.outs.trans h1.outs,
   h2.shmR.trans h1.shmR, h2.shmA.trans h1.shmA⟩
theorem RegEq.setArr (a : List Bool) (ts : St) (ad : Nat) (l : List (Option Int)) : RegEq a ts (ts.setArr ad l) :=
  ⟨fun _ _ => rfl, rfl, rfl, rfl, rfl⟩
theorem RegEq.setTmp {a : List Bool} {r : Reg} (hr : TmpIn a r) (ts : St) (v : Int) : RegEq a ts (ts.setReg r v) :=
  ⟨fun _ hx => St.setReg_regs_ne _ _ (fun e => hx (e ▸ hr)), rfl, rfl, rfl, rfl⟩

/-- what `storeInits a i vs` leaves in an array that held `l`: the `some` entries of `vs` stored from index `i` on -/
def overlay : List (Option Int) → Nat → List (Option Int) → List (Option Int)
  | l, _, [] => l
  | l, i, none :: vs => overlay l (i + 1) vs
  | l, i, some v :: vs => overlay (l.set i (some v)) (i + 1) vs

theorem overlay_full : ∀ (vs pre : List (Option Int)),
    overlay (pre ++ List.replicate vs.length none) pre.length vs = pre ++ vs := by
  intro vs
  induction vs with
  | nil => intro pre; simp [overlay]
  | cons x vs ih =>
    intro pre
    -- whatever `x` is, after this step the prefix is `pre ++ [x]`
    have step : overlay (pre ++ List.replicate (vs.length + 1) none) pre.length (x :: vs)
        = overlay ((pre ++ [x]) ++ List.replicate vs.length none) (pre ++ [x]).length vs := by
      cases x with
      | none => simp [overlay, List.replicate_succ]
      | some v =>
        simp only [overlay, List.replicate_succ]
        rw [List.set_append_right _ _ (Nat.le_refl _)]
        simp
    rw [List.length_cons, step, ih (pre ++ [x])]
    simp

theorem overlay_length : ∀ (vs : List (Option Int)) (l : List (Option Int)) (i : Nat),
    (overlay l i vs).length = l.length := by
  intro vs
  induction vs with
  | nil => intro l i; rfl
  | cons x vs ih => intro l i; cases x <;> simp [overlay, ih]

theorem storeInits_sim (act : List Bool) (a : Nat) : ∀ (vs : List (Option Int)) (i : Nat) (l : List (Option Int)) (ts : St)
    (p : List PCmd) (n : Nat), Placed p n (storeInits a i vs) → ts.arrs a = some l → i + vs.length ≤ l.length →
    ∃ ts', Runs p n (storeInits a i vs).length ts ts' ∧ RegEq act ts ts' ∧
      ts'.arrs = updArr ts.arrs a (overlay l i vs) := by
  intro vs
  induction vs with
  | nil =>
    intro i l ts p n _ ha _
    exact ⟨ts, Runs.refl _ _ _, RegEq.refl _ _, by simp [overlay, updArr_self ha]⟩
  | cons x vs ih =>
    intro i l ts p n hpl ha hi
    rw [List.length_cons] at hi
    cases x with
    | none => exact ih (i + 1) l ts p n hpl ha (by omega)
    | some v =>
      have r0 : Runs p n 1 ts (ts.setArr a (l.set i (some v))) :=
        runs_instr hpl.head (exec_store_val rfl (writeEntry_lit v ha (by omega)))
      obtain ⟨ts', hr, ho, harr⟩ := ih (i + 1) (l.set i (some v)) (ts.setArr a (l.set i (some v)))
        p (n + 1) hpl.tail (by simp) (by rw [List.length_set]; omega)
      exact ⟨ts', runs_cons r0 hr, (RegEq.setArr act ts a _).trans ho, by
        rw [harr, setArr_arrs, updArr_upd]; rfl⟩

theorem replicate_set_next (k j : Nat) (x : Option Int) :
    (List.replicate k x ++ List.replicate (j + 1) none).set k x
      = List.replicate (k + 1) x ++ List.replicate j none := by
  rw [List.set_append_right _ _ (by simp)]
  simp only [List.length_replicate, Nat.sub_self, List.replicate_succ, List.set_cons_zero]
  rw [← List.replicate_succ, List.replicate_succ', List.append_assoc]
  rfl

/-- the all-equal loop from its head, `k` entries filled already -/
theorem fill_loop_sim {p : List PCmd} {n : Nat} {i a N : Nat} {v : Int} {le lx : Lbl} {act : List Bool}
    (Lp : LoopAt p n 1 (R i) 0 (N : Int) 1 le lx)
    (hst : p[n + 3]? = some (.instr .store [.lit v, .entryR a (R i)])) (htmp : TmpIn act (R i)) :
    ∀ (j k : Nat) (ts : St), k + j = N → ts.regs (R i) = some (k : Int) →
      ts.arrs a = some (List.replicate k (some v) ++ List.replicate j none) →
      ∃ ts', Steps p (ts, n + 2) (ts', n + 7) ∧
        ts'.arrs = updArr ts.arrs a (List.replicate N (some v)) ∧ RegEq act ts ts' := by
  intro j
  induction j with
  | zero =>
    intro k ts hk hr ha
    obtain rfl : k = N := by omega
    have s1 := step_beq_lit ts Lp.h2 hr Lp.flx
    rw [if_pos rfl] at s1
    refine ⟨ts, Steps.one s1, ?_, RegEq.refl _ _⟩
    rw [updArr_self]; simpa using ha
  | succ j ih =>
    intro k ts hk hr ha
    have s1 := step_beq_lit ts Lp.h2 hr Lp.flx
    rw [if_neg (by omega)] at s1
    have s2 : step p (ts, n + 3) = some (ts.setArr a ((List.replicate k (some v) ++ List.replicate (j + 1) none).set k (some v)), n + 3 + 1) := by
      rw [step_instr ts hst]
      exact exec_store_val rfl (writeEntry_of v (entryLoc_R hr (by simp [idxOf])) ha (by simp))
    rw [replicate_set_next] at s2
    let ts1 := ts.setArr a (List.replicate (k + 1) (some v) ++ List.replicate j none)
    have s3 := step_incr ts1 Lp.h3 (v := k) hr
    have s4 := step_jmp (ts1.setReg (R i) ((k : Int) + 1)) Lp.h4 Lp.fle
    obtain ⟨ts', hst', harr, hro⟩ := ih (k + 1) (ts1.setReg (R i) ((k : Int) + 1)) (by omega)
      (by simp) (by simp [ts1])
    refine ⟨ts', Steps.next s1 (Steps.next s2 (Steps.next s3 (Steps.next s4 hst'))), ?_,
      ((RegEq.setArr act ts a _).trans (RegEq.setTmp htmp ts1 _)).trans hro⟩
    rw [harr]
    show updArr (updArr ts.arrs a _) a _ = _
    rw [updArr_upd]

def PendOK (act : List Bool) (pend : List PCmd) (pd : List ArrDecl) : Prop :=
  ∀ (p : List PCmd) (n : Nat) (ts : St), Placed p n pend →
    ∃ ts', Runs p n pend.length ts ts' ∧ RegEq act ts ts' ∧ ts'.arrs = applyDecls ts.arrs pd

theorem PendOK.nil (act : List Bool) : PendOK act [] [] :=
  fun _ _ ts _ => ⟨ts, Runs.refl _ _ _, RegEq.refl _ _, rfl⟩

/-- the declared length is the number of initial values (`Array.__init__`: `length = len(init_values)`) -/
def DeclOK (d : ArrDecl) : Prop :=
  match d.init with
  | some vs => d.len = vs.length
  | none => True

theorem allEqualInit_spec : ∀ {vs : List (Option Int)} {v : Int}, allEqualInit vs = some v →
    vs = List.replicate vs.length (some v)
  | [], v, h => by simp [allEqualInit] at h
  | none :: rest, v, h => by simp [allEqualInit] at h
  | some w :: rest, v, h => by
    dsimp only [allEqualInit] at h
    split at h
    · rename_i hc
      cases h
      simp only [Bool.and_eq_true, List.all_eq_true, beq_iff_eq] at hc
      simp only [List.length_cons, List.replicate_succ]
      congr 1
      exact List.eq_replicate_iff.mpr ⟨rfl, hc.2⟩
    · cases h

theorem exec_array {p : List PCmd} {s : St} {n : Nat} (len a : Nat) :
    exec p s n .array [.lit (len : Int), .addr a] = some (s.setArr a (List.replicate len none), n + 1) := by
  simp [exec]

theorem initArray_sim {m m' : Mem} {pend out : List PCmd} {d : ArrDecl} {pd : List ArrDecl}
    (h : initArray m pend d = .ok (m', out)) (hp : PendOK m.active pend pd)
    (hne : ∀ d' ∈ pd, d'.addr ≠ d.addr) (hd : DeclOK d) : PendOK m.active out (pd ++ [d]) := by
  unfold initArray at h
  simp only at h
  split at h
  · -- no initial values
    rename_i hinit
    cases h
    intro p n ts hpl
    obtain ⟨ts1, hr1, he1, ha1⟩ := hp p n ts hpl.left
    refine ⟨ts1.setArr d.addr (List.replicate d.len none),
      runs_append (B := [_]) hr1 (runs_instr hpl.right.head (exec_array d.len d.addr)),
      he1.trans (RegEq.setArr _ _ _ _), ?_⟩
    · rw [setArr_arrs, ha1, applyDecls_append]
      simp [applyDecls, initList, hinit]
  · rename_i vs hinit
    have hlen : d.len = vs.length := by simp [DeclOK, hinit] at hd; exact hd
    split at h
    · -- all-equal loop
      rename_i v hall
      split at h
      · cases h
      · rename_i i hi
        split at h
        · cases h
        · rename_i m1 h1
          split at h
          · cases h
          · rename_i m3 h3
            cases h
            have htmp : TmpIn m.active (R i) := ⟨rfl, getInactive_spec hi⟩
            have hvs := allEqualInit_spec hall
            intro p n ts hpl
            rw [buildLoop_shape _ _ _ _ _ _ (by simp)] at hpl ⊢
            let ts0 := ts.setArr d.addr (List.replicate d.len none)
            have r0 : Runs p n 1 ts ts0 := runs_instr hpl.head (exec_array d.len d.addr)
            -- the earlier arrays
            obtain ⟨ts1, hr1, he1, ha1⟩ := hp p (n + 1) ts0 hpl.tail.left
            obtain ⟨Lp, hplS⟩ := loopAt_of_placed hpl.tail.right
            have harr1 : ts1.arrs d.addr = some (List.replicate vs.length none) := by
              rw [ha1, applyDecls_other _ _ _ hne]; simp [ts0, hlen]
            obtain ⟨ts2, hrun2, ha2, hro2⟩ := fill_loop_sim Lp hplS.head htmp vs.length 0 (ts1.setReg (R i) 0)
              (by omega) (by simp) (by simpa using harr1)
            refine ⟨ts2, runs_cons r0 (runs_append hr1 (steps_loop_entry Lp.h0 Lp.h1 hrun2)), ?_, ?_⟩
            · exact (((RegEq.setArr _ _ _ _).trans he1).trans (RegEq.setTmp htmp ts1 0)).trans hro2
            · rw [ha2]
              show updArr ts1.arrs d.addr _ = _
              rw [ha1]
              show updArr (applyDecls (updArr ts.arrs d.addr (List.replicate d.len none)) pd) d.addr _ = _
              rw [applyDecls_upd_comm _ _ _ _ _ hne, applyDecls_append]
              simp only [applyDecls, initList, hinit]
              rw [← hvs]
    · -- store list
      rename_i hall
      cases h
      intro p n ts hpl
      obtain ⟨ts1, hr1, he1, ha1⟩ := hp p n ts hpl.left
      let ts2 := ts1.setArr d.addr (List.replicate d.len none)
      have r2 : Runs p (n + pend.length) 1 ts1 ts2 := runs_instr hpl.right.head (exec_array d.len d.addr)
      obtain ⟨ts3, hr3, ho3, ha3⟩ := storeInits_sim m.active d.addr vs 0 (List.replicate d.len none) ts2 p
        (n + pend.length + 1) hpl.right.tail (by simp [ts2]) (by simp [hlen])
      refine ⟨ts3, runs_append hr1 (runs_cons r2 hr3), ?_, ?_⟩
      · exact he1.trans ((RegEq.setArr _ _ _ _).trans ho3)
      · rw [ha3]
        show updArr (updArr ts1.arrs d.addr _) d.addr _ = _
        rw [updArr_upd, ha1, applyDecls_append]
        simp only [applyDecls, initList, hinit]
        have := overlay_full vs []
        simp only [List.nil_append, List.length_nil] at this
        rw [hlen, this]

theorem initArrays_sim : ∀ (ds : List ArrDecl) (m m' : Mem) (pend out : List PCmd) (pd : List ArrDecl),
    initArrays m pend ds = .ok (m', out) → PendOK m.active pend pd →
    ((pd ++ ds).map (·.addr)).Nodup → (∀ d ∈ ds, DeclOK d) → PendOK m.active out (pd ++ ds) := by
  intro ds
  induction ds with
  | nil =>
    intro m m' pend out pd h hp _ _
    simp [initArrays] at h; obtain ⟨_, rfl⟩ := h; simpa using hp
  | cons d ds ih =>
    intro m m' pend out pd h hp hnd hok
    dsimp only [initArrays] at h
    split at h
    · cases h
    · rename_i m1 p1 h1
      have hne : ∀ d' ∈ pd, d'.addr ≠ d.addr := by
        intro d' hd' e
        rw [List.map_append, List.nodup_append] at hnd
        exact hnd.2.2 _ (List.mem_map_of_mem hd') _ (List.mem_map_of_mem (List.mem_cons_self)) e
      have hp1 := initArray_sim h1 hp hne (hok d (by simp))
      rw [← (initArray_spec h1).act] at hp1
      have := ih m1 m' p1 out (pd ++ [d]) h hp1 (by simpa [List.append_assoc] using hnd)
        (fun d' hd' => hok d' (by simp [hd']))
      rw [(initArray_spec h1).act] at this
      simpa [List.append_assoc] using this

end NQ.Sdk
