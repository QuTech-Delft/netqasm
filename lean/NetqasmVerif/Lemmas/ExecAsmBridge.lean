/-
Bridge between the fuel-indexed interpreter `Exec.run` and the relational closure `XSteps` over
`Exec.stepLoc` used by the assembler proofs (Lemmas/AsmExec.lean, C03).
-/
import NetqasmVerif.Lemmas.AsmExec
import NetqasmVerif.Lemmas.ExecRun
namespace NQ.Exec
open NQ.Asm

/-- what `run` reports when it stops for lack of fuel or because the end was reached -/
def restOut (X : List Instr) (pc : Int) : Outcome := if pc ≥ X.length then .halted else .outOfFuel

theorem run_zero_rest (a : Nat) (X : List Instr) (s : State) (pc : Int) :
    run false a X 0 s pc = ⟨s, pc, restOut X pc, []⟩ := by
  rw [run_zero]; unfold restOut; split <;> rfl

theorem run_of_xsteps {a : Nat} {X : List Instr} {c c' : Loc × Int} (h : XSteps a X c c') :
    ∀ (s : State), s.apps a = some c.1.ap → s.loc c.1.ap = c.1 →
    ∃ n, (run false a X n s c.2).s = s.put a c'.1 ∧ (run false a X n s c.2).pc = c'.2 ∧
      (run false a X n s c.2).out = restOut X c'.2 ∧ (∀ v ∈ (run false a X n s c.2).visited, 0 ≤ v) := by
  induction h with
  | refl c =>
    intro s hap hloc
    refine ⟨0, ?_⟩
    rw [run_zero_rest]
    exact ⟨by rw [← hloc, put_loc_self s a _ hap], rfl, rfl, by simp⟩
  | @step l l' k pc' x c hx hs _ ih =>
    intro s hap hloc
    simp only at hap hloc
    have hstep : step false a x s (k : Int) = .ok (s.put a l') pc' := by
      apply step_ok_of_loc hap
      rw [hloc]; exact hs
    obtain ⟨n, h1, h2, h3, h4⟩ := ih (s.put a l') (put_apps_self s a l') (loc_put s a l')
    have hk : k < X.length := by
      rcases Nat.lt_or_ge k X.length with h | h
      · exact h
      · simp [List.getElem?_eq_none h] at hx
    have hge : ¬ ((k : Int) ≥ (X.length : Int)) := by omega
    have hpy : pyIdx X.length (k : Int) = some k := by
      rw [pyIdx_nonneg (by omega) (by omega)]; simp
    refine ⟨n + 1, ?_, ?_, ?_, ?_⟩
    all_goals
      simp only []
      unfold run
      simp only [hge, if_false, hpy, hx, hstep]
    · rw [h1, put_put]
    · exact h2
    · exact h3
    · intro v hv
      simp only [List.mem_cons] at hv
      rcases hv with hv | hv
      · omega
      · exact h4 v hv

/-- fuel → relational: a run that did not fault and only visited non-negative program counters
(no Python wrap-around of `commands[pc]`) is a sequence of successful `stepLoc` steps -/
theorem xsteps_of_run {a : Nat} {X : List Instr} (n : Nat) (s : State) (pc : Int) (ap : App)
    (hap : s.apps a = some ap)
    (hout : (run false a X n s pc).out = .halted ∨ (run false a X n s pc).out = .outOfFuel)
    (hvis : ∀ v ∈ (run false a X n s pc).visited, 0 ≤ v) :
    ∃ l', XSteps a X (s.loc ap, pc) (l', (run false a X n s pc).pc) ∧
      (run false a X n s pc).s = s.put a l' := by
  fun_induction run false a X n s pc generalizing ap with
  | case1 s | case2 s | case3 _ s => exact ⟨s.loc ap, .refl _, (put_loc_self s a ap hap).symm⟩
  | case4 | case5 | case7 => simp at hout
  | case6 _ s pc hge k hk i hi s' pc' hs _ ih =>
    rcases hl : stepLoc false a i (s.loc ap) pc with ⟨l1, pc1⟩ | ⟨l1, f⟩
    · obtain ⟨rfl, rfl⟩ : s.put a l1 = s' ∧ pc1 = pc' := by
        have := (step_ok_of_loc hap hl).symm.trans hs; cases this; exact ⟨rfl, rfl⟩
      have hpc0 : 0 ≤ pc := hvis pc (by simp)
      obtain ⟨l', hx, hs'⟩ := ih l1.ap (put_apps_self s a l1) hout fun v hv => hvis v (.tail _ hv)
      rw [loc_put] at hx
      have hkk : pc.toNat = k := Option.some.inj ((pyIdx_nonneg hpc0 (by omega)).symm.trans hk)
      have hpcn : pc = ((k : Nat) : Int) := by omega
      refine ⟨l', ?_, by simp only []; rw [hs', put_put]⟩
      rw [hpcn]
      exact .step (k := k) (x := i) (l' := l1) (pc' := pc1) hi (hpcn ▸ hl) hx
    · have := (step_fault_of_loc hap hl).symm.trans hs; cases this

/-- For a registered application, `XSteps` (the relational closure used by the
assembler proofs, `Lemmas/AsmExec.lean`) and the fuel-indexed interpreter `Exec.run` describe the
same executions: `(l, pc) →* (l', pc')` iff some amount of fuel makes `run` stop (out of fuel, or
halted when `pc'` is past the end) in the state where `a`'s view is `l'`, at `pc'`, having visited
only non-negative program counters. -/
theorem run_iff_steps {a : Nat} {X : List Instr} (s : State) (ap : App) (hap : s.apps a = some ap)
    (pc pc' : Int) (l' : Loc) :
    XSteps a X (s.loc ap, pc) (l', pc') ↔
    ∃ n, (run false a X n s pc).s = s.put a l' ∧ (run false a X n s pc).pc = pc' ∧
      (run false a X n s pc).out = restOut X pc' ∧ (∀ v ∈ (run false a X n s pc).visited, 0 ≤ v) := by
  constructor
  · intro h
    exact run_of_xsteps h s hap rfl
  · rintro ⟨n, h1, h2, h3, h4⟩
    have hout : (run false a X n s pc).out = .halted ∨ (run false a X n s pc).out = .outOfFuel := by
      rw [h3]; unfold restOut; split <;> simp
    obtain ⟨l2, hx, hs⟩ := xsteps_of_run n s pc ap hap hout h4
    have : l2 = l' := put_inj (hs.symm.trans h1)
    rw [← this, ← h2]; exact hx
end NQ.Exec
