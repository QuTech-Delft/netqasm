/-
Flavour tables (`Model/Basic.lean`) and the codec of instructions and subroutines over a table.
A row whose opcode is in no clash pair is the row `id_map` returns (`idMap_of_noClash`), which gives
the round trip `decodeSub_encodeSub` for such instructions.  The `*_append` lemmas get the clash
lists of `a ++ b` from those of `a` and `b`, so that the core rows are examined once for all flavours.
-/
import NetqasmVerif.Lemmas.Codec
namespace NQ

theorem lastBy_none_of_forall {p : Row → Bool} {T : Table} (h : ∀ r ∈ T, p r = false) :
    lastBy p T = none := by
  induction T with
  | nil => rfl
  | cons r rs ih =>
    simp only [lastBy]
    rw [ih (fun r' hr' => h r' (List.mem_cons_of_mem _ hr'))]
    simp [h r (List.mem_cons_self)]

theorem lastBy_some_mem {p : Row → Bool} {T : Table} {r : Row} (h : lastBy p T = some r) :
    r ∈ T ∧ p r = true := by
  induction T with
  | nil => simp [lastBy] at h
  | cons r' rs ih =>
    simp only [lastBy] at h
    split at h
    · rename_i r'' h''
      cases h
      exact ⟨List.mem_cons_of_mem _ (ih h'').1, (ih h'').2⟩
    · split at h
      · rename_i hp; cases h; exact ⟨List.mem_cons_self, hp⟩
      · cases h

theorem idMap_of_noClash {T : Table} {row : Row} (hm : row ∈ T)
    (hc : ∀ c ∈ opcodeClashes T, c.1 ≠ row.opcode) : idMap T row.opcode = some row := by
  unfold idMap
  induction T with
  | nil => cases hm
  | cons r rs ih =>
    simp only [opcodeClashes, List.mem_append, List.mem_map, List.mem_filter] at hc
    rcases List.mem_cons.1 hm with rfl | hm'
    · simp only [lastBy]
      have : lastBy (fun r => r.opcode == row.opcode) rs = none := by
        apply lastBy_none_of_forall
        intro r' hr'
        cases hne : (r'.opcode == row.opcode)
        · rfl
        · exact absurd rfl (hc (row.opcode, row.cls, r'.cls) (Or.inl ⟨r', ⟨hr', hne⟩, rfl⟩))
      simp [this]
    · simp only [lastBy]
      rw [ih hm' (fun c hcm => hc c (Or.inr hcm))]

/-- the three clash lists of `Model/Basic` are built alike (`h0`, `h1`), hence one lemma for any such `f` -/
theorem clashes_append {β : Type} (f : Table → List β) (p : Row → Row → Bool) (out : Row → Row → β)
    (h0 : f [] = []) (h1 : ∀ r rs, f (r :: rs) = (rs.filter (p r)).map (out r) ++ f rs)
    (P : β → Bool) (a b : Table) :
    (f (a ++ b)).all P = ((f a).all P
      && a.all (fun r => (b.filter (p r)).all fun r' => P (out r r')) && (f b).all P) := by
  induction a with
  | nil => simp [h0]
  | cons r a ih =>
    simp only [List.cons_append, h1, ih, List.filter_append, List.map_append, List.all_append,
      List.all_cons, List.all_map, Bool.and_assoc]
    exact congrArg _ (Bool.and_left_comm ..)

theorem opcodeClashes_append {a : Table} (ha : opcodeClashes a = [])
    (P : Nat × String × String → Bool) (b : Table) :
    (opcodeClashes (a ++ b)).all P
      = (a.all (fun r => (b.filter fun r' => r'.opcode == r.opcode).all
          fun r' => P (r.opcode, r.cls, r'.cls)) && (opcodeClashes b).all P) := by
  rw [clashes_append opcodeClashes _ _ rfl (fun _ _ => rfl), ha]; rfl

theorem mnemonicClashes_append {a : Table} (ha : mnemonicClashes a = [])
    (P : String × String × String → Bool) (b : Table) :
    (mnemonicClashes (a ++ b)).all P
      = (a.all (fun r => (b.filter fun r' => r'.mn == r.mn).all
          fun r' => P (r.mn, r.cls, r'.cls)) && (mnemonicClashes b).all P) := by
  rw [clashes_append mnemonicClashes _ _ rfl (fun _ _ => rfl), ha]; rfl

theorem classClashes_append {a : Table} (ha : classClashes a = []) (P : String → Bool) (b : Table) :
    (classClashes (a ++ b)).all P
      = (a.all (fun r => (b.filter fun r' => r'.cls == r.cls).all fun r' => P r'.cls)
          && (classClashes b).all P) := by
  rw [clashes_append classClashes _ _ rfl (fun _ _ => rfl), ha]; rfl

/-- `l = []` as a Boolean `all`, the form in which the `*_append` lemmas rewrite a clash list -/
theorem all_false_iff {β : Type} {l : List β} : l.all (fun _ => false) = true ↔ l = [] := by
  cases l <;> simp

theorem rowOf_some {T : Table} {cls : String} {row : Row} (h : rowOf T cls = some row) :
    row ∈ T ∧ row.cls = cls := by
  unfold rowOf at h
  have h1 := List.mem_of_find?_eq_some h
  have h2 := List.find?_some h
  simp at h2
  exact ⟨h1, h2⟩

theorem rowOf_append (A B : Table) (cls : String) :
    rowOf (A ++ B) cls = (rowOf A cls).or (rowOf B cls) := List.find?_append

theorem rowOf_of_mem {T : Table} (hc : classClashes T = []) {r : Row} (hr : r ∈ T) :
    rowOf T r.cls = some r := by
  induction T with
  | nil => cases hr
  | cons x T ih =>
    rw [classClashes, List.append_eq_nil_iff, List.map_eq_nil_iff] at hc
    by_cases hx : x.cls = r.cls
    · rcases List.mem_cons.1 hr with rfl | hr
      · exact List.find?_cons_of_pos (beq_self_eq_true _)
      · exact absurd (beq_iff_eq.2 hx.symm) (List.filter_eq_nil_iff.1 hc.1 r hr)
    · rcases List.mem_cons.1 hr with rfl | hr
      · exact absurd rfl hx
      · exact (List.find?_cons_of_neg (by simpa using hx)).trans (ih hc.2 hr)

/-- `n` is the position of the row in `T` (for a generated table: the translator's order); it lets a
concrete class be looked up with one `rfl` on `T[n]?` and no string comparison -/
theorem rowOf_at {T : Table} (hc : classClashes T = []) (n : Nat) {r : Row} (h : T[n]? = some r) :
    rowOf T r.cls = some r := rowOf_of_mem hc (List.mem_of_getElem? h)

theorem encodeInstr_at {T : Table} (hc : classClashes T = []) (n : Nat) {r : Row}
    (h : T[n]? = some r) (ops : List Operand) : encodeInstr T ⟨r.cls, ops⟩ = encodeRow r ops := by
  simp only [encodeInstr, rowOf_at hc n h]

theorem exists_of_map_eq {α β γ : Type} {f : α → γ} {g : β → γ} {l : List α} {l' : List β}
    (h : l.map f = l'.map g) {a : α} (ha : a ∈ l) : ∃ b ∈ l', g b = f a :=
  List.mem_map.1 (h ▸ List.mem_map_of_mem ha)

theorem encodeInstr_eq_some {T : Table} {i : Instr} {bs : List Nat} (h : encodeInstr T i = some bs) :
    ∃ row, rowOf T i.cls = some row ∧ encodeRow row i.ops = some bs := by
  unfold encodeInstr at h
  split at h
  · exact ⟨_, ‹_›, h⟩
  · cases h

theorem encodeInstrs_cons_some {T : Table} {i : Instr} {is : List Instr} {bs : List Nat}
    (h : encodeInstrs T (i :: is) = some bs) :
    ∃ b bs', encodeInstr T i = some b ∧ encodeInstrs T is = some bs' ∧ bs = b ++ bs' := by
  simp only [encodeInstrs] at h
  split at h
  · exact ⟨_, _, ‹_›, ‹_›, (Option.some.inj h).symm⟩
  · cases h

theorem encodeSub_eq_some {T : Table} {s : Sub} {bs : List Nat} (h : encodeSub T s = some bs) :
    (s.v0 < 256 ∧ s.v1 < 256 ∧ s.app < 65536) ∧ ∃ body, encodeInstrs T s.instrs = some body ∧
      bs = s.v0 :: s.v1 :: s.app % 256 :: s.app / 256 :: body := by
  unfold encodeSub at h
  split at h
  · split at h
    · exact ⟨‹_›, _, ‹_›, (Option.some.inj h).symm⟩
    · cases h
  · cases h

theorem encodeInstr_length {T i bs} (h : encodeInstr T i = some bs) : bs.length = 7 := by
  obtain ⟨row, _, hr⟩ := encodeInstr_eq_some h
  exact encodeRow_length _ _ _ hr

theorem encodeInstrs_length {T : Table} {is : List Instr} {bs : List Nat}
    (h : encodeInstrs T is = some bs) : bs.length = 7 * is.length := by
  induction is generalizing bs with
  | nil => cases h; rfl
  | cons i is ih =>
    obtain ⟨b, bs', hb, hbs', rfl⟩ := encodeInstrs_cons_some h
    rw [List.length_append, encodeInstr_length hb, ih hbs', List.length_cons]; omega

/-- the side condition of the round trip: `idMap` returns the last row with an opcode -/
def ClashFree (T : Table) (cls : String) : Prop :=
  ∀ row, rowOf T cls = some row → ∀ c ∈ opcodeClashes T, c.1 ≠ row.opcode

theorem clashFree_of_nil {T : Table} (h : opcodeClashes T = []) (cls : String) : ClashFree T cls :=
  fun _ _ c hc => by rw [h] at hc; cases hc

theorem decodeInstr_encodeInstr (T : Table) (i : Instr) (bs : List Nat)
    (h : encodeInstr T i = some bs) (hc : ClashFree T i.cls) : decodeInstr T bs = some i := by
  obtain ⟨cls, ops⟩ := i
  obtain ⟨row, hrow, hr⟩ := encodeInstr_eq_some h
  obtain ⟨body, hb, _, hl, rfl⟩ := encodeRow_some hr
  obtain ⟨hm, rfl⟩ := rowOf_some hrow
  have hlen : (body ++ List.replicate (6 - body.length) 0).length = 6 := by
    rw [List.length_append, List.length_replicate]; omega
  simp only [decodeInstr, hlen, if_true, idMap_of_noClash hm (hc row hrow),
    decodeOps_encodeOps _ _ _ _ hb]

theorem decodeInstrs_encodeInstrs (T : Table) (is : List Instr) (bs : List Nat)
    (h : encodeInstrs T is = some bs) (hc : ∀ i ∈ is, ClashFree T i.cls) :
    decodeInstrs T bs = some is := by
  induction is generalizing bs with
  | nil => cases h; rfl
  | cons i is ih =>
    obtain ⟨b, bs', hb, hbs', rfl⟩ := encodeInstrs_cons_some h
    obtain ⟨hi, his⟩ := List.forall_mem_cons.1 hc
    -- seven bytes, so that `decodeInstrs` peels exactly `b` off
    match b, encodeInstr_length hb with
    | [b0, b1, b2, b3, b4, b5, b6], _ =>
      simp only [List.cons_append, List.nil_append, decodeInstrs,
        decodeInstr_encodeInstr T i _ hb hi, ih bs' hbs' his]

theorem decodeSub_encodeSub (T : Table) (s : Sub) (bs : List Nat)
    (h : encodeSub T s = some bs) (hc : ∀ i ∈ s.instrs, ClashFree T i.cls) :
    decodeSub T bs = some s := by
  obtain ⟨⟨_, _, ha⟩, body, hb, rfl⟩ := encodeSub_eq_some h
  simp only [decodeSub, decodeInstrs_encodeInstrs T _ _ hb hc]
  obtain ⟨v0, v1, app, is⟩ := s
  simp only [Option.some.injEq, Sub.mk.injEq, true_and, and_true]
  omega

end NQ
