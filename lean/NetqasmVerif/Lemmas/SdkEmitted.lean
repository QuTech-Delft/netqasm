/-
Static facts about every subroutine `Sdk.run` emits: label names separate the labels (`emitted_nameInj`:
the five prefixes are distinct and digit-free, the counter is printed in decimal), register operands are in
the 4 × 16 register file (`emitted_regsInRange`), branch targets are labels (`emitted_labelTargets`) — the
static hypotheses of the chain in Props/C05Chain.lean — and the quantum instructions come in closed
straight-line blocks `set Q0 0; qalloc Q0; init Q0; (set Q0 0; gate Q0)*; set Q0 0; meas Q0 M; qfree Q0`
(`emitted_qclosed`, the input of Lemmas/SdkQSafe.lean).  All four follow from one invariant of the builder
(`MemOK`) and one predicate on emitted code (`CodeOK`), proved by induction over `emit` (`emit_ok`) and
carried through `flush` and `Sdk.run` (`flush_ok`, `run_ok`).
-/
import NetqasmVerif.Lemmas.SdkAsmBridge
import NetqasmVerif.Lemmas.SdkInv2
import NetqasmVerif.Lemmas.SdkOK
set_option linter.unusedVariables false
namespace NQ.Sdk

def sufL (n : Nat) : List Char := if n = 0 then [] else Nat.toDigits 10 n

theorem name_toList (l : Lbl) : l.name.toList = (Lbl.prefix l.kind).toList ++ sufL l.n := by
  unfold Lbl.name sufL
  by_cases h : l.n = 0
  · simp [h]
  · simp only [h, if_false, String.toList_append, Nat.toString_eq_repr, Nat.toList_repr]

theorem prefix_nodigit : ∀ k, ∀ c ∈ (Lbl.prefix k).toList, c.isDigit = false
  | 0 | 1 | 2 | 3 => by decide +kernel
  | _ + 4 => (by decide +kernel : ∀ c ∈ "WHILE_EXIT".toList, c.isDigit = false)

theorem prefix_inj : ∀ k < 5, ∀ k' < 5, (Lbl.prefix k).toList = (Lbl.prefix k').toList → k = k' := by
  decide +kernel

theorem sufL_digit (n : Nat) : ∀ c ∈ sufL n, c.isDigit = true := by
  intro c hc
  unfold sufL at hc
  by_cases h : n = 0
  · simp [h] at hc
  · simp only [h, if_false] at hc
    exact Nat.isDigit_of_mem_toDigits (by omega) (by omega) hc

theorem sufL_inj {n n' : Nat} (h : sufL n = sufL n') : n = n' := by
  -- the suffix is read back as the number
  have val : ∀ k, Nat.ofDigitChars 10 (sufL k) 0 = k := by
    intro k; unfold sufL; split <;> simp_all [Nat.ofDigitChars_ten_toDigits]
  rw [← val n, h, val]

/-- a digit-free prefix followed by digits splits in one way only: the part by which one prefix is longer would
be digit-free and all digits -/
theorem split_digits (p p' d d' : List Char) (hp : ∀ c ∈ p, c.isDigit = false)
    (hp' : ∀ c ∈ p', c.isDigit = false) (hd : ∀ c ∈ d, c.isDigit = true) (hd' : ∀ c ∈ d', c.isDigit = true)
    (e : p ++ d = p' ++ d') : p = p' ∧ d = d' := by
  have key : ∀ a : List Char, (∀ c ∈ a, c.isDigit = false) → (∀ c ∈ a, c.isDigit = true) → a = [] := by
    intro a h1 h2
    cases a with
    | nil => rfl
    | cons c _ => have := h1 c (by simp); rw [h2 c (by simp)] at this; cases this
  rcases List.append_eq_append_iff.1 e with ⟨a, rfl, rfl⟩ | ⟨a, rfl, rfl⟩
  · have := key a (fun c hc => hp' c (by simp [hc])) (fun c hc => hd c (by simp [hc]))
    subst this; simp
  · have := key a (fun c hc => hp c (by simp [hc])) (fun c hc => hd' c (by simp [hc]))
    subst this; simp

theorem Lbl.name_inj {l l' : Lbl} (hk : l.kind < 5) (hk' : l'.kind < 5) (e : l.name = l'.name) : l = l' := by
  have e' := congrArg String.toList e
  rw [name_toList, name_toList] at e'
  obtain ⟨e1, e2⟩ := split_digits _ _ _ _ (prefix_nodigit l.kind) (prefix_nodigit l'.kind)
    (sufL_digit l.n) (sufL_digit l'.n) e'
  have h1 := prefix_inj l.kind hk l'.kind hk' e1
  have h2 := sufL_inj e2
  cases l; cases l'; simp_all

theorem emitOps_ok : ∀ (ops : List Host) (m m' : Mem) (cs : List PCmd), MemOK m →
    emitOps m ops = .ok (m', cs) → MemOK m' ∧ CodeOK cs :=
  fun ops m _ _ ok h => emit_ok _ _ _ _ ok (emitOps_eq ops m ▸ h)

theorem plain_map {α : Type} (f : α → PCmd) (l : List α) (h : ∀ x ∈ l, cmdOK (f x) = true ∧ isQCmd (f x) = false) :
    Plain (l.map f) :=
  ⟨fun c hc => by obtain ⟨x, hx, rfl⟩ := List.mem_map.1 hc; exact (h x hx).1,
   fun c hc => by obtain ⟨x, hx, rfl⟩ := List.mem_map.1 hc; exact (h x hx).2⟩

theorem flush_ok {m m' : Mem} {pend : List PCmd} {sub : Option (List PCmd)} (ok : MemOK m) (hp : CodeOK pend)
    (h : flush m pend = .ok (m', sub)) : MemOK m' ∧ ∀ s, sub = some s → CodeOK s := by
  unfold flush at h
  split at h
  · cases h
  · rename_i m1 ini h1
    obtain ⟨ok1, a⟩ := (initArrays_spec _ h1).ok ok Plain.nil
    simp only at h
    split at h
    · cases h; exact ⟨ok1, fun s hs => by cases hs⟩
    · cases h
      refine ⟨⟨ok1.act, by simp, ok1.lbl, ok1.hnd, by simp⟩, ?_⟩
      intro s hs
      cases hs
      exact ((a.code.append hp).append
        (plain_map _ _ (fun d _ => by simp [cmdOK, isQCmd, isQ, shapeOK])).code).append
        (plain_map _ _ (fun r hr => by simp [cmdOK, isQCmd, isQ, shapeOK, ok1.rret r hr])).code

theorem runProg_ok : ∀ (p : List Top) (m : Mem) (pend : List PCmd) (step : Nat) (acc : RunOut), MemOK m →
    CodeOK pend → (∀ s, some s ∈ acc.subs → CodeOK s) →
    ∀ s, some s ∈ (runProg m pend step acc p).subs → CodeOK s
  | [], m, pend, step, acc, ok, hp, ha => by simpa [runProg] using ha
  | .op h :: rest, m, pend, step, acc, ok, hp, ha => by
    simp only [runProg]
    split
    · simpa using ha
    · rename_i m1 cs h1
      obtain ⟨ok1, c⟩ := emit_ok h _ _ _ ok h1
      exact runProg_ok rest m1 _ _ _ ok1 (hp.append c) (by simpa using ha)
  | .flush :: rest, m, pend, step, acc, ok, hp, ha => by
    simp only [runProg]
    split
    · simpa using ha
    · rename_i m1 sub h1
      obtain ⟨ok1, c⟩ := flush_ok ok hp h1
      refine runProg_ok rest m1 [] _ _ ok1 CodeOK.nil ?_
      intro s hs
      simp only [List.mem_append, List.mem_singleton] at hs
      rcases hs with hs | hs
      · exact ha s hs
      · exact c s hs.symm

theorem run_ok (p : List Top) : ∀ s, some s ∈ (Sdk.run p).subs → CodeOK s :=
  runProg_ok p Mem.init [] 0 _ memOK_init CodeOK.nil (by simp)

theorem AllOK.label {P : List PCmd} (h : AllOK P) {l : Lbl} (hl : PCmd.label l ∈ P) : l.kind < 5 := by
  simpa [cmdOK] using h _ hl

theorem AllOK.op {P : List PCmd} (h : AllOK P) {mn : Mn} {ops : List POp} {o : POp}
    (hc : PCmd.instr mn ops ∈ P) (ho : o ∈ ops) : opOK o = true := by
  have := h _ hc
  simp only [cmdOK, Bool.and_eq_true, List.all_eq_true] at this
  exact this.1 o ho

theorem AllOK.shape {P : List PCmd} (h : AllOK P) {mn : Mn} {ops : List POp}
    (hc : PCmd.instr mn ops ∈ P) : shapeOK mn ops = true := by
  have := h _ hc
  simp only [cmdOK, Bool.and_eq_true] at this
  exact this.2

theorem nameInj_of_allOK {P : List PCmd} (h : AllOK P) : Bridge.NameInj P := by
  intro l' l mn ops hl' hc hl hn
  have h1 := h.label hl'
  have h2 : l.kind < 5 := by simpa using h.op hc hl
  exact Lbl.name_inj h1 h2 hn

theorem regsInRange_of_allOK {P : List PCmd} (h : AllOK P) : Bridge.RegsInRange P := by
  intro mn ops r hc hr
  have : regOK r = true := by
    rcases hr with hr | ⟨a, hr⟩
    · simpa using h.op hc hr
    · simpa using h.op hc hr
  simpa [regOK] using this

open NQ.Asm in
theorem tgtOf_notgt : ∀ (rs : List Role) (ops : List POperand), (∀ r ∈ rs, r ≠ Role.tgt) → tgtOf rs ops = none
  | [], ops, _ => by cases ops <;> rfl
  | r :: rs, [], _ => by cases r <;> rfl
  | r :: rs, o :: os, h => by
    have hr : r ≠ .tgt := h r (by simp)
    have ih := tgtOf_notgt rs os (fun x hx => h x (by simp [hx]))
    cases r <;> first | exact absurd rfl hr | (simp only [tgtOf]; exact ih)

theorem labAt_map {n : Nat} {ops : List POp} (h : labAt n ops = true) :
    ∃ l, (ops.map Bridge.trOp)[n]? = some (.lab l) := by
  unfold labAt at h
  split at h
  · rename_i l hl
    exact ⟨l.name, by simp [hl, Bridge.trOp]⟩
  · cases h

/-- `n` operands that are read, then the target: `tgtOf` finds the operand at position `n` -/
theorem tgtOf_replicate : ∀ (n : Nat) (ops : List Asm.POperand) (o : Asm.POperand), ops[n]? = some o →
    Asm.tgtOf (List.replicate n .use ++ [.tgt]) ops = some o
  | _, [], _, h => by simp at h
  | 0, x :: _, o, h => by simp at h; subst h; rfl
  | n + 1, _ :: os, o, h => tgtOf_replicate n os o (by simpa using h)

/-- where `shapeOK` wants a label, `tgtOf` finds one -/
theorem tgtOf_lab (n : Nat) {ops : List POp} (h : labAt n ops = true) :
    ∃ l, Asm.tgtOf (List.replicate n .use ++ [.tgt]) (ops.map Bridge.trOp) = some (.lab l) :=
  (labAt_map h).imp fun _ hl => tgtOf_replicate n _ _ hl

theorem rolesOf_notgt {mn : Mn} (h : isBranch mn = false) : ∀ r ∈ Bridge.rolesOf mn, r ≠ Asm.Role.tgt := by
  cases mn with
  | gate _ => exact (by decide : ∀ r ∈ [Asm.Role.use], r ≠ Asm.Role.tgt)
  | jmp | bez | bnz | beq | bne | blt | bge => cases h
  | _ => decide

open NQ.Asm in
theorem shape_tgt {mn : Mn} {ops : List POp} (h : shapeOK mn ops = true) (v : Int) :
    tgtOf (Bridge.rolesOf mn) (ops.map Bridge.trOp) ≠ some (.lit v) := by
  have lab : ∀ n, labAt n ops = true →
      tgtOf (List.replicate n .use ++ [.tgt]) (ops.map Bridge.trOp) ≠ some (.lit v) := by
    intro n hn; obtain ⟨l, hl⟩ := tgtOf_lab n hn; rw [hl]; simp
  cases hb : isBranch mn with
  | false => rw [tgtOf_notgt _ _ (rolesOf_notgt hb)]; simp
  | true =>
    cases mn with
    | jmp => exact lab 0 h
    | bez | bnz => exact lab 1 h
    | beq | bne | blt | bge => exact lab 2 h
    | _ => cases hb

open NQ.Asm in
theorem labelTargets_of_allOK (a : Nat) {P : List PCmd} (h : AllOK P) :
    LabelTargets (qMachine a) (Bridge.tr P) := by
  intro mn args ops rs v hc hr
  obtain ⟨c, hcP, hce⟩ := List.mem_map.1 hc
  cases c with
  | label l => cases hce
  | instr mn0 ops0 =>
    cases hce
    rw [Bridge.roles_name] at hr; cases hr
    exact shape_tgt (h.shape hcP) v

theorem emitted_nameInj (p : List Top) : ∀ s, some s ∈ (Sdk.run p).subs → Bridge.NameInj s :=
  fun s hs => nameInj_of_allOK (run_ok p s hs).all

theorem emitted_regsInRange (p : List Top) : ∀ s, some s ∈ (Sdk.run p).subs → Bridge.RegsInRange s :=
  fun s hs => regsInRange_of_allOK (run_ok p s hs).all

theorem emitted_labelTargets (a : Nat) (p : List Top) :
    ∀ s, some s ∈ (Sdk.run p).subs → Asm.LabelTargets (Asm.qMachine a) (Bridge.tr s) :=
  fun s hs => labelTargets_of_allOK a (run_ok p s hs).all

theorem emitted_qclosed (p : List Top) : ∀ s, some s ∈ (Sdk.run p).subs → QClosed s :=
  fun s hs => (run_ok p s hs).closed

end NQ.Sdk
