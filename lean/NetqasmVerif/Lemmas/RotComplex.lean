/-
The complex instance: in ℂ, with `w = e^{iθ}`, the matrix `rot2P ax w` of Model/Gates IS
`2·e^{iθ/2}·R_ax(θ)` with `R_ax(θ) = exp(−i·θ/2·σ_ax) = cos(θ/2)·1 − i·sin(θ/2)·σ_ax` in closed form —
for EVERY angle; and `ζ_D = e^{iπ/2^D}` is a root with `ζ_D^(2^D) = −1`, so every encodable angle
`n·π/2^d` is `wOf ζ_D D n d`.
-/
import Mathlib.Analysis.SpecialFunctions.Trigonometric.Basic
import NetqasmVerif.Lemmas.RotPoly
namespace NQ.Rot
open Complex

/-- closed form of the `expm(−i·θ/2·σ_ax)` that `netqasm.util.quantum_gates.get_rotation_matrix` computes -/
noncomputable def Rmat (ax : Axis) (θ : ℂ) : M2 ℂ :=
  match ax with
  | .X => ⟨cos (θ / 2), -I * sin (θ / 2), -I * sin (θ / 2), cos (θ / 2)⟩
  | .Y => ⟨cos (θ / 2), -sin (θ / 2), sin (θ / 2), cos (θ / 2)⟩
  | .Z => ⟨cos (θ / 2) - I * sin (θ / 2), 0, 0, cos (θ / 2) + I * sin (θ / 2)⟩

theorem Rmat_eq (ax : Axis) (θ : ℂ) :
    Rmat ax θ = ⟨cos (θ / 2) - I * sin (θ / 2) * (pauli I ax).a, -I * sin (θ / 2) * (pauli I ax).b,
      -I * sin (θ / 2) * (pauli I ax).c, cos (θ / 2) - I * sin (θ / 2) * (pauli I ax).d⟩ := by
  have hI : I * I = -1 := I_mul_I
  cases ax <;> simp only [Rmat, pauli, M2.mk.injEq] <;> refine ⟨?_, ?_, ?_, ?_⟩
  case Y.refine_2 => linear_combination (-sin (θ / 2)) * hI
  case Y.refine_3 => linear_combination (sin (θ / 2)) * hI
  all_goals ring

theorem rot2P_complex (ax : Axis) (θ : ℂ) :
    P I ax (exp (θ * I)) = smul2 (2 * exp (θ / 2 * I)) (Rmat ax θ) := by
  have hI : I * I = -1 := I_mul_I
  have hcs : cos (θ / 2) ^ 2 + sin (θ / 2) ^ 2 = 1 := cos_sq_add_sin_sq (θ / 2)
  have he : exp (θ / 2 * I) = cos (θ / 2) + sin (θ / 2) * I := exp_mul_I (θ / 2)
  have hw : exp (θ * I) = exp (θ / 2 * I) * exp (θ / 2 * I) := by
    rw [← exp_add]; congr 1; ring
  cases ax <;> simp only [P_X, P_Y, P_Z, Rmat, smul2, M2.mk.injEq] <;> rw [hw, he] <;>
    generalize cos (θ / 2) = c at * <;> generalize sin (θ / 2) = s at * <;> refine ⟨?_, ?_, ?_, ?_⟩
  case Y.refine_2 => linear_combination I * hcs + (2 * c * s + s ^ 2 * I) * hI
  case Y.refine_3 => linear_combination (-I) * hcs - (2 * c * s + s ^ 2 * I) * hI
  case Z.refine_1 => linear_combination (-2 : ℂ) * hcs + 2 * s ^ 2 * hI
  case Z.refine_2 | Z.refine_3 | Z.refine_4 => ring
  -- the diagonal entries `1 + w` of the X and Y rotations
  all_goals linear_combination (-1 : ℂ) * hcs + s ^ 2 * hI

theorem rot2PNeg_complex (ax : Axis) (θ : ℂ) :
    PNeg I ax (exp (θ * I)) = smul2 (2 * exp (θ / 2 * I)) (Rmat ax (-θ)) := by
  have h : exp (θ * I) * exp (-θ * I) = 1 := by rw [← exp_add]; simp
  rw [crot_block I ax _ _ h, rot2P_complex ax (-θ)]
  have hh : exp (θ * I) * (2 * exp (-θ / 2 * I)) = 2 * exp (θ / 2 * I) := by
    have : exp (θ * I) * exp (-θ / 2 * I) = exp (θ / 2 * I) := by rw [← exp_add]; congr 1; ring
    linear_combination 2 * this
  simp only [smul2, M2.mk.injEq]
  refine ⟨?_, ?_, ?_, ?_⟩ <;> (rw [← mul_assoc, hh])

noncomputable def zetaC (D : ℕ) : ℂ := exp (Real.pi / 2 ^ D * I)

theorem zetaC_pow (D : ℕ) : zetaC D ^ 2 ^ D = -1 := by
  unfold zetaC
  rw [← exp_nat_mul]
  have : ((2 ^ D : ℕ) : ℂ) * (Real.pi / 2 ^ D * I) = Real.pi * I := by
    push_cast; field_simp
  rw [this, exp_pi_mul_I]

theorem wOf_zetaC (D n d : ℕ) (hd : d ≤ D) :
    wOf (zetaC D) D n d = exp ((n : ℂ) * Real.pi / 2 ^ d * I) := by
  unfold wOf zetaC
  rw [← exp_nat_mul]
  congr 1
  have h2 : (2 : ℂ) ^ D = 2 ^ (D - d) * 2 ^ d := by rw [← pow_add]; congr 1; omega
  push_cast
  rw [h2]
  field_simp

end NQ.Rot
