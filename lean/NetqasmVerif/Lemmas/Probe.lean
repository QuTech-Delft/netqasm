/-
The single-bit probes of the model codec in closed form, for every row that fits
the command: probe bit `g` lands on wire bit `(canonPos 1 shape)[g]`, wire bit
`8 + q` comes back as probe bit `decIdx shape q`.  Only the six operand kinds are
evaluated; shapes are handled by induction, byte strings block by block.
-/
import NetqasmVerif.Lemmas.Codec
import NetqasmVerif.Model.Probe
namespace NQ

theorem mapIdx_id {α} (f : Nat → α → α) (l : List α) (h : ∀ i b, f i b = b) : l.mapIdx f = l := by
  induction l generalizing f with
  | nil => rfl
  | cons a l ih => rw [List.mapIdx_cons, h, ih _ (fun i b => h (i + 1) b)]

theorem flipBit_cons (x : Nat) (l : List Nat) (p : Nat) :
    flipBit (x :: l) p = if p < 8 then (x ^^^ 2 ^ p) :: l else x :: flipBit l (p - 8) := by
  unfold flipBit
  rw [List.mapIdx_cons]
  by_cases h : p < 8
  · rw [mapIdx_id _ l (fun i b => if_neg (by omega)), if_pos (by omega), if_pos h,
      Nat.mod_eq_of_lt h]
  · rw [if_neg (by omega), if_neg h, show (p - 8) % 8 = p % 8 by omega]
    congr 2
    funext i b
    simp only [show (i + 1 = p / 8) = (i = (p - 8) / 8) from propext (by omega)]

theorem flipBit_cons_add (x : Nat) (l : List Nat) (q : Nat) :
    flipBit (x :: l) (8 + q) = x :: flipBit l q := by
  rw [flipBit_cons, if_neg (by omega), Nat.add_sub_cancel_left]

theorem flipBit_append (a b : List Nat) (p : Nat) :
    flipBit (a ++ b) p
      = if p < 8 * a.length then flipBit a p ++ b else a ++ flipBit b (p - 8 * a.length) := by
  induction a generalizing p with
  | nil => simp
  | cons x a ih =>
    rw [List.cons_append, flipBit_cons, flipBit_cons, ih]
    simp only [List.length_cons]
    by_cases h8 : p < 8
    · simp [h8, show p < 8 * (a.length + 1) by omega]
    · by_cases hp : p < 8 * (a.length + 1)
      · simp [h8, hp, show p - 8 < 8 * a.length by omega]
      · simp [h8, hp, show ¬ p - 8 < 8 * a.length by omega,
          show p - 8 - 8 * a.length = p - 8 * (a.length + 1) by omega]

theorem filter_range_eq (n p : Nat) (h : p < n) : (List.range n).filter (· == p) = [p] := by
  induction n with
  | zero => omega
  | succ n ih =>
    rw [List.range_succ, List.filter_append]
    by_cases hp : p < n
    · rw [ih hp]; simp; omega
    · obtain rfl : p = n := by omega
      rw [List.filter_eq_nil_iff.2 (fun i hi => by simpa using Nat.ne_of_lt (List.mem_range.1 hi))]
      simp

theorem diffBits_flipBit (z : List Nat) (p : Nat) (h : p < 8 * z.length) :
    diffBits (flipBit z p) z = [p] := by
  unfold diffBits
  rw [show (flipBit z p).length = z.length by simp [flipBit], Nat.max_self,
    ← filter_range_eq _ p h]
  apply List.filter_congr
  intro i hi
  have hi8 : i / 8 < z.length := by have := List.mem_range.1 hi; omega
  simp only [flipBit, List.getElem?_mapIdx, List.getElem?_eq_getElem hi8, Option.map_some]
  split <;> rename_i hb
  · -- same byte: `(x ^^^ 2 ^ j) ^^^ x = 2 ^ j`
    rw [Nat.xor_comm, ← Nat.xor_assoc, Nat.xor_self, Nat.zero_xor, Nat.testBit_two_pow]
    exact Bool.eq_iff_iff.2 (by rw [decide_eq_true_iff, beq_iff_eq]; omega)
  · rw [Nat.xor_self, Nat.zero_testBit]
    exact (beq_false_of_ne (fun e : i = p => hb (e ▸ rfl))).symm

theorem totalBits_cons (k : FieldKind) (ks : List FieldKind) :
    totalBits (k :: ks) = kindNBits k + totalBits ks := by simp [totalBits]

theorem probeOps_lt {k : FieldKind} {m : Nat} (ks : List FieldKind) (h : m < kindNBits k) :
    probeOps (k :: ks) (some m) = probeOperand k (some m) :: probeOps ks none := by
  simp only [probeOps, if_pos h]

theorem probeOps_ge (k : FieldKind) (ks : List FieldKind) (m : Nat) :
    probeOps (k :: ks) (some (m + kindNBits k)) = probeOperand k none :: probeOps ks (some m) := by
  simp only [probeOps, if_neg (Nat.not_lt.2 (Nat.le_add_left _ m)), Nat.add_sub_cancel]

theorem kindPos_length (k : FieldKind) : (kindPos k).length = kindNBits k := by
  cases k <;> rfl

theorem encodeOp_zero (k : FieldKind) :
    encodeOp k (probeOperand k none) = some (List.replicate (kindSize k) 0) := by
  cases k <;> rfl

theorem encodeOp_probe (k : FieldKind) : ∀ m < kindNBits k,
    (kindPos k)[m]?.getD 0 < 8 * kindSize k
    ∧ encodeOp k (probeOperand k (some m))
        = some (flipBit (List.replicate (kindSize k) 0) ((kindPos k)[m]?.getD 0)) := by
  cases k <;> decide +kernel

/-- the inverse of `kindPos k`; the two high bits of a register byte carry no probe bit -/
def kindIdx : FieldKind → Nat → Option Nat
  | .reg, q => if q < 6 then some q else none
  | .entry, q => if q < 38 then some q else none
  | .slice, q => if q < 38 then some q else if 40 ≤ q ∧ q < 46 then some (q - 2) else none
  | _, q => some q

theorem kindIdx_spec (k : FieldKind) : ∀ q < 8 * kindSize k,
    (∀ m ∈ kindIdx k q, (kindPos k)[m]? = some q)
    ∧ (kindIdx k q = none → decodeOp k (flipBit (List.replicate (kindSize k) 0) q)
        = some (probeOperand k none, [])) := by
  cases k <;> decide +kernel

theorem decodeOp_zero (k : FieldKind) (rest : List Nat) :
    decodeOp k (List.replicate (kindSize k) 0 ++ rest) = some (probeOperand k none, rest) :=
  decodeOp_encodeOp _ _ _ _ (encodeOp_zero k)

theorem lt_of_kindPos {k : FieldKind} {m q : Nat} (h : (kindPos k)[m]? = some q) :
    m < kindNBits k :=
  kindPos_length k ▸ (List.getElem?_eq_some_iff.1 h).1

theorem decodeOp_flip (k : FieldKind) (q : Nat) (hq : q < 8 * kindSize k) (rest : List Nat) :
    decodeOp k (flipBit (List.replicate (kindSize k) 0) q ++ rest)
      = some (probeOperand k (kindIdx k q), rest) := by
  obtain ⟨hsome, hnone⟩ := kindIdx_spec k q hq
  cases hi : kindIdx k q with
  | none => exact decodeOp_append rest (hnone hi)
  | some m =>
    have h := hsome m hi
    have he := (encodeOp_probe k m (lt_of_kindPos h)).2
    rw [h] at he
    exact decodeOp_encodeOp _ _ _ _ he

theorem canonPos_length (o : Nat) (s : List FieldKind) : (canonPos o s).length = totalBits s := by
  induction s generalizing o with
  | nil => rfl
  | cons k ks ih => simp [canonPos, totalBits_cons, ih, kindPos_length]

theorem encodeOps_zero (s : List FieldKind) :
    encodeOps s (probeOps s none) = some (List.replicate (shapeSize s) 0) := by
  induction s with
  | nil => rfl
  | cons k ks ih =>
    rw [shapeSize_cons, ← List.replicate_append_replicate]
    exact encodeOps_cons (encodeOp_zero k) ih

theorem encodeOps_probe (s : List FieldKind) (o g p : Nat) (h : (canonPos o s)[g]? = some p) :
    8 * o ≤ p ∧ p < 8 * (o + shapeSize s)
    ∧ encodeOps s (probeOps s (some g))
        = some (flipBit (List.replicate (shapeSize s) 0) (p - 8 * o)) := by
  induction s generalizing o g with
  | nil => simp [canonPos] at h
  | cons k ks ih =>
    have hlen := kindPos_length k
    rw [canonPos] at h
    rw [shapeSize_cons, ← List.replicate_append_replicate, flipBit_append, List.length_replicate]
    by_cases hg : g < kindNBits k
    · obtain ⟨p0, hp0⟩ : ∃ p0, (kindPos k)[g]? = some p0 :=
        ⟨_, List.getElem?_eq_getElem (hlen ▸ hg)⟩
      rw [List.getElem?_append_left (by simpa [hlen] using hg), List.getElem?_map, hp0] at h
      obtain rfl : p0 + 8 * o = p := by simpa using h
      have := encodeOp_probe k g hg
      rw [hp0, Option.getD_some] at this
      rw [probeOps_lt ks hg, encodeOps_cons this.2 (encodeOps_zero ks), Nat.add_sub_cancel,
        if_pos this.1]
      exact ⟨by omega, by have := this.1; omega, rfl⟩
    · obtain ⟨g, rfl⟩ := Nat.exists_eq_add_of_le' (Nat.not_lt.1 hg)
      rw [List.getElem?_append_right (by simp [hlen])] at h
      simp only [List.length_map, hlen, Nat.add_sub_cancel] at h
      obtain ⟨h1, h2, h3⟩ := ih _ _ h
      rw [probeOps_ge, encodeOps_cons (encodeOp_zero k) h3, if_neg (by omega),
        show p - 8 * o - 8 * kindSize k = p - 8 * (o + kindSize k) by omega]
      exact ⟨by omega, by omega, rfl⟩

/-- `kindIdx` for a shape; `q` counts from the first operand byte -/
def decIdx : List FieldKind → Nat → Option Nat
  | [], _ => none
  | k :: ks, q =>
    if q < 8 * kindSize k then kindIdx k q
    else (decIdx ks (q - 8 * kindSize k)).map (· + kindNBits k)

theorem decIdx_canon {s : List FieldKind} {q m : Nat} (o : Nat) (h : decIdx s q = some m) :
    (canonPos o s)[m]? = some (q + 8 * o) := by
  induction s generalizing o q m with
  | nil => cases h
  | cons k ks ih =>
    have hlen := kindPos_length k
    rw [decIdx] at h
    rw [canonPos]
    by_cases hq : q < 8 * kindSize k
    · rw [if_pos hq] at h
      have hk := (kindIdx_spec k q hq).1 m h
      rw [List.getElem?_append_left (by simpa [hlen] using lt_of_kindPos hk), List.getElem?_map,
        hk]; rfl
    · rw [if_neg hq] at h
      obtain ⟨m, hm, rfl⟩ := Option.map_eq_some_iff.1 h
      rw [List.getElem?_append_right (by simp [hlen]), List.length_map, hlen, Nat.add_sub_cancel,
        ih _ hm]
      exact congrArg some (by omega)

theorem decodeOps_zero (s : List FieldKind) (n : Nat) (h : shapeSize s ≤ n) :
    decodeOps s (List.replicate n 0) = some (probeOps s none) := by
  induction s generalizing n with
  | nil => rfl
  | cons k ks ih =>
    rw [shapeSize_cons] at h
    obtain ⟨n, rfl⟩ := Nat.exists_eq_add_of_le (Nat.le_trans (Nat.le_add_right _ _) h)
    rw [← List.replicate_append_replicate, decodeOps_cons (decodeOp_zero k _), ih n (by omega)]
    rfl

theorem decodeOps_flip (s : List FieldKind) (n q : Nat) (h : shapeSize s ≤ n) :
    decodeOps s (flipBit (List.replicate n 0) q) = some (probeOps s (decIdx s q)) := by
  induction s generalizing n q with
  | nil => rfl
  | cons k ks ih =>
    rw [shapeSize_cons] at h
    obtain ⟨n, rfl⟩ := Nat.exists_eq_add_of_le (Nat.le_trans (Nat.le_add_right _ _) h)
    rw [← List.replicate_append_replicate, flipBit_append, List.length_replicate, decIdx]
    by_cases hq : q < 8 * kindSize k
    · rw [if_pos hq, if_pos hq, decodeOps_cons (decodeOp_flip k q hq _),
        decodeOps_zero ks n (by omega)]
      cases hi : kindIdx k q with
      | none => rfl
      | some m => rw [probeOps_lt ks (lt_of_kindPos ((kindIdx_spec k q hq).1 m hi))]; rfl
    · rw [if_neg hq, if_neg hq, decodeOps_cons (decodeOp_zero k _), ih n _ (by omega)]
      cases decIdx ks (q - 8 * kindSize k) with
      | none => rfl
      | some m => exact congrArg some (probeOps_ge k ks m).symm

def oneHot : Nat → Option Nat → List Bool
  | 0, _ => []
  | n + 1, some 0 => true :: oneHot n none
  | n + 1, some (m + 1) => false :: oneHot n (some m)
  | n + 1, none => false :: oneHot n none

theorem oneHot_ge {n m : Nat} (h : n ≤ m) : oneHot n (some m) = oneHot n none := by
  induction n generalizing m with
  | zero => rfl
  | succ n ih => cases m with
    | zero => omega
    | succ m => rw [oneHot, oneHot, ih (by omega)]

theorem oneHot_append (a b : Nat) (g : Option Nat) :
    oneHot (a + b) g
      = oneHot a g ++ oneHot b (g.bind fun m => if m < a then none else some (m - a)) := by
  induction a generalizing g with
  | zero => cases g <;> simp [oneHot]
  | succ a ih =>
    rw [Nat.succ_add]
    match g with
    | none | some 0 | some (_ + 1) => simp [oneHot, ih]

theorem filterMap_oneHot (n : Nat) (g : Option Nat) (l : List Nat) :
    ((oneHot n g).zip l).filterMap (fun (b, p) => if b then some p else none)
      = match g with
        | some m => if m < n then l[m]?.toList else []
        | none => [] := by
  induction n generalizing g l with
  | zero => cases g <;> simp [oneHot]
  | succ n ih =>
    cases l with
    | nil => cases g <;> simp
    | cons x l =>
      match g with
      | none => simp [oneHot, ih]
      | some 0 => simp [oneHot, ih]
      | some (m + 1) => simp [oneHot, ih]

theorem take_oneHot (a b : Nat) (g : Option Nat) : (oneHot (a + b) g).take a = oneHot a g := by
  induction a generalizing g with
  | zero => rfl
  | succ a ih =>
    rw [Nat.succ_add]
    match g with
    | none | some 0 | some (_ + 1) => simp [oneHot, ih]

def ProbeBits (k : FieldKind) : Prop :=
  opBitsFor k (probeOperand k none) = oneHot (kindNBits k) none
  ∧ ∀ m < kindNBits k, opBitsFor k (probeOperand k (some m)) = oneHot (kindNBits k) (some m)

theorem opBits_probe (k : FieldKind) : ProbeBits k := by
  have hs : ProbeBits .slice := by unfold ProbeBits; decide +kernel
  -- an address is the front of an array entry, an entry the front of a slice
  have cut : ∀ (k : FieldKind) (b : Nat), kindNBits k + b = kindNBits .slice →
      (∀ g, opBitsFor k (probeOperand k g)
        = (opBitsFor .slice (probeOperand .slice g)).take (kindNBits k)) → ProbeBits k :=
    fun k b hk hp => ⟨by rw [hp, hs.1, ← hk, take_oneHot],
      fun m hm => by rw [hp, hs.2 m (by omega), ← hk, take_oneHot]⟩
  cases k
  · unfold ProbeBits; decide +kernel
  · unfold ProbeBits; decide +kernel
  · exact cut _ 12 rfl fun _ => rfl
  · exact cut _ 12 rfl fun _ => rfl
  · exact cut _ 6 rfl fun _ => rfl
  · exact hs

theorem allBits_probeOps (s : List FieldKind) (g : Option Nat) :
    allBits s (probeOps s g) = oneHot (totalBits s) g := by
  induction s generalizing g with
  | nil => cases g <;> rfl
  | cons k ks ih =>
    rw [totalBits_cons]
    match g with
    | none => rw [oneHot_append, ← ih, ← (opBits_probe k).1]; rfl
    | some m =>
      by_cases h : m < kindNBits k
      · rw [probeOps_lt ks h, oneHot_append, Option.bind_some, if_pos h,
          ← (opBits_probe k).2 m h, ← ih]; rfl
      · obtain ⟨m, rfl⟩ := Nat.exists_eq_add_of_le' (Nat.not_lt.1 h)
        rw [probeOps_ge, oneHot_append, oneHot_ge (Nat.le_add_left ..), Option.bind_some,
          if_neg (by omega), Nat.add_sub_cancel, ← (opBits_probe k).1, ← ih]; rfl

section
variable (row : Row) (hop : row.opcode < 256) (hs : shapeSize row.shape ≤ 6)
include hop hs

theorem modelBase_eq : modelBase row = some (row.opcode :: List.replicate 6 0) := by
  unfold modelBase encodeRow
  rw [encodeOps_zero]
  simp only [List.length_replicate, hop, hs, and_self, if_true, List.replicate_append_replicate]
  rw [Nat.add_sub_cancel' hs]

theorem encodeRow_probe (g p : Nat) (h : (canonPos 1 row.shape)[g]? = some p) :
    p < 56 ∧ encodeRow row (probeOps row.shape (some g))
      = some (flipBit (row.opcode :: List.replicate 6 0) p) := by
  obtain ⟨h1, h2, h3⟩ := encodeOps_probe _ _ _ _ h
  refine ⟨by omega, ?_⟩
  unfold encodeRow
  rw [h3]
  have hl : (flipBit (List.replicate (shapeSize row.shape) 0) (p - 8 * 1)).length
      = shapeSize row.shape := by simp [flipBit]
  simp only [hl, hop, hs, and_self, if_true]
  rw [flipBit_cons, if_neg (by omega), ← Nat.add_sub_cancel' hs,
    ← List.replicate_append_replicate, flipBit_append, List.length_replicate, if_pos (by omega),
    Nat.add_sub_cancel_left]

theorem modelEncProbe_eq : modelEncProbe row = (canonPos 1 row.shape).map ([·]) := by
  unfold modelEncProbe
  rw [modelBase_eq row hop hs]
  apply List.ext_getElem
  · simp [canonPos_length]
  · intro i _ h2
    obtain ⟨hp, he⟩ := encodeRow_probe row hop hs i _
      (List.getElem?_eq_getElem (by simpa using h2))
    simp only [List.getElem_map, List.getElem_range, he]
    exact diffBits_flipBit _ _ (by simpa using hp)

theorem modelDecProbe_eq : modelDecProbe row = (List.range 48).map fun q =>
    if (decIdx row.shape q).isSome then [8 + q] else [] := by
  unfold modelDecProbe
  rw [modelBase_eq row hop hs]
  apply List.map_congr_left
  intro q _
  simp only [flipBit_cons_add, decodeOps_flip _ 6 q hs, allBits_probeOps, filterMap_oneHot]
  cases h : decIdx row.shape q with
  | none => rfl
  | some m =>
    have hc := decIdx_canon 1 h
    have hm : m < totalBits row.shape := canonPos_length 1 _ ▸ (List.getElem?_eq_some_iff.1 hc).1
    simp [hc, hm, Nat.add_comm]

theorem modelDecValues_eq : modelDecValues row = (List.range 48).map fun q =>
    (probeOps row.shape (decIdx row.shape q)).flatMap flatValues := by
  unfold modelDecValues
  rw [modelBase_eq row hop hs]
  apply List.map_congr_left
  intro q _
  simp only [flipBit_cons_add, decodeOps_flip _ 6 q hs]

end

def probeSpecOk (p : Probe) : Bool :=
  decide (p.row.opcode < 256) && decide (shapeSize p.row.shape ≤ 6)
    && p.base == p.row.opcode :: List.replicate 6 0
    && p.enc == (canonPos 1 p.row.shape).map ([·])
    && p.dec == (List.range 48).map (fun q =>
        if (decIdx p.row.shape q).isSome then [8 + q] else [])
    && p.decv == (List.range 48).map fun q =>
        (probeOps p.row.shape (decIdx p.row.shape q)).flatMap flatValues

theorem probeOk_of_spec (p : Probe) (h : probeSpecOk p = true) : probeOk p = true := by
  simp only [probeSpecOk, Bool.and_eq_true, decide_eq_true_eq] at h
  obtain ⟨⟨⟨⟨⟨hop, hs⟩, hb⟩, he⟩, hd⟩, hv⟩ := h
  rw [probeOk, modelBase_eq _ hop hs, modelEncProbe_eq _ hop hs, modelDecProbe_eq _ hop hs,
    modelDecValues_eq _ hop hs, he, hd, hv, eq_of_beq hb]
  simp

end NQ
