/-
More static invariants of `emit` needed at flush level: the array-length table against the
declarations, monotonicity of the active registers, label freshness for a whole flush segment,
registers to return against handles.
-/
import NetqasmVerif.Lemmas.SdkHostLemmas
import NetqasmVerif.Lemmas.SdkSimInit
namespace NQ.Sdk

theorem declsOf_ok : ∀ (op : Host) (na : Nat), ∀ d ∈ declsOf na op, DeclOK d
  | .skip, _, d, h => by simp [declsOf] at h
  | .seq a b, na, d, h => by
    simp only [declsOf, List.mem_append] at h
    rcases h with h | h
    · exact declsOf_ok a _ d h
    · exact declsOf_ok b _ d h
  | .newArray len init, _, d, h => by
    simp [declsOf] at h; subst h
    cases init <;> simp [DeclOK]
  | .newReg _, _, d, h => by simp [declsOf] at h
  | .qop _ t, _, d, h => by
    cases t <;> simp [declsOf] at h
    subst h; simp [DeclOK]
  | .addF _ _ _, _, d, h => by simp [declsOf] at h
  | .addR _ _ _, _, d, h => by simp [declsOf] at h
  | .ifc _ _ _ _ body, na, d, h => declsOf_ok body na d (by simpa [declsOf] using h)
  | .loop _ _ _ _ body, na, d, h => declsOf_ok body na d (by simpa [declsOf] using h)
  | .loopBody _ _ _ _ body, na, d, h => declsOf_ok body na d (by simpa [declsOf] using h)
  | .foreach _ _ body, na, d, h => declsOf_ok body na d (by simpa [declsOf] using h)
  | .loopUntil _ body _ _ cl, na, d, h => by
    simp only [declsOf, List.mem_append] at h
    rcases h with h | h
    · exact declsOf_ok body _ d h
    · split at h
      · exact declsOf_ok cl _ d h
      · cases h
  | .tryUntil _ body, na, d, h => declsOf_ok body na d (by simpa [declsOf] using h)
  | .epr _, _, d, h => by simp [declsOf] at h

theorem segDecls_addr : ∀ (ops : List Host) (na : Nat),
    (segDecls na ops).map (·.addr) = List.range' na (segDecls na ops).length
  | [], _ => rfl
  | op :: ops, na => by
    simp only [segDecls, List.map_append, List.length_append]
    rw [declsOf_addr, segDecls_addr ops, declsOf_length, List.range'_append_1]

theorem segDecls_ok : ∀ (ops : List Host) (na : Nat), ∀ d ∈ segDecls na ops, DeclOK d
  | [], _, d, h => by simp [segDecls] at h
  | op :: ops, na, d, h => by
    simp only [segDecls, List.mem_append] at h
    rcases h with h | h
    · exact declsOf_ok op _ d h
    · exact segDecls_ok ops _ d h

theorem emitOps_cons_eq_ok {op : Host} {ops : List Host} {m m' : Mem} {cs : List PCmd}
    (h : emitOps m (op :: ops) = .ok (m', cs)) :
    ∃ m1 c1 c2, emit m op = .ok (m1, c1) ∧ emitOps m1 ops = .ok (m', c2) ∧ cs = c1 ++ c2 := by
  simp only [emitOps] at h
  split at h
  · cases h
  · rename_i m1 c1 h1
    split at h
    · cases h
    · rename_i m2 c2 h2
      cases h; exact ⟨_, _, _, h1, h2, rfl⟩

theorem emitOps_lens (ops : List Host) (m m' : Mem) (cs : List PCmd) (h : emitOps m ops = .ok (m', cs)) :
    m'.arrLens = m.arrLens ++ (segDecls m.arrLens.length ops).map (·.len) :=
  declsOf_seqOf ops _ ▸ emit_lens _ _ _ _ (emitOps_eq ops m ▸ h)

theorem top_active {op : Host} {m m' : Mem} {cs : List PCmd} (ht : TopOK op) (h : emit m op = .ok (m', cs)) :
    Sub m.active m'.active ∧ m'.active.length = m.active.length := by
  rcases ht with hb | ⟨v, rfl⟩ | ⟨g, rfl⟩
  · rw [emit_active op _ _ _ hb.completed h]; exact ⟨Sub.refl _, rfl⟩
  · obtain ⟨i, _, hi⟩ := emit_newReg_active h
    rw [hi]; exact ⟨Sub.set _ _, by simp⟩
  · simp only [emit] at h
    rw [(emitQop_spec h).act trivial]; exact ⟨Sub.refl _, rfl⟩

theorem emitOps_active : ∀ (ops : List Host) (m m' : Mem) (cs : List PCmd), (∀ op ∈ ops, TopOK op) →
    emitOps m ops = .ok (m', cs) → Sub m.active m'.active ∧ m'.active.length = m.active.length
  | [], m, m', cs, _, h => by simp [emitOps] at h; rw [← h.1]; exact ⟨Sub.refl _, rfl⟩
  | op :: ops, m, m', cs, ht, h => by
    obtain ⟨m1, c1, c2, h1, h2, rfl⟩ := emitOps_cons_eq_ok h
    have a1 := top_active (ht op (by simp)) h1
    have a2 := emitOps_active ops m1 _ c2 (fun o ho => ht o (by simp [ho])) h2
    exact ⟨a1.1.trans a2.1, a2.2.trans a1.2⟩

theorem emitOps_fresh (ops : List Host) (m m' : Mem) (cs : List PCmd) (hl : m.lbl.length = 5)
    (h : emitOps m ops = .ok (m', cs)) : Fresh m m' cs := emit_fresh _ _ _ _ hl (emitOps_eq ops m ▸ h)

def RetOK (m : Mem) (hs : HSt) : Prop :=
  ∀ r ∈ m.regsToReturn, ∃ (h : Nat) (b : Bool) (v : Int), m.handles[h]? = some (r, b) ∧ hs.hregs h = some v

theorem top_ret {op : Host} {fuel : Nat} {m m' : Mem} {cs : List PCmd} {hs hs' : HSt} (ht : TopOK op)
    (h : emit m op = .ok (m', cs)) (hr : RetOK m hs)
    (hh : hsem fuel m.handles.length m.arrLens.length op hs = some hs') : RetOK m' hs' := by
  have st := emit_stat _ _ _ _ h
  obtain ⟨t, ht', _⟩ := st.handles
  have hk := hsem_keeps _ _ _ _ _ _ hh
  have old : ∀ r ∈ m.regsToReturn, ∃ (h : Nat) (b : Bool) (v : Int), m'.handles[h]? = some (r, b) ∧ hs'.hregs h = some v := by
    intro r hr'
    obtain ⟨h0, b, v, e1, e2⟩ := hr r hr'
    have hlt : h0 < m.handles.length := by
      by_cases hl : h0 < m.handles.length
      · exact hl
      · simp [List.getElem?_eq_none (Nat.le_of_not_lt hl)] at e1
    have := hk h0 hlt (by simp [e2])
    obtain ⟨v', hv'⟩ := Option.isSome_iff_exists.mp this
    exact ⟨h0, b, v', by rw [ht']; exact prefix_get e1, hv'⟩
  rcases ht with hb | ⟨v, rfl⟩ | ⟨g, rfl⟩
  · intro r hr'
    rw [(st.body hb).2] at hr'
    exact old r hr'
  · obtain ⟨m1, i, h1, rfl, _⟩ := emit_newReg_eq_ok h
    cases fuel with
    | zero => simp [hsem] at hh
    | succ f =>
      simp only [hsem] at hh; cases hh
      intro r hr'
      simp only [bindHandle, List.mem_append, List.mem_singleton] at hr'
      rcases hr' with hr' | rfl
      · rw [(takeReg_same h1).rret] at hr'; exact old r hr'
      · exact ⟨m.handles.length, true, v, by simp [bindHandle, (takeReg_same h1).handles], by simp [HSt.setH]⟩
  · obtain ⟨m1, k, h1, rfl, _⟩ := emitQop_newReg_eq_ok h
    obtain ⟨_, rfl⟩ := firstUnusedMeas_spec h1
    cases fuel with
    | zero => simp [hsem] at hh
    | succ f =>
      simp only [hsem] at hh; cases hh
      intro r hr'
      simp only [bindHandle, List.mem_append, List.mem_singleton] at hr'
      rcases hr' with hr' | rfl
      · exact old r hr'
      · exact ⟨m.handles.length, true, hs.outcomes.headD 0, by simp [bindHandle], by simp [HSt.setH]⟩

theorem ops_ret : ∀ (ops : List Host) (fuel : Nat) (m m' : Mem) (cs : List PCmd) (hs hs' : HSt) (nh' na' : Nat),
    (∀ op ∈ ops, TopOK op) → emitOps m ops = .ok (m', cs) → RetOK m hs →
    runOps fuel m.handles.length m.arrLens.length ops hs = some (hs', nh', na') → RetOK m' hs'
  | [], fuel, m, m', cs, hs, hs', nh', na', _, h, hr, hh => by
    simp [emitOps] at h; obtain ⟨rfl, _⟩ := h
    simp [runOps] at hh; obtain ⟨rfl, _, _⟩ := hh
    exact hr
  | op :: ops, fuel, m, m', cs, hs, hs', nh', na', ht, h, hr, hh => by
    obtain ⟨m1, c1, c2, h1, h2, rfl⟩ := emitOps_cons_eq_ok h
    simp only [runOps] at hh
    split at hh
    · rename_i hs1 hh1
      have st := emit_stat _ _ _ _ h1
      obtain ⟨t, ht', htl⟩ := st.handles
      obtain ⟨u, hu, hul⟩ := st.lens
      have e1 : m.handles.length + hCount op = m1.handles.length := by rw [ht']; simp [htl]
      have e2 : m.arrLens.length + aCount op = m1.arrLens.length := by rw [hu]; simp [hul]
      rw [e1, e2] at hh
      exact ops_ret ops fuel m1 _ c2 hs1 hs' nh' na' (fun o ho => ht o (by simp [ho])) h2
        (top_ret (ht op (by simp)) h1 hr hh1) hh
    · cases hh

end NQ.Sdk
