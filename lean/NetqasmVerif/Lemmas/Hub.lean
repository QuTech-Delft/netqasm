/-
Invariants of the socket-hub transition system (C18), each proved by induction over ALL reachable
states, i.e. for every number of threads, every program and every interleaving.

`step` is unfolded in two proofs only, `step_spec` and its converse `Step.sound`: a step is one constructor of the
relation `Step`, which names the line the thread is parked at, the new shared state and how the thread goes on.  An
invariant looks at the constructors that write the fields it speaks of; for a thread-local fact, `cases` on a `Step`
whose continuation is given returns the lines that lead there.  What a step does to the message stores and histories of a key is a set of
equations (`Step.delta`), from which the invariants about histories follow by rewriting.
-/
import NetqasmVerif.Model.Hub
namespace NQ.Hub

def pcKey : Pc → Option Key
  | .fin => none
  | .cCbRecv k | .cCbLost k | .cOpen k _ | .cRemote k | .cWaitOpen k | .cWaitRemote k => some k
  | .sCheck k _ _ | .sCb k _ _ | .sCall k _ _ | .sLock k _ _ | .sAppend k _ _ => some k
  | .rLock k _ _ | .rRead k _ _ | .rLen k _ _ | .rLock2 k _ | .rPop k _ => some k
  | .wCheck k => some k
  | .dLock k | .dLostGet k | .dLostCall k | .dOpenChk k | .dOpenRm k | .dRemChk k | .dRemRm k
  | .dPopRecv k | .dPopLost k => some k

theorem upd_same {α : Type} (f : Key → α) (k : Key) (v : α) : upd f k v k = v := by simp [upd]
theorem upd_other {α : Type} (f : Key → α) (k x : Key) (v : α) (h : x ≠ k) : upd f k v x = f x := by
  simp [upd, h]

/-- case analysis of one step `h : step s tid = some s'`: one goal per program counter and branch,
in which `s'` is an explicit record update of `s` and `hpc` names the program counter -/
macro "step_cases " h:ident s:ident tid:ident hpc:ident : tactic => `(tactic|
  (unfold step at $h:ident
   cases $hpc:ident : (State.threads $s $tid).pc <;> simp only [$hpc:ident] at $h:ident <;>
   (try split at $h:ident) <;> (try split at $h:ident) <;> (try split at $h:ident) <;>
   simp only [Option.some.injEq, reduceCtorEq] at $h:ident <;> subst $h:ident))

@[simp] theorem threads_setThread (s : State) (tid : Nat) (th : Thread) (t : Nat) :
    (setThread s tid th).threads t = if t = tid then th else s.threads t := rfl
@[simp] theorem open__setThread (s : State) (tid : Nat) (th : Thread) : (setThread s tid th).open_ = s.open_ := rfl
@[simp] theorem remote_setThread (s : State) (tid : Nat) (th : Thread) : (setThread s tid th).remote = s.remote := rfl
@[simp] theorem msgs_setThread (s : State) (tid : Nat) (th : Thread) : (setThread s tid th).msgs = s.msgs := rfl
@[simp] theorem recvCbs_setThread (s : State) (tid : Nat) (th : Thread) : (setThread s tid th).recvCbs = s.recvCbs := rfl
@[simp] theorem lostCbs_setThread (s : State) (tid : Nat) (th : Thread) : (setThread s tid th).lostCbs = s.lostCbs := rfl
@[simp] theorem lock_setThread (s : State) (tid : Nat) (th : Thread) : (setThread s tid th).lock = s.lock := rfl
@[simp] theorem cbStore_setThread (s : State) (tid : Nat) (th : Thread) : (setThread s tid th).cbStore = s.cbStore := rfl
@[simp] theorem lostLog_setThread (s : State) (tid : Nat) (th : Thread) : (setThread s tid th).lostLog = s.lostLog := rfl
@[simp] theorem sent_setThread (s : State) (tid : Nat) (th : Thread) : (setThread s tid th).sent = s.sent := rfl
@[simp] theorem delivered_setThread (s : State) (tid : Nat) (th : Thread) : (setThread s tid th).delivered = s.delivered := rfl
@[simp] theorem everOpen_setThread (s : State) (tid : Nat) (th : Thread) : (setThread s tid th).everOpen = s.everOpen := rfl
@[simp] theorem remRemoved_setThread (s : State) (tid : Nat) (th : Thread) : (setThread s tid th).remRemoved = s.remRemoved := rfl
@[simp] theorem live_setThread (s : State) (tid : Nat) (th : Thread) : (setThread s tid th).live = s.live := rfl
@[simp] theorem cbMode_setThread (s : State) (tid : Nat) (th : Thread) : (setThread s tid th).cbMode = s.cbMode := rfl
@[simp] theorem queued_setThread (s : State) (tid : Nat) (th : Thread) : (setThread s tid th).queued = s.queued := rfl
@[simp] theorem popped_setThread (s : State) (tid : Nat) (th : Thread) : (setThread s tid th).popped = s.popped := rfl
@[simp] theorem goto_pc (th : Thread) (pc : Pc) : (goto th pc).pc = pc := rfl
@[simp] theorem goto_rest (th : Thread) (pc : Pc) : (goto th pc).rest = th.rest := rfl
@[simp] theorem goto_res (th : Thread) (pc : Pc) : (goto th pc).res = th.res := rfl
@[simp] theorem gotoR_pc (th : Thread) (pc : Pc) (r : Res) : (gotoR th pc r).pc = pc := rfl
@[simp] theorem gotoR_rest (th : Thread) (pc : Pc) (r : Res) : (gotoR th pc r).rest = th.rest := rfl
@[simp] theorem gotoR_res (th : Thread) (pc : Pc) (r : Res) : (gotoR th pc r).res = th.res ++ [r] := rfl
@[simp] theorem advance_res (tid : Nat) (th : Thread) (r : Res) : (advance tid th r).res = th.res ++ [r] := by
  unfold advance; split <;> rfl

/-- completing an operation parks the thread where a fresh thread for the rest of its program starts: what is proved
of `startThread` holds of the initial state and after every `advance` -/
theorem advance_eq (tid : Nat) (th : Thread) (r : Res) :
    advance tid th r = { startThread tid th.rest with res := th.res ++ [r] } := by
  unfold advance startThread; split <;> rfl

theorem startThread_res (t : Nat) (prog : List Op) : (startThread t prog).res = [] := by
  cases prog <;> rfl

theorem rkey_rkey (k : Key) : rkey (rkey k) = k := rfl

theorem rkey_inj {a b : Key} (h : rkey a = rkey b) : a = b := by
  rw [← rkey_rkey a, h, rkey_rkey]

/-- how a thread goes on after a step: inside the current operation, at `pc` (with a partial result when a
broadcast has served one remote), or the operation completes with outcome `r` -/
inductive Cont
  | stay (pc : Pc) (r : Option Res)
  | done (r : Res)

def Cont.run (tid : Nat) (th : Thread) : Cont → Thread
  | .stay pc none => goto th pc
  | .stay pc (some r) => gotoR th pc r
  | .done r => advance tid th r

/-- the sender `k` has called `recv_callback(m)` of its peer -/
def afterCall (s : State) (k : Key) (m : Msg) : State :=
  { s with cbStore := upd s.cbStore (rkey k) (s.cbStore (rkey k) ++ [m]),
           sent := upd s.sent (rkey k) (s.sent (rkey k) ++ [m]),
           delivered := upd s.delivered (rkey k) (s.delivered (rkey k) ++ [m]) }
/-- the sender `k` has appended `m` to its peer's queue (and released the lock) -/
def afterAppend (s : State) (k : Key) (m : Msg) : State :=
  { s with msgs := upd s.msgs (rkey k) (s.msgs (rkey k) ++ [m]),
           sent := upd s.sent (rkey k) (s.sent (rkey k) ++ [m]),
           queued := upd s.queued (rkey k) (s.queued (rkey k) ++ [m]), lock := none }
/-- the receiver `k` has popped `m` off its queue `m :: q` (and released the lock) -/
def afterPop (s : State) (k : Key) (m : Msg) (q : List Msg) : State :=
  { s with msgs := upd s.msgs k q, delivered := upd s.delivered k (s.delivered k ++ [m]),
           popped := upd s.popped k (s.popped k ++ [m]), lock := none }

/-- `Step s tid pc S c`: thread `tid`, parked at `pc` in state `s`, is enabled; executing its line turns the
shared state into `S` and the thread goes on as `c`.  One constructor per line and branch of `step`. -/
inductive Step (s : State) (tid : Nat) : Pc → State → Cont → Prop
  | cCbRecv k : Step s tid (.cCbRecv k) { s with recvCbs := upd s.recvCbs k true, live := upd s.live k true }
      (.stay (.cCbLost k) none)
  | cCbLost k : Step s tid (.cCbLost k) { s with lostCbs := upd s.lostCbs k true } (.stay (.cOpen k true) none)
  | cOpen k cb : Step s tid (.cOpen k cb)
      { s with open_ := upd s.open_ k true, everOpen := upd s.everOpen k true, live := upd s.live k true,
               cbMode := upd s.cbMode k cb } (.stay (.cRemote k) none)
  | cRemote k : Step s tid (.cRemote k) { s with remote := upd s.remote k true } (.stay (.cWaitOpen k) none)
  | cWaitOpenT k : s.open_ (rkey k) = true → Step s tid (.cWaitOpen k) s (.done (.connected k))
  | cWaitOpenF k : ¬ s.open_ (rkey k) = true → Step s tid (.cWaitOpen k) s (.stay (.cWaitRemote k) none)
  | cWaitRemoteT k : s.remote (rkey k) = true → Step s tid (.cWaitRemote k) s (.done (.connected k))
  | cWaitRemoteF k : ¬ s.remote (rkey k) = true → Step s tid (.cWaitRemote k) s (.stay (.cWaitOpen k) none)
  | sCheckT k m more : (s.open_ k && s.open_ (rkey k)) = true →
      Step s tid (.sCheck k m more) s (.stay (.sCb k m more) none)
  | sCheckF k m more : ¬ (s.open_ k && s.open_ (rkey k)) = true →
      Step s tid (.sCheck k m more) s (.done (.connErr k m))
  | sCbT k m more : s.recvCbs (rkey k) = true → Step s tid (.sCb k m more) s (.stay (.sCall k m more) none)
  | sCbF k m more : ¬ s.recvCbs (rkey k) = true → Step s tid (.sCb k m more) s (.stay (.sLock k m more) none)
  | sCallLast k m : Step s tid (.sCall k m []) (afterCall s k m) (.done (.sent k m))
  | sCallNext k m r rs : Step s tid (.sCall k m (r :: rs)) (afterCall s k m)
      (.stay (.sCheck (k.1, r, k.2.2) m rs) (some (.sent k m)))
  | sLock k m more : ¬ s.lock.isSome = true →
      Step s tid (.sLock k m more) { s with lock := some tid } (.stay (.sAppend k m more) none)
  | sAppendLast k m : Step s tid (.sAppend k m []) (afterAppend s k m) (.done (.sent k m))
  | sAppendNext k m r rs : Step s tid (.sAppend k m (r :: rs)) (afterAppend s k m)
      (.stay (.sCheck (k.1, r, k.2.2) m rs) (some (.sent k m)))
  | rLock k b tag : ¬ s.lock.isSome = true →
      Step s tid (.rLock k b tag) { s with lock := some tid } (.stay (.rRead k b tag) none)
  | rRead k b tag : Step s tid (.rRead k b tag) { s with lock := none } (.stay (.rLen k b tag) none)
  | rLenNb k tag : s.msgs k = [] → Step s tid (.rLen k .nb tag) s (.done (.empty k))
  | rLenBlk k tag : s.msgs k = [] → Step s tid (.rLen k .blk tag) s (.stay (.rLock k .blk tag) none)
  | rLenPoll k all r rs tag : s.msgs k = [] →
      Step s tid (.rLen k (.poll all (r :: rs)) tag) s (.stay (.rLock (k.1, r, k.2.2) (.poll all rs) tag) none)
  | rLenPollNil k tag : s.msgs k = [] →
      Step s tid (.rLen k (.poll [] []) tag) s (.stay (.rLock k (.poll [] []) tag) none)
  | rLenPollAgain k a as tag : s.msgs k = [] →
      Step s tid (.rLen k (.poll (a :: as) []) tag) s (.stay (.rLock (k.1, a, k.2.2) (.poll (a :: as) as) tag) none)
  | rLenOnce k r rs tag : s.msgs k = [] →
      Step s tid (.rLen k (.pollOnce (r :: rs)) tag) s (.stay (.rLock (k.1, r, k.2.2) (.pollOnce rs) tag) none)
  | rLenOnceNil k tag : s.msgs k = [] → Step s tid (.rLen k (.pollOnce []) tag) s (.done (.empty k))
  | rLenSome k b tag m q : s.msgs k = m :: q → Step s tid (.rLen k b tag) s (.stay (.rLock2 k tag) none)
  | rLock2 k tag : ¬ s.lock.isSome = true →
      Step s tid (.rLock2 k tag) { s with lock := some tid } (.stay (.rPop k tag) none)
  | rPopNil k tag : s.msgs k = [] → Step s tid (.rPop k tag) { s with lock := none } (.done (.crash k))
  | rPop k tag m q : s.msgs k = m :: q →
      Step s tid (.rPop k tag) (afterPop s k m q) (.done (.got k m tag))
  | wCheckT k : (s.open_ k && s.open_ (rkey k)) = true → Step s tid (.wCheck k) s (.stay (.wCheck k) none)
  | wCheckF k : ¬ (s.open_ k && s.open_ (rkey k)) = true → Step s tid (.wCheck k) s (.done (.waited k))
  | dLock k : ¬ s.lock.isSome = true →
      Step s tid (.dLock k) { s with lock := some tid } (.stay (.dLostGet k) none)
  | dLostGetT k : s.lostCbs (rkey k) = true → Step s tid (.dLostGet k) s (.stay (.dLostCall k) none)
  | dLostGetF k : ¬ s.lostCbs (rkey k) = true → Step s tid (.dLostGet k) s (.stay (.dOpenChk k) none)
  | dLostCall k : Step s tid (.dLostCall k) { s with lostLog := s.lostLog ++ [rkey k] } (.stay (.dOpenChk k) none)
  | dOpenChkT k : s.open_ k = true → Step s tid (.dOpenChk k) s (.stay (.dOpenRm k) none)
  | dOpenChkF k : ¬ s.open_ k = true → Step s tid (.dOpenChk k) s (.stay (.dRemChk k) none)
  | dOpenRm k : Step s tid (.dOpenRm k) { s with open_ := upd s.open_ k false } (.stay (.dRemChk k) none)
  | dRemChkT k : s.remote (rkey k) = true → Step s tid (.dRemChk k) s (.stay (.dRemRm k) none)
  | dRemChkF k : ¬ s.remote (rkey k) = true → Step s tid (.dRemChk k) s (.stay (.dPopRecv k) none)
  | dRemRm k : Step s tid (.dRemRm k)
      { s with remote := upd s.remote (rkey k) false, remRemoved := upd s.remRemoved (rkey k) true }
      (.stay (.dPopRecv k) none)
  | dPopRecv k : Step s tid (.dPopRecv k) { s with recvCbs := upd s.recvCbs k false } (.stay (.dPopLost k) none)
  | dPopLost k : Step s tid (.dPopLost k)
      { s with lostCbs := upd s.lostCbs k false, lock := none, live := upd s.live k false }
      (.done (.disconnected k))

/-- `step` takes exactly the transitions of `Step`.  The continuation is read off the new thread (`rfl`, one
attempt per shape of `Cont`); that and the program counter determine the constructor. -/
theorem step_spec {s s' : State} {tid : Nat} (h : step s tid = some s') :
    ∃ pc S c, (s.threads tid).pc = pc ∧ Step s tid pc S c ∧ s' = setThread S tid (c.run tid (s.threads tid)) := by
  step_cases h s tid hpc
  case wCheck.isTrue k hc =>
    exact ⟨_, _, _, rfl, .wCheckT k hc, by rw [Cont.run, goto, ← hpc]⟩
  all_goals first
    | exact ⟨_, _, .stay _ none, rfl, by constructor <;> assumption, rfl⟩
    | exact ⟨_, _, .done _, rfl, by constructor <;> assumption, rfl⟩
    | exact ⟨_, _, .stay _ (some _), rfl, by constructor <;> assumption, rfl⟩

/-- Conversely, every transition of `Step` is one of `step`: `Step` is the transition relation, and nothing outside
these two proofs unfolds `step`.  (`wCheckT` is the one line whose model text keeps the thread as it is instead of
`goto`-ing to the same position.) -/
theorem Step.sound {s S : State} {tid : Nat} {pc : Pc} {c : Cont} (h : Step s tid pc S c)
    (hpc : (s.threads tid).pc = pc) : step s tid = some (setThread S tid (c.run tid (s.threads tid))) := by
  unfold step
  cases h <;> simp only [*, if_true, if_false, Bool.false_eq_true]
  case wCheckT k _ => rw [Cont.run, goto, ← hpc]
  all_goals rfl

@[simp] theorem Cont.run_stay_pc (tid : Nat) (th : Thread) (pc : Pc) (r : Option Res) :
    ((Cont.stay pc r).run tid th).pc = pc := by cases r <;> rfl
@[simp] theorem Cont.run_stay_rest (tid : Nat) (th : Thread) (pc : Pc) (r : Option Res) :
    ((Cont.stay pc r).run tid th).rest = th.rest := by cases r <;> rfl

def Cont.out : Cont → List Res
  | .stay _ none => []
  | .stay _ (some r) => [r]
  | .done r => [r]

theorem Cont.run_res (tid : Nat) (th : Thread) (c : Cont) : (c.run tid th).res = th.res ++ c.out := by
  cases c with
  | stay pc r =>
    cases r with
    | none => exact (List.append_nil _).symm
    | some r => rfl
  | done r => exact advance_res tid th r

variable {s S : State} {tid : Nat} {pc pc' : Pc} {c : Cont} {r : Option Res}

theorem Step.threads (h : Step s tid pc S c) : S.threads = s.threads := by cases h <;> rfl

theorem step_others {s' : State} {t : Nat} (h : step s tid = some s') (ht : t ≠ tid) :
    s'.threads t = s.threads t := by
  obtain ⟨_, _, _, _, hst, rfl⟩ := step_spec h
  rw [threads_setThread, if_neg ht, hst.threads]

theorem Step.reg_other (h : Step s tid pc S c) (k : Key) (hk : pcKey pc ≠ some k) :
    S.live k = s.live k ∧ S.recvCbs k = s.recvCbs k ∧ S.open_ k = s.open_ k ∧ S.cbMode k = s.cbMode k := by
  cases h
  case cCbRecv kk | cOpen kk _ | dOpenRm kk | dPopRecv kk | dPopLost kk =>
    have e : k ≠ kk := fun e => hk (e ▸ rfl)
    simp only [upd, if_neg e, and_self]
  all_goals exact ⟨rfl, rfl, rfl, rfl⟩

def gotSel (k : Key) : Res → Option Msg
  | .got k' m _ => if k' = k then some m else none
  | _ => none
def gotOf (k : Key) (rs : List Res) : List Msg := rs.filterMap (gotSel k)

/-- `k` is the sender's key, whereas `State.sent` is indexed by the receiver's -/
def sentSel (k : Key) : Res → Option Msg
  | .sent k' m => if k' = k then some m else none
  | _ => none
def sentOf (k : Key) (rs : List Res) : List Msg := rs.filterMap (sentSel k)

theorem gotOf_got (k k0 : Key) (m : Msg) (tag : Nat) : gotOf k [.got k0 m tag] = if k0 = k then [m] else [] := by
  by_cases e : k0 = k <;> simp [gotOf, gotSel, e]
theorem sentOf_sent (k k0 : Key) (m : Msg) : sentOf k [.sent k0 m] = if k0 = k then [m] else [] := by
  by_cases e : k0 = k <;> simp [sentOf, sentSel, e]

theorem upd_snoc (f : Key → List Msg) (a x : Key) (m : Msg) :
    upd f a (f a ++ [m]) x = f x ++ if a = x then [m] else [] := by
  unfold upd; split
  · rename_i e; rw [e, if_pos rfl]
  · rename_i e; rw [if_neg (Ne.symm e), List.append_nil]

def queuedBy (x : Key) : Pc → List Msg
  | .sAppend k m _ => if rkey k = x then [m] else []
  | _ => []
def calledBy (x : Key) : Pc → List Msg
  | .sCall k m _ => if rkey k = x then [m] else []
  | _ => []
def poppedBy (s : State) (x : Key) : Pc → List Msg
  | .rPop k _ => if k = x then (s.msgs x).head?.toList else []
  | _ => []

/-- every history of `x` grows by a list that the line alone determines (empty for all lines but the call of the
callback, the append to the queue and the pop) -/
theorem Step.delta (h : Step s tid pc S c) (x : Key) :
    S.queued x = s.queued x ++ queuedBy x pc ∧ S.cbStore x = s.cbStore x ++ calledBy x pc ∧
    S.sent x = s.sent x ++ (queuedBy x pc ++ calledBy x pc) ∧
    S.popped x = s.popped x ++ poppedBy s x pc ∧
    S.delivered x = s.delivered x ++ (calledBy x pc ++ poppedBy s x pc) ∧
    s.msgs x ++ queuedBy x pc = poppedBy s x pc ++ S.msgs x ∧
    gotOf x c.out = poppedBy s x pc := by
  cases h
  case sCallLast k m | sCallNext k m _ _ | sAppendLast k m | sAppendNext k m _ _ =>
    simp only [afterCall, afterAppend, upd_snoc, queuedBy, calledBy, poppedBy, List.append_nil, List.nil_append,
      gotOf, Cont.out, List.filterMap_cons, gotSel, List.filterMap_nil, and_self]
  case rPop k _ m q hq | rPopNil k _ hq =>
    by_cases e : k = x
    · subst e; simp [afterPop, queuedBy, calledBy, poppedBy, upd, gotOf, gotSel, Cont.out, hq]
    · simp [afterPop, queuedBy, calledBy, poppedBy, upd, gotOf, gotSel, Cont.out, e, Ne.symm e]
  all_goals exact ⟨(List.append_nil _).symm, (List.append_nil _).symm, (List.append_nil _).symm,
    (List.append_nil _).symm, (List.append_nil _).symm, List.append_nil _, rfl⟩

theorem Step.sent_out (h : Step s tid pc S c) (k : Key) :
    sentOf k c.out = queuedBy (rkey k) pc ++ calledBy (rkey k) pc := by
  cases h
  case sCallLast k0 m | sCallNext k0 m _ _ | sAppendLast k0 m | sAppendNext k0 m _ _ =>
    by_cases e : k0 = k
    · subst e; simp [queuedBy, calledBy, sentOf, sentSel, Cont.out]
    · have e' : ¬ rkey k0 = rkey k := fun h => e (rkey_inj h)
      simp [queuedBy, calledBy, sentOf, sentSel, Cont.out, e, e']
  all_goals rfl

/-- program counters at which the thread holds `_lock` -/
def holding : Pc → Bool
  | .sAppend _ _ _ | .rRead _ _ _ | .rPop _ _ => true
  | .dLostGet _ | .dLostCall _ | .dOpenChk _ | .dOpenRm _ | .dRemChk _ | .dRemRm _ | .dPopRecv _ | .dPopLost _ => true
  | _ => false

def Cont.holding : Cont → Bool
  | .stay pc _ => NQ.Hub.holding pc
  | .done _ => false

theorem Step.lock (h : Step s tid pc S c) :
    (S.lock = s.lock ∧ c.holding = holding pc) ∨ (s.lock = none ∧ S.lock = some tid ∧ c.holding = true) ∨
    (holding pc = true ∧ S.lock = none ∧ c.holding = false) := by
  cases h
  case sLock | rLock | rLock2 | dLock => exact .inr (.inl ⟨Option.not_isSome_iff_eq_none.mp ‹_›, rfl, rfl⟩)
  case sAppendLast | sAppendNext | rRead | rPopNil | rPop | dPopLost => exact .inr (.inr ⟨rfl, rfl, rfl⟩)
  all_goals exact .inl ⟨rfl, rfl⟩

def OwnPc (t : Nat) (pc : Pc) : Prop := ∀ k, pcKey pc = some k → k.1 = t

structure BaseInv (s : State) : Prop where
  own : ∀ t, OwnPc t (s.threads t).pc
  lock : ∀ t, holding (s.threads t).pc = true ↔ s.lock = some t
  pop : ∀ t k tg, ((s.threads t).pc = .rLock2 k tg ∨ (s.threads t).pc = .rPop k tg) → s.msgs k ≠ []
  nocrash : ∀ t k, Res.crash k ∉ (s.threads t).res
  pub1 : ∀ t k, (s.threads t).pc = .cRemote k → s.open_ k = true
  pub2 : ∀ k, s.everOpen k = true → (∃ t, (s.threads t).pc = .cRemote k) ∨ s.remote k = true ∨ s.remRemoved k = true

/-- what `BaseInv` needs of a position between two operations -/
structure Fresh (t : Nat) (pc : Pc) : Prop where
  own : OwnPc t pc
  free : holding pc = false
  nopop : ∀ k tg, pc ≠ .rLock2 k tg ∧ pc ≠ .rPop k tg
  noremote : ∀ k, pc ≠ .cRemote k

theorem entry_fresh (t : Nat) (op : Op) : Fresh t (entry t op) := by
  rcases op with ⟨rn, id, _ | _⟩ | _ | _ | _ | _ <;>
    exact ⟨fun k hk => by cases hk; rfl, rfl, fun _ _ => ⟨nofun, nofun⟩, fun _ => nofun⟩

theorem start_fresh (t : Nat) (ops : List Op) : Fresh t (startThread t ops).pc := by
  cases ops with
  | nil => exact ⟨nofun, rfl, fun _ _ => ⟨nofun, nofun⟩, fun _ => nofun⟩
  | cons op ops => exact entry_fresh t op

theorem advance_fresh (t : Nat) (th : Thread) (r : Res) : Fresh t (advance t th r).pc :=
  advance_eq t th r ▸ start_fresh t th.rest

theorem baseInv_init (progs : List (List Op)) : BaseInv (init progs) := by
  have hst : ∀ t, Fresh t ((init progs).threads t).pc := fun t => start_fresh t _
  refine ⟨fun t => (hst t).own, fun t => ?_, fun t k tg h => ?_, fun t k => ?_, fun t k h => ?_, fun k h => nomatch h⟩
  · rw [(hst t).free]; exact ⟨nofun, nofun⟩
  · exact (h.elim ((hst t).nopop k tg).1 ((hst t).nopop k tg).2).elim
  · exact startThread_res t _ ▸ List.not_mem_nil
  · exact absurd h ((hst t).noremote k)

theorem holding_run (tid : Nat) (th : Thread) (c : Cont) : holding (c.run tid th).pc = c.holding := by
  cases c with
  | stay pc r => rw [Cont.run_stay_pc]; rfl
  | done r => exact (advance_fresh tid th r).free

/-- inside an operation the owner component of the key never changes (a broadcast changes the remote only) -/
theorem Step.own {t : Nat} (h : Step s tid pc S (.stay pc' r)) (ho : OwnPc t pc) : OwnPc t pc' := by
  cases h <;> exact fun _ e => by cases e; exact (ho _ rfl :)

theorem Step.out_other (h : Step s tid pc S c) (ho : OwnPc tid pc) (k : Key) (hk : k.1 ≠ tid) :
    gotOf k c.out = [] ∧ sentOf k c.out = [] := by
  have hne : ∀ k0, pcKey pc = some k0 → k0 ≠ k := fun k0 e e' => hk (e' ▸ ho k0 e)
  rw [(h.delta k).2.2.2.2.2.2, h.sent_out k]
  unfold poppedBy queuedBy calledBy
  refine ⟨?_, ?_⟩
  · split
    · rw [if_neg (hne _ rfl)]
    · rfl
  · have hr : ∀ k0, pcKey pc = some k0 → ¬ rkey k0 = rkey k := fun k0 e e' => hne k0 e (rkey_inj e')
    split
    · rw [if_neg (hr _ rfl)]; rfl
    · split
      · rw [if_neg (hr _ rfl)]; rfl
      · rfl

theorem Step.res_of (h : Step s tid pc S c) (ho : OwnPc tid pc) (k : Key) :
    gotOf k ((setThread S tid (c.run tid (s.threads tid))).threads k.1).res =
      gotOf k (s.threads k.1).res ++ gotOf k c.out ∧
    sentOf k ((setThread S tid (c.run tid (s.threads tid))).threads k.1).res =
      sentOf k (s.threads k.1).res ++ sentOf k c.out := by
  rw [threads_setThread]
  split
  · rename_i e
    rw [e, Cont.run_res]; exact ⟨List.filterMap_append .., List.filterMap_append ..⟩
  · rename_i e
    rw [h.threads, (h.out_other ho k e).1, (h.out_other ho k e).2, List.append_nil, List.append_nil]
    exact ⟨rfl, rfl⟩

theorem Cont.out_of_mem {c : Cont} {r : Res} (h : r ∈ c.out) : c.out = [r] := by
  rcases c with ⟨_, _ | _⟩ | _
  · nomatch h
  · rw [List.mem_singleton.mp h]; rfl
  · rw [List.mem_singleton.mp h]; rfl

theorem Step.crash (h : Step s tid pc S c) (k : Key)
    (hc : c.out = [.crash k]) : ∃ tg, pc = .rPop k tg ∧ s.msgs k = [] := by
  cases h
  case rPopNil k0 tg hq => cases hc; exact ⟨tg, rfl, hq⟩
  all_goals nomatch hc

theorem Step.remote_keep (h : Step s tid pc S c) (k : Key)
    (hk : pcKey pc ≠ some k) (hr : s.remote (rkey k) = true) : S.remote (rkey k) = true := by
  cases h
  case cRemote k0 => show upd s.remote k0 true (rkey k) = true; unfold upd; split <;> first | rfl | exact hr
  case dRemRm k0 => exact (upd_other _ _ _ _ fun e => hk (congrArg some (rkey_inj e).symm)).trans hr
  all_goals exact hr

theorem Step.published (h : Step s tid pc S c) (k : Key)
    (hr : pc = .cRemote k ∨ s.remote k = true ∨ s.remRemoved k = true) :
    S.remote k = true ∨ S.remRemoved k = true := by
  cases h
  case cRemote k0 =>
    rcases hr with e | e | e
    · cases e; exact .inl (upd_same ..)
    · left; show upd s.remote k0 true k = true; unfold upd; split <;> first | rfl | exact e
    · exact .inr e
  case dRemRm k0 =>
    by_cases e : k = rkey k0
    · subst e; exact .inr (upd_same ..)
    · rcases hr with e' | e' | e'
      · cases e'
      · exact .inl ((upd_other _ _ _ _ e).trans e')
      · exact .inr ((upd_other _ _ _ _ e).trans e')
  all_goals exact hr.elim (fun e => nomatch e) id

theorem Step.everOpen (h : Step s tid pc S c) (k : Key)
    (he : S.everOpen k = true) : s.everOpen k = true ∨ c = .stay (.cRemote k) none := by
  cases h
  case cOpen k0 cb =>
    by_cases e : k = k0
    · subst e; exact .inr rfl
    · exact .inl ((upd_other _ _ _ _ e).symm.trans he)
  all_goals exact .inl he

theorem baseInv_step (s s' : State) (tid : Nat) (inv : BaseInv s) (h : step s tid = some s') : BaseInv s' := by
  obtain ⟨own, lock, pop, nc, p1, p2⟩ := inv
  obtain ⟨pc, S, c, hpc, hst, rfl⟩ := step_spec h
  have hown : OwnPc tid pc := hpc ▸ own tid
  have hme := lock tid
  rw [hpc] at hme
  refine ⟨fun t => ?_, fun t => ?_, fun t k tg hk => ?_, fun t k => ?_, fun t k hk => ?_, fun k hk => ?_⟩
  · rw [threads_setThread]
    split
    · subst t
      cases c with
      | done r => exact (advance_fresh _ _ _).own
      | stay pc' r => rw [Cont.run_stay_pc]; exact hst.own hown
    · rw [hst.threads]; exact own t
  · -- lock: by the three kinds of line of `Step.lock`, for the thread itself and for another one
    rw [threads_setThread, lock_setThread]
    split
    · subst t
      rw [holding_run]
      rcases hst.lock with ⟨e1, e2⟩ | ⟨_, e1, e2⟩ | ⟨_, e1, e2⟩
      · rw [e1, e2]; exact hme
      · rw [e1, e2]; simp
      · rw [e1, e2]; simp
    · rename_i ht
      rw [hst.threads, lock t]
      rcases hst.lock with ⟨e1, _⟩ | ⟨e0, e1, _⟩ | ⟨e0, e1, _⟩
      · rw [e1]
      · rw [e0, e1]; simp [Ne.symm ht]
      · rw [hme.mp e0, e1]; simp [Ne.symm ht]
  · rw [threads_setThread] at hk
    rw [msgs_setThread]
    split at hk
    · -- the thread itself gets in front of the pop only through the length test (queue non-empty) and the lock
      cases c with
      | done r => exact (hk.elim ((advance_fresh _ _ r).nopop k tg).1 ((advance_fresh _ _ r).nopop k tg).2).elim
      | stay pc' r =>
        rw [Cont.run_stay_pc] at hk
        rcases hk with rfl | rfl
        · cases hst with | rLenSome _ _ _ m q hq => rw [hq]; exact List.cons_ne_nil m q
        · cases hst with | rLock2 => exact pop tid k tg (.inl hpc)
    · -- a thread parked there owns `k`: nobody else pops from it, and an append keeps it non-empty
      rename_i ht
      rw [hst.threads] at hk
      have hne := pop t k tg hk
      have hkt : k.1 = t := own t k (by rcases hk with e | e <;> rw [e] <;> rfl)
      have hpp : poppedBy s k pc = [] := (hst.delta k).2.2.2.2.2.2 ▸ (hst.out_other hown k (hkt ▸ ht)).1
      have e := (hst.delta k).2.2.2.2.2.1
      intro h0
      rw [hpp, h0] at e
      exact hne (List.append_eq_nil_iff.mp e).1
  · -- nocrash: a crash would be a pop from an empty queue, which `pop` excludes
    rw [threads_setThread]
    split
    · subst t
      rw [Cont.run_res, List.mem_append]
      intro hm
      rcases hm with hm | hm
      · exact nc tid k hm
      · obtain ⟨tg, rfl, hq⟩ := hst.crash k (Cont.out_of_mem hm)
        exact pop tid k tg (.inr hpc) hq
    · rw [hst.threads]; exact nc t k
  · -- pub1: `cRemote k` is entered from `cOpen k`, which has just set `open_ k`
    rw [threads_setThread] at hk
    rw [open__setThread]
    split at hk
    · cases c with
      | done r => exact absurd hk ((advance_fresh _ _ r).noremote k)
      | stay pc' r =>
        rw [Cont.run_stay_pc] at hk; subst hk
        cases hst with | cOpen => exact upd_same ..
    · -- only the owner of `k` writes `open_ k`
      rename_i ht
      rw [hst.threads] at hk
      have hkt : k.1 = t := own t k (by rw [hk]; rfl)
      rw [(hst.reg_other k fun e => ht (hkt.symm.trans (hown k e))).2.2.1]
      exact p1 t k hk
  · rw [remote_setThread, remRemoved_setThread]
    rcases hst.everOpen k hk with he | rfl
    · rcases p2 k he with ⟨t, ht⟩ | hr
      · by_cases e : t = tid
        · subst e; exact .inr (hst.published k (.inl (hpc.symm.trans ht)))
        · exact .inl ⟨t, by rw [threads_setThread, if_neg e, hst.threads]; exact ht⟩
      · exact .inr (hst.published k (.inr hr))
    · exact .inl ⟨tid, by rw [threads_setThread, if_pos rfl, Cont.run_stay_pc]⟩

theorem baseInv_reachable (progs : List (List Op)) (s : State) (h : Reachable progs s) : BaseInv s := by
  induction h with
  | init => exact baseInv_init progs
  | step s s' tid _ hs ih => exact baseInv_step s s' tid ih hs

def NoCbProg (tid : Nat) (k : Key) (ops : List Op) : Prop :=
  ∀ rn id, Op.connect rn id true ∈ ops → (tid, rn, id) ≠ k

theorem NoCbProg_tail {t : Nat} {k : Key} {op : Op} {ops : List Op} (h : NoCbProg t k (op :: ops)) :
    NoCbProg t k ops := fun rn id hm => h rn id (List.mem_cons_of_mem _ hm)

theorem entry_plain {t : Nat} {k : Key} {op : Op} {ops : List Op} (h : NoCbProg t k (op :: ops)) :
    entry t op ≠ .cCbRecv k ∧ ∀ k0 m more, entry t op = .sCall k0 m more → rkey k0 ≠ k := by
  rcases op with ⟨rn, id, _ | _⟩ | _ | _ | _ | _ <;> simp [entry]
  exact fun hk => h rn id List.mem_cons_self hk

/-- thread `tid` never registers a callback for `k`: it does not stand in front of `_recv_callbacks[k] = …`, is not
about to call a callback of `k`, and the rest of its program has no `connect` of `k` with callbacks -/
def PlainThread (k : Key) (tid : Nat) (th : Thread) : Prop :=
  (th.pc ≠ .cCbRecv k ∧ ∀ k0 m more, th.pc = .sCall k0 m more → rkey k0 ≠ k) ∧ NoCbProg tid k th.rest

/-- Invariant for a channel `k` whose owner never registers a callback: all its traffic takes the queue path (for
which `Hist.queue` holds whatever the program). -/
structure PlainInv (k : Key) (s : State) : Prop where
  path : s.sent k = s.queued k ∧ s.delivered k = s.popped k
  nocb : s.recvCbs k = false
  thr : ∀ t, PlainThread k t (s.threads t)

theorem plain_start {k : Key} {t : Nat} {ops : List Op} (h : NoCbProg t k ops) :
    PlainThread k t (startThread t ops) := by
  cases ops with
  | nil => exact ⟨⟨nofun, nofun⟩, h⟩
  | cons op ops => exact ⟨entry_plain h, NoCbProg_tail h⟩

theorem plain_advance (k : Key) (tid : Nat) (th : Thread) (r : Res) (hr : NoCbProg tid k th.rest) :
    PlainThread k tid (advance tid th r) :=
  advance_eq tid th r ▸ plain_start hr

theorem plainInv_step (k : Key) (s s' : State) (tid : Nat) (hinv : PlainInv k s)
    (h : step s tid = some s') : PlainInv k s' := by
  obtain ⟨hc, hn, hall⟩ := hinv
  obtain ⟨pc, S, c, hpc, hst, rfl⟩ := step_spec h
  have hme := hall tid
  refine ⟨?_, ?_, fun t => ?_⟩
  · -- no line calls the callback of `k`; what is appended or popped goes to both sides alike
    obtain ⟨e1, _, e2, e3, e4, _⟩ := hst.delta k
    have hca : calledBy k pc = [] := by
      unfold calledBy; split
      · exact if_neg (hme.1.2 _ _ _ hpc)
      · rfl
    rw [sent_setThread, delivered_setThread, queued_setThread, popped_setThread, e1, e2, e3, e4, hca, hc.1, hc.2]
    exact ⟨congrArg _ (List.append_nil _), rfl⟩
  · -- `recvCbs k` is set only at `cCbRecv k`, where no thread ever is
    rw [recvCbs_setThread]
    cases hst
    case cCbRecv k0 => exact (upd_other _ _ _ _ fun e => hme.1.1 (by rw [hpc, e])).trans hn
    case dPopRecv k0 => show upd s.recvCbs k0 false k = false; unfold upd; split <;> first | rfl | exact hn
    all_goals exact hn
  · rw [threads_setThread]
    split
    · subst t
      cases c with
      | done r => exact plain_advance k tid _ r hme.2
      | stay pc' r =>
        -- inside an operation nothing leads to `cCbRecv`, and `sCall` is reached only past a registered callback
        refine ⟨⟨?_, ?_⟩, by rw [Cont.run_stay_rest]; exact hme.2⟩ <;> rw [Cont.run_stay_pc]
        · intro e; subst e; cases hst
        · intro k0 m more e e'; subst e
          cases hst with | sCbT _ _ _ hx => rw [e', hn] at hx; cases hx
    · rw [hst.threads]; exact hall t

theorem plainInv_init (k : Key) (progs : List (List Op))
    (hk : ∀ t, NoCbProg t k (progs.getD t [])) : PlainInv k (init progs) :=
  ⟨⟨rfl, rfl⟩, rfl, fun t => plain_start (hk t)⟩

def CbOnlyProg (t : Nat) (k : Key) (ops : List Op) : Prop :=
  (∀ rn id, Op.connect rn id false ∈ ops → (t, rn, id) ≠ k) ∧
  (∀ rn id, Op.disconnect rn id ∈ ops → (t, rn, id) ≠ k)

/-- program counters that must not occur for such a key: a plain publish, any step of its disconnect,
and the queue path of a send towards it -/
def badPc (k : Key) : Pc → Prop
  | .cOpen k' false => k' = k
  | .dLock k' | .dLostGet k' | .dLostCall k' | .dOpenChk k' | .dOpenRm k' | .dRemChk k' | .dRemRm k'
  | .dPopRecv k' | .dPopLost k' => k' = k
  | .sLock k0 _ _ | .sAppend k0 _ _ => rkey k0 = k
  | _ => False

/-- program counters at which the callback of `k` must already be registered -/
def needsReg (k : Key) : Pc → Prop
  | .cCbLost k' | .cOpen k' true => k' = k
  | .sCb k0 _ _ => rkey k0 = k
  | _ => False

def CbThread (k : Key) (t : Nat) (th : Thread) : Prop := ¬ badPc k th.pc ∧ CbOnlyProg t k th.rest

/-- Invariant for a key that is only ever connected with callbacks and never disconnected (the situation of F20):
`reg`/`opn`: whoever relies on the callback of `k` — a thread past its registration, a sender that saw `k` in
`_open_sockets` — finds it registered; hence (`emp`, `seq`) nothing is ever queued for `k` and the callback has
received exactly what was sent. -/
structure CbInv (k : Key) (s : State) : Prop where
  thr : ∀ t, CbThread k t (s.threads t)
  reg : ∀ t, needsReg k (s.threads t).pc → s.recvCbs k = true
  opn : s.open_ k = true → s.recvCbs k = true
  emp : s.msgs k = []
  seq : s.sent k = s.cbStore k ∧ s.delivered k = s.cbStore k

theorem CbOnlyProg_tail {t : Nat} {k : Key} {op : Op} {ops : List Op} (h : CbOnlyProg t k (op :: ops)) :
    CbOnlyProg t k ops :=
  ⟨fun rn id hm => h.1 rn id (List.mem_cons_of_mem _ hm), fun rn id hm => h.2 rn id (List.mem_cons_of_mem _ hm)⟩

theorem entry_cb {t : Nat} {k : Key} {op : Op} {ops : List Op} (h : CbOnlyProg t k (op :: ops)) :
    ¬ badPc k (entry t op) ∧ ¬ needsReg k (entry t op) := by
  rcases op with ⟨rn, id, _ | _⟩ | _ | _ | ⟨rn, id⟩ | _ <;> simp [entry, badPc, needsReg]
  · exact h.1 rn id List.mem_cons_self
  · exact h.2 rn id List.mem_cons_self

theorem cb_start {k : Key} {t : Nat} {ops : List Op} (h : CbOnlyProg t k ops) :
    CbThread k t (startThread t ops) ∧ ¬ needsReg k (startThread t ops).pc := by
  cases ops with
  | nil => exact ⟨⟨id, h⟩, id⟩
  | cons op ops => exact ⟨⟨(entry_cb h).1, CbOnlyProg_tail h⟩, (entry_cb h).2⟩

theorem cb_advance (k : Key) (tid : Nat) (th : Thread) (r : Res) (hr : CbOnlyProg tid k th.rest) :
    CbThread k tid (advance tid th r) ∧ ¬ needsReg k (advance tid th r).pc :=
  advance_eq tid th r ▸ cb_start hr

theorem cbInv_init (k : Key) (progs : List (List Op))
    (hk : ∀ t, CbOnlyProg t k (progs.getD t [])) : CbInv k (init progs) :=
  ⟨fun t => (cb_start (hk t)).1, fun t h => absurd h (cb_start (hk t)).2, (fun h => nomatch h), rfl, rfl, rfl⟩

theorem Step.badPc_stay (h : Step s tid pc S (.stay pc' r)) (k : Key) (hb : badPc k pc') :
    badPc k pc ∨ (needsReg k pc ∧ ¬ s.recvCbs k = true) := by
  cases h
  case sCbF hx => exact .inr ⟨hb, hb ▸ hx⟩
  case sLock | dLock | dLostGetT | dLostGetF | dLostCall | dOpenChkT | dOpenChkF | dOpenRm | dRemChkT | dRemChkF |
    dRemRm | dPopRecv => exact .inl hb
  all_goals exact hb.elim

theorem Step.recvCbs_keep (h : Step s tid pc S c) (k : Key)
    (hb : ¬ badPc k pc) (hr : s.recvCbs k = true) : S.recvCbs k = true := by
  cases h
  case cCbRecv k0 => show upd s.recvCbs k0 true k = true; unfold upd; split <;> first | rfl | exact hr
  case dPopRecv k0 => exact (upd_other _ _ _ _ fun e => hb e.symm).trans hr
  all_goals exact hr

theorem Step.needsReg_stay (h : Step s tid pc S (.stay pc' r)) (k : Key) (opn : s.open_ k = true → s.recvCbs k = true)
    (reg : needsReg k pc → s.recvCbs k = true) (hn : needsReg k pc') : S.recvCbs k = true := by
  cases h
  case cCbRecv k0 => exact hn ▸ upd_same ..
  case cCbLost => exact reg hn
  case sCheckT hc => exact opn (hn ▸ (Bool.and_eq_true _ _ ▸ hc).2)
  all_goals exact hn.elim

theorem cbInv_step (k : Key) (s s' : State) (tid : Nat) (hinv : CbInv k s)
    (h : step s tid = some s') : CbInv k s' := by
  obtain ⟨thr, reg, opn, emp, seq⟩ := hinv
  obtain ⟨pc, S, c, hpc, hst, rfl⟩ := step_spec h
  have hbad : ¬ badPc k pc := hpc ▸ (thr tid).1
  have hreg : needsReg k pc → s.recvCbs k = true := hpc ▸ reg tid
  have hkeep : s.recvCbs k = true → S.recvCbs k = true := hst.recvCbs_keep k hbad
  -- nobody appends to the queue of `k` (bad position) or pops from it (it is empty): only the callback path moves
  have hmsg : S.msgs k = [] ∧ S.sent k = S.cbStore k ∧ S.delivered k = S.cbStore k := by
    obtain ⟨_, e1, e2, _, e3, e4, _⟩ := hst.delta k
    have hqa : queuedBy k pc = [] := by
      unfold queuedBy; split
      · exact if_neg hbad
      · rfl
    have hpp : poppedBy s k pc = [] := by
      unfold poppedBy; split
      · rw [emp]; exact ite_self _
      · rfl
    rw [emp, hqa, hpp] at e4
    rw [e1, e2, e3, hqa, hpp, seq.1, seq.2, List.append_nil]
    exact ⟨e4.symm, rfl, rfl⟩
  refine ⟨fun t => ?_, fun t => ?_, ?_, hmsg.1, hmsg.2⟩
  · rw [threads_setThread]
    split
    · subst t
      cases c with
      | done r => exact (cb_advance k tid _ r (thr tid).2).1
      | stay pc' r =>
        refine ⟨?_, by rw [Cont.run_stay_rest]; exact (thr tid).2⟩
        rw [Cont.run_stay_pc]
        intro hb
        rcases hst.badPc_stay k hb with h1 | ⟨h1, h2⟩
        · exact hbad h1
        · exact h2 (hreg h1)
    · rw [hst.threads]; exact thr t
  · rw [threads_setThread, recvCbs_setThread]
    split
    · subst t
      cases c with
      | done r => exact fun hn => absurd hn (cb_advance k tid _ r (thr tid).2).2
      | stay pc' r => rw [Cont.run_stay_pc]; exact hst.needsReg_stay k opn hreg
    · rw [hst.threads]; exact fun hn => hkeep (reg t hn)
  · -- `k` is published by `cOpen k true` only, which is past the registration
    rw [open__setThread, recvCbs_setThread]
    cases hst
    case cOpen k0 cb =>
      show upd s.open_ k0 true k = true → s.recvCbs k = true
      unfold upd; split
      · rename_i e; subst e
        cases cb
        · exact absurd rfl hbad
        · exact fun _ => hreg rfl
      · exact opn
    case dOpenRm k0 =>
      show upd s.open_ k0 false k = true → s.recvCbs k = true
      unfold upd; split
      · exact fun e => nomatch e
      · exact opn
    all_goals exact fun ho => hkeep (opn ho)

/-- Program hypothesis for a key that alternates between callback and plain incarnations: the owner never starts a
`connect` of `k` while an earlier incarnation of `k` is still live (connect … disconnect … connect …; a disconnect
is allowed at any time). -/
def LifeOk (t : Nat) (k : Key) : Bool → List Op → Prop
  | _, [] => True
  | live, .connect rn id _ :: ops =>
      if (t, rn, id) = k then live = false ∧ LifeOk t k true ops else LifeOk t k live ops
  | live, .disconnect rn id :: ops =>
      if (t, rn, id) = k then LifeOk t k false ops else LifeOk t k live ops
  | live, .send _ _ _ _ :: ops => LifeOk t k live ops
  | live, .recv _ _ _ _ :: ops => LifeOk t k live ops
  | live, .wait _ _ :: ops => LifeOk t k live ops

/-- value of `live k` when the operation the owner is executing completes -/
def liveAfter (k : Key) (live : Bool) : Pc → Bool
  | .cCbRecv k' | .cCbLost k' | .cOpen k' _ | .cRemote k' | .cWaitOpen k' | .cWaitRemote k' =>
      if k' = k then true else live
  | .dLock k' | .dLostGet k' | .dLostCall k' | .dOpenChk k' | .dOpenRm k' | .dRemChk k' | .dRemRm k'
  | .dPopRecv k' | .dPopLost k' => if k' = k then false else live
  | _ => live

/-- what the owner's position implies about the registration state of `k` -/
def pcFacts (k : Key) (live recv opn : Bool) : Pc → Prop
  | .cCbRecv k' => k' = k → live = false
  | .cCbLost k' => k' = k → live = true ∧ recv = true
  | .cOpen k' true => k' = k → live = true ∧ recv = true
  | .cOpen k' false => k' = k → live = false
  | .cRemote k' | .cWaitOpen k' | .cWaitRemote k' => k' = k → live = true
  | .dRemChk k' | .dRemRm k' | .dPopRecv k' => k' = k → opn = false
  | .dPopLost k' => k' = k → opn = false ∧ recv = false
  | _ => True

/-- The registration state of `k` (`live k`, `recvCbs k`, `open_ k`, `cbMode k`) is written by the owner of `k`
only, inside its `connect` and `disconnect` of `k`; `ModeInv k` ties it to where the owner stands.
`life`: the rest of the owner's program respects `LifeOk`, counted from the value `live k` has once the current
operation is over.  `pcf`: what the lines already executed of a connect/disconnect of `k` have established.
`dead`: a key that is not live has no callback registered and is not in `_open_sockets`.  `mode`: while `k` is in
`_open_sockets`, a callback is registered iff the `connect` that published it uses callbacks. -/
structure ModeInv (k : Key) (s : State) : Prop where
  life : LifeOk k.1 k (liveAfter k (s.live k) (s.threads k.1).pc) (s.threads k.1).rest
  pcf : pcFacts k (s.live k) (s.recvCbs k) (s.open_ k) (s.threads k.1).pc
  dead : s.live k = false → s.recvCbs k = false ∧ s.open_ k = false
  mode : s.open_ k = true → s.recvCbs k = s.cbMode k

/-- A position between two operations constrains `live` only (through `LifeOk`: a `connect` of `k` starts from
`live = false`); hence `pcFacts` holds there whatever `recv` and `opn` are. -/
theorem start_mode (o : Nat) (k : Key) (L recv opn : Bool) (ops : List Op) (hl : LifeOk o k L ops) :
    LifeOk o k (liveAfter k L (startThread o ops).pc) (startThread o ops).rest ∧
    pcFacts k L recv opn (startThread o ops).pc := by
  rcases ops with _ | ⟨op, ops⟩
  · exact ⟨hl, trivial⟩
  cases op with
  | connect rn id cb =>
    -- a `connect` of `k` starts from `live = false`, which `pcFacts` records at its first line, and ends live
    simp only [LifeOk] at hl
    cases cb <;> simp only [startThread, entry, liveAfter, pcFacts, Bool.false_eq_true, if_false, if_true] <;>
      split at hl <;> simp_all
  | send rn id m more => simpa [LifeOk, startThread, entry, liveAfter, pcFacts] using hl
  | recv rn id b tag => simpa [LifeOk, startThread, entry, liveAfter, pcFacts] using hl
  | wait rn id => simpa [LifeOk, startThread, entry, liveAfter, pcFacts] using hl
  | disconnect rn id =>
    -- a `disconnect` of `k` may start at any time and ends with `k` not live
    simp only [LifeOk] at hl
    simp only [startThread, entry, liveAfter, pcFacts]
    split at hl <;> simp_all

theorem advance_mode (o : Nat) (k : Key) (L recv opn : Bool) (th : Thread) (r : Res)
    (hl : LifeOk o k L th.rest) :
    LifeOk o k (liveAfter k L (advance o th r).pc) (advance o th r).rest ∧
    pcFacts k L recv opn (advance o th r).pc :=
  advance_eq o th r ▸ start_mode o k L recv opn th.rest hl

theorem modeInv_init (k : Key) (progs : List (List Op)) (hk : LifeOk k.1 k false (progs.getD k.1 [])) :
    ModeInv k (init progs) :=
  have := start_mode k.1 k false false false _ hk
  ⟨this.1, this.2, fun _ => ⟨rfl, rfl⟩, fun h => nomatch h⟩

/-- inside an operation the thread stays in the connect, or in the disconnect, of one key -/
theorem Step.liveAfter_stay (h : Step s tid pc S (.stay pc' r)) (k : Key) (L : Bool) :
    liveAfter k L pc' = liveAfter k L pc := by
  cases h <;> rfl

/-- `live k` is written only inside a connect or disconnect of `k`, where `liveAfter` does not look at it -/
theorem Step.liveAfter_live (h : Step s tid pc S c) (k : Key) :
    liveAfter k (S.live k) pc = liveAfter k (s.live k) pc := by
  by_cases e : pcKey pc = some k
  · cases h
    case cCbRecv | cOpen | dPopLost => cases e; simp [liveAfter]
    all_goals rfl
  · rw [(h.reg_other k e).1]

theorem Step.live_done {r : Res} (h : Step s tid pc S (.done r)) (k : Key)
    (hp : pcFacts k (s.live k) (s.recvCbs k) (s.open_ k) pc) : S.live k = liveAfter k (s.live k) pc := by
  cases h
  case cWaitOpenT kk _ | cWaitRemoteT kk _ =>
    by_cases e : kk = k
    · simp [liveAfter, e, hp e]
    · simp [liveAfter, e]
  case dPopLost kk =>
    by_cases e : kk = k
    · simp [liveAfter, upd, e]
    · simp [liveAfter, upd, e, Ne.symm e]
  all_goals rfl

/-- Each line of a connect or disconnect of `k` hands on what `pcFacts` records.  (`pcFacts` of a given position
is its clause by `rfl`, so the clauses are used without unfolding.) -/
theorem Step.pcFacts_stay (h : Step s tid pc S (.stay pc' r)) (k : Key)
    (hp : pcFacts k (s.live k) (s.recvCbs k) (s.open_ k) pc) :
    pcFacts k (S.live k) (S.recvCbs k) (S.open_ k) pc' := by
  cases h
  -- the next position records what this one does, and the line does not write it
  case cCbLost | cRemote | cWaitOpenF | cWaitRemoteF | dRemChkT | dRemChkF | dRemRm => exact hp
  -- the line has just written it: callback registered and live; live; not open; callback unregistered
  case cCbRecv => intro e; subst e; exact ⟨upd_same .., upd_same ..⟩
  case cOpen | dOpenRm => intro e; subst e; exact upd_same ..
  case dPopRecv => intro e; exact ⟨hp e, e ▸ upd_same ..⟩
  -- the line has just tested it: `key in _open_sockets` was false
  case dOpenChkF hx => intro e; subst e; exact (Bool.not_eq_true _).mp hx
  all_goals trivial

/-- `dead` and `mode` speak of the registration state of `k` alone; the five lines that write it keep them because
of what `pcFacts` records in front of them. -/
theorem Step.dead_mode (h : Step s tid pc S c) (k : Key)
    (hp : pcFacts k (s.live k) (s.recvCbs k) (s.open_ k) pc)
    (hd : s.live k = false → s.recvCbs k = false ∧ s.open_ k = false)
    (hm : s.open_ k = true → s.recvCbs k = s.cbMode k) :
    (S.live k = false → S.recvCbs k = false ∧ S.open_ k = false) ∧
    (S.open_ k = true → S.recvCbs k = S.cbMode k) := by
  by_cases e : pcKey pc = some k
  · cases h
    -- `k` becomes live with a callback; it was dead, hence is not open
    case cCbRecv => cases e; simp [upd_same, (hd (hp rfl)).2]
    -- `k` is published with mode `cb`: past the registration if `cb`, dead before (no callback) if not
    case cOpen kk cb =>
      cases e
      cases cb
      · simp [upd_same, (hd (hp rfl)).1]
      · simp [upd_same, (hp rfl).2]
    -- `k` is no longer open
    case dOpenRm =>
      cases e; exact ⟨fun h => ⟨(hd h).1, upd_same ..⟩, fun h => nomatch (upd_same ..).symm.trans h⟩
    -- the callback goes, `k` is not open any more; then `k` dies, with neither
    case dPopRecv => cases e; simp [upd_same, hp rfl]
    case dPopLost => cases e; simp [upd_same, hp rfl]
    all_goals exact ⟨hd, hm⟩
  · obtain ⟨e1, e2, e3, e4⟩ := h.reg_other k e
    rw [e1, e2, e3, e4]; exact ⟨hd, hm⟩

theorem modeInv_step (k : Key) (s s' : State) (tid : Nat) (own : ∀ t, OwnPc t (s.threads t).pc)
    (inv : ModeInv k s) (h : step s tid = some s') : ModeInv k s' := by
  obtain ⟨hl, hp, hd, hm⟩ := inv
  obtain ⟨pc, S, c, hpc, hst, rfl⟩ := step_spec h
  by_cases ht : k.1 = tid
  · subst ht
    rw [hpc] at hl hp
    obtain ⟨hd', hm'⟩ := hst.dead_mode k hp hd hm
    refine ⟨?_, ?_, hd', hm'⟩ <;>
      simp only [threads_setThread, if_true, live_setThread, recvCbs_setThread, open__setThread]
    · cases c with
      | stay pc' r =>
        rw [Cont.run_stay_pc, Cont.run_stay_rest, hst.liveAfter_stay, hst.liveAfter_live]; exact hl
      | done r => exact (advance_mode k.1 k _ false false _ r (hst.live_done k hp ▸ hl)).1
    · cases c with
      | stay pc' r => rw [Cont.run_stay_pc]; exact hst.pcFacts_stay k hp
      | done r => exact (advance_mode k.1 k _ _ _ _ r (hst.live_done k hp ▸ hl)).2
  · obtain ⟨e1, e2, e3, e4⟩ := hst.reg_other k fun e => ht (own tid k (hpc ▸ e))
    refine ⟨?_, ?_, ?_, ?_⟩ <;>
      simp only [threads_setThread, if_neg ht, live_setThread, recvCbs_setThread, open__setThread, cbMode_setThread,
        hst.threads, e1, e2, e3, e4]
    · exact hl
    · exact hp
    · exact hd
    · exact hm

/-- `t` is an interleaving of `a` and `b` (built from the right, as the histories grow) -/
inductive Shuffle : List Msg → List Msg → List Msg → Prop
  | nil : Shuffle [] [] []
  | left (a b t : List Msg) (m : Msg) (h : Shuffle a b t) : Shuffle (a ++ [m]) b (t ++ [m])
  | right (a b t : List Msg) (m : Msg) (h : Shuffle a b t) : Shuffle a (b ++ [m]) (t ++ [m])

/-- What holds of the histories of EVERY key under EVERY program.  `queue`, `got`: the queue path is FIFO and
exactly-once (appended = popped ++ queued, and the owner's `recv` results are the popped sequence); `paths`: every
sent message went to exactly one of the two paths, order kept on each; `sent`: the channel towards `rkey k` holds
exactly the `.sent k _` results of the owner of `k`. -/
structure Hist (k : Key) (s : State) : Prop where
  queue : s.queued k = s.popped k ++ s.msgs k
  got : gotOf k (s.threads k.1).res = s.popped k
  paths : Shuffle (s.queued k) (s.cbStore k) (s.sent k)
  sent : s.sent (rkey k) = sentOf k (s.threads k.1).res

theorem hist_init (k : Key) (progs : List (List Op)) : Hist k (init progs) :=
  ⟨rfl, congrArg (gotOf k) (startThread_res ..), .nil, (congrArg (sentOf k) (startThread_res ..)).symm⟩

/-- each history grows by the line's `Step.delta`; the rest is list algebra -/
theorem hist_step (k : Key) (s s' : State) (tid : Nat) (own : ∀ t, OwnPc t (s.threads t).pc) (inv : Hist k s)
    (h : step s tid = some s') : Hist k s' := by
  obtain ⟨hq, hg, hs, hr⟩ := inv
  obtain ⟨pc, S, c, hpc, hst, rfl⟩ := step_spec h
  obtain ⟨e1, e2, e3, e4, _, e5, e6⟩ := hst.delta k
  obtain ⟨r1, r2⟩ := hst.res_of (hpc ▸ own tid) k
  refine ⟨?_, ?_, ?_, ?_⟩
  · rw [queued_setThread, popped_setThread, msgs_setThread, e1, e4, hq, List.append_assoc, e5, List.append_assoc]
  · rw [r1, hg, popped_setThread, e4, e6]
  · rw [queued_setThread, cbStore_setThread, sent_setThread, e1, e2, e3]
    unfold queuedBy calledBy
    split
    · split <;> simp only [List.append_nil]
      · exact .left _ _ _ _ hs
      · exact hs
    · split
      · split <;> simp only [List.append_nil, List.nil_append]
        · exact .right _ _ _ _ hs
        · exact hs
      · simp only [List.append_nil]; exact hs
  · rw [r2, ← hr, sent_setThread, (hst.delta (rkey k)).2.2.1, hst.sent_out k]

theorem hist_reachable (progs : List (List Op)) (s : State) (k : Key) (h : Reachable progs s) : Hist k s := by
  induction h with
  | init => exact hist_init k progs
  | step s s' tid hr hs ih => exact hist_step k s s' tid (baseInv_reachable progs s hr).own ih hs

end NQ.Hub

