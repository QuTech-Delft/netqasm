/-
The rotation matrices of Model/Gates as POLYNOMIAL identities in `w = e^{iθ}`, valid in every
commutative ring `R` with a chosen `i`, `i·i = −1` — hence for every angle, in particular for every
encodable `(n, d)` (take `R = ℂ`, `w = e^{i·nπ/2^d}`, Lemmas/RotComplex; or `R = ℤ[ζ₈]`, Lemmas/CycRing).

`P i ax w` is literally `rot2P ax w` of Model/Gates, instantiated at the scalar structure of `R`.
-/
import Mathlib.Tactic.Ring
import Mathlib.Tactic.LinearCombination
import NetqasmVerif.Model.Gates
namespace NQ.Rot
open NQ

variable {R : Type} [CommRing R]

@[reducible] def gs (i : R) : GScalar R := ⟨0, 1, i, (· + ·), (· - ·), (· * ·)⟩

/-- `2·e^{iθ/2}·R_ax(θ)` at `w = e^{iθ}` -/
def P (i : R) (ax : Axis) (w : R) : M2 R := @rot2P R (gs i) ax w
/-- `2·e^{iθ/2}·R_ax(−θ)`: the control-|1⟩ block of a controlled rotation -/
def PNeg (i : R) (ax : Axis) (w : R) : M2 R := @rot2PNeg R (gs i) ax w

def mul2 (p q : M2 R) : M2 R :=
  ⟨p.a * q.a + p.b * q.c, p.a * q.b + p.b * q.d, p.c * q.a + p.d * q.c, p.c * q.b + p.d * q.d⟩
def smul2 (s : R) (p : M2 R) : M2 R := ⟨s * p.a, s * p.b, s * p.c, s * p.d⟩
def one2 : M2 R := ⟨1, 0, 0, 1⟩
def pauli (i : R) : Axis → M2 R
  | .X => ⟨0, 1, 1, 0⟩
  | .Y => ⟨0, -i, i, 0⟩
  | .Z => ⟨1, 0, 0, -1⟩

theorem mul2_smul2 (s : R) (p q : M2 R) : mul2 p (smul2 s q) = smul2 s (mul2 p q) := by
  simp only [mul2, smul2, M2.mk.injEq]; refine ⟨?_, ?_, ?_, ?_⟩ <;> ring

theorem smul2_smul2 (s t : R) (p : M2 R) : smul2 s (smul2 t p) = smul2 (s * t) p := by
  simp only [smul2, mul_assoc]

theorem P_X (i w : R) : P i .X w = ⟨1 + w, 1 - w, 1 - w, 1 + w⟩ := rfl
theorem P_Y (i w : R) : P i .Y w = ⟨1 + w, i * (w - 1), i * (1 - w), 1 + w⟩ := rfl
theorem P_Z (i w : R) : P i .Z w = ⟨1 + 1, 0, 0, (1 + 1) * w⟩ := rfl
theorem PNeg_X (i w : R) : PNeg i .X w = ⟨w + 1, w - 1, w - 1, w + 1⟩ := rfl
theorem PNeg_Y (i w : R) : PNeg i .Y w = ⟨w + 1, i * (1 - w), i * (w - 1), w + 1⟩ := rfl
theorem PNeg_Z (i w : R) : PNeg i .Z w = ⟨(1 + 1) * w, 0, 0, 1 + 1⟩ := rfl

/-- `(2e^{iθ₁/2}R(θ₁))·(2e^{iθ₂/2}R(θ₂)) = 2·(2e^{i(θ₁+θ₂)/2}R(θ₁+θ₂))`: the angles add -/
theorem rot_compose (i : R) (hi : i * i = -1) (ax : Axis) (w₁ w₂ : R) :
    mul2 (P i ax w₁) (P i ax w₂) = smul2 2 (P i ax (w₁ * w₂)) := by
  cases ax <;> simp only [P_X, P_Y, P_Z, mul2, smul2, M2.mk.injEq] <;> refine ⟨?_, ?_, ?_, ?_⟩
  -- only the diagonal of the Y rotation needs `i² = −1`
  case Y.refine_1 | Y.refine_4 => linear_combination ((w₁ - 1) * (1 - w₂)) * hi
  all_goals ring

theorem rot_zero (i : R) (ax : Axis) : P i ax 1 = smul2 2 one2 := by
  cases ax <;> simp only [P_X, P_Y, P_Z, smul2, one2, M2.mk.injEq] <;> refine ⟨?_, ?_, ?_, ?_⟩ <;> ring

theorem rot_half_turn (i : R) (ax : Axis) : P i ax (-1) = smul2 2 (pauli i ax) := by
  cases ax <;> simp only [P_X, P_Y, P_Z, smul2, pauli, M2.mk.injEq] <;> refine ⟨?_, ?_, ?_, ?_⟩ <;> ring

theorem rot_inverse (i : R) (hi : i * i = -1) (ax : Axis) (w v : R) (h : w * v = 1) :
    mul2 (P i ax w) (P i ax v) = smul2 4 one2 := by
  rw [rot_compose i hi, h, rot_zero, smul2_smul2]; norm_num

/-- `2e^{iθ/2}·R(−θ) = w·(2e^{−iθ/2}·R(−θ))`: the control-|1⟩ block carries the scalar of the
control-|0⟩ block, not that of its own angle -/
theorem crot_block (i : R) (ax : Axis) (w v : R) (h : w * v = 1) :
    PNeg i ax w = smul2 w (P i ax v) := by
  cases ax <;> simp only [PNeg_X, PNeg_Y, PNeg_Z, P_X, P_Y, P_Z, smul2, M2.mk.injEq] <;> refine ⟨?_, ?_, ?_, ?_⟩
  case X.refine_2 | X.refine_3 => linear_combination h
  case Y.refine_2 => linear_combination (-i) * h
  case Y.refine_3 => linear_combination i * h
  case Z.refine_1 | Z.refine_2 | Z.refine_3 => ring
  case Z.refine_4 => linear_combination (-(1 + 1) : R) * h
  -- the diagonal of the X and Y blocks: `w + 1 = w·(1 + v)`
  all_goals linear_combination (-1 : R) * h

theorem crot_compose (i : R) (hi : i * i = -1) (ax : Axis) (w₁ w₂ : R) :
    mul2 (PNeg i ax w₁) (PNeg i ax w₂) = smul2 2 (PNeg i ax (w₁ * w₂)) := by
  cases ax <;> simp only [PNeg_X, PNeg_Y, PNeg_Z, mul2, smul2, M2.mk.injEq] <;> refine ⟨?_, ?_, ?_, ?_⟩
  case Y.refine_1 | Y.refine_4 => linear_combination ((1 - w₁) * (w₂ - 1)) * hi
  all_goals ring

/-- `e^{i·nπ/2^d}` as a power of `ζ`, where `ζ^(2^D) = −1` (a primitive `2^(D+1)`-th root of unity,
`ζ = e^{iπ/2^D}` in ℂ) and `d ≤ D` -/
def wOf (ζ : R) (D n d : Nat) : R := ζ ^ (n * 2 ^ (D - d))

theorem wOf_add (ζ : R) (D n₁ n₂ d : Nat) : wOf ζ D (n₁ + n₂) d = wOf ζ D n₁ d * wOf ζ D n₂ d := by
  unfold wOf; rw [← pow_add, Nat.add_mul]

theorem wOf_pi (ζ : R) (D d : Nat) (hζ : ζ ^ 2 ^ D = -1) (hd : d ≤ D) : wOf ζ D (2 ^ d) d = -1 := by
  unfold wOf
  rw [← pow_add, show d + (D - d) = D by omega]
  exact hζ

theorem zeta_full (ζ : R) (D : Nat) (hζ : ζ ^ 2 ^ D = -1) : ζ ^ 2 ^ (D + 1) = 1 := by
  rw [pow_succ, pow_mul, hζ]; ring

theorem wOf_period (ζ : R) (D n d : Nat) (hζ : ζ ^ 2 ^ D = -1) (hd : d ≤ D) :
    wOf ζ D (n + 2 ^ (d + 1)) d = wOf ζ D n d := by
  rw [pow_succ, Nat.mul_two, wOf_add, wOf_add, wOf_pi ζ D d hζ hd]; ring

/-- `h`: `n/2^d = n'/2^d'`, cross-multiplied -/
theorem wOf_eq_of_same_angle (ζ : R) (D n d n' d' : Nat) (hd : d ≤ D) (hd' : d' ≤ D)
    (h : n * 2 ^ d' = n' * 2 ^ d) : wOf ζ D n d = wOf ζ D n' d' := by
  unfold wOf
  congr 1
  have e1 : 2 ^ D = 2 ^ (D - d) * 2 ^ d := by rw [← pow_add]; congr 1; omega
  have e2 : 2 ^ D = 2 ^ (D - d') * 2 ^ d' := by rw [← pow_add]; congr 1; omega
  have hpos : 0 < 2 ^ d * 2 ^ d' := Nat.mul_pos (Nat.two_pow_pos _) (Nat.two_pow_pos _)
  apply Nat.eq_of_mul_eq_mul_right hpos
  calc n * 2 ^ (D - d) * (2 ^ d * 2 ^ d') = (n * 2 ^ d') * (2 ^ (D - d) * 2 ^ d) := by ring
    _ = (n' * 2 ^ d) * 2 ^ D := by rw [h, ← e1]
    _ = (n' * 2 ^ d) * (2 ^ (D - d') * 2 ^ d') := by rw [← e2]
    _ = n' * 2 ^ (D - d') * (2 ^ d * 2 ^ d') := by ring

end NQ.Rot
