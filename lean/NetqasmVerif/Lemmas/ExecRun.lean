/-
Lemmas lifting `stepLoc` facts to the controller state (`step`) and to `run`.
-/
import NetqasmVerif.Lemmas.ExecStep
namespace NQ.Exec

def Res.st : Res → State
  | .ok s _ => s
  | .fault s _ => s

def LRes.loc : LRes → Loc
  | .ok l _ => l
  | .fault l _ => l

theorem put_loc_self (s : State) (a : Nat) (ap : App) (h : s.apps a = some ap) :
    s.put a (s.loc ap) = s := by
  cases s
  simp only [State.put, State.loc] at *
  congr
  funext b
  unfold upd
  split
  · subst_vars; exact h.symm
  · rfl

theorem loc_put (s : State) (a : Nat) (l : Loc) : (s.put a l).loc l.ap = l := rfl

theorem put_put (s : State) (a : Nat) (l l' : Loc) : (s.put a l).put a l' = s.put a l' := by
  simp only [State.put]
  congr 1
  funext b
  simp only [upd]
  split <;> rfl

theorem put_apps_self (s : State) (a : Nat) (l : Loc) : (s.put a l).apps a = some l.ap := by
  simp [State.put]

theorem put_inj {s : State} {a : Nat} {l l' : Loc} (h : s.put a l = s.put a l') : l = l' := by
  have h1 : l.ap = l'.ap := by
    have := congrArg (fun t => t.apps a) h
    simpa [State.put] using this
  have h2 : l.used = l'.used := congrArg State.used h
  have h3 : l.oracle = l'.oracle := congrArg State.oracle h
  have h4 : l.trace = l'.trace := congrArg State.trace h
  cases l; cases l'
  simp only [] at h1 h2 h3 h4
  subst h1 h2 h3 h4
  rfl

theorem step_apps_other (hw : Bool) (a : Nat) (i : Instr) (s : State) (pc : Int) (b : Nat) (hb : b ≠ a) :
    (step hw a i s pc).st.apps b = s.apps b := by
  unfold step
  split
  · split <;> rfl
  · split <;> simp [Res.st, State.put, upd_other _ _ _ _ hb]

theorem step_ok_of_loc {hw a i s pc ap l pc'} (h : s.apps a = some ap)
    (hl : stepLoc hw a i (s.loc ap) pc = .ok l pc') : step hw a i s pc = .ok (s.put a l) pc' := by
  unfold step; simp [h, hl]

theorem step_fault_of_loc {hw a i s pc ap l f} (h : s.apps a = some ap)
    (hl : stepLoc hw a i (s.loc ap) pc = .fault l f) : step hw a i s pc = .fault (s.put a l) f := by
  unfold step; simp [h, hl]

theorem step_fault_inv {hw a i s pc s' f} (h : step hw a i s pc = .fault s' f) :
    (s.apps a = none ∧ s' = s ∧ f = .noApp) ∨
    ∃ ap l, s.apps a = some ap ∧ stepLoc hw a i (s.loc ap) pc = .fault l f ∧ s' = s.put a l := by
  unfold step at h
  split at h
  · split at h
    · cases h
    · cases h; exact .inl ⟨‹_›, rfl, rfl⟩
  · split at h
    · cases h
    · cases h; exact .inr ⟨_, _, ‹_›, ‹_›, rfl⟩

theorem run_zero (hw a prog s pc) :
    run hw a prog 0 s pc = if pc ≥ prog.length then ⟨s, pc, .halted, []⟩ else ⟨s, pc, .outOfFuel, []⟩ := by
  simp [run]

/- The inductions over `run` below (and in C04, ExecAsmBridge) follow its own recursion (`fun_induction`); its cases
are: 1, 2 no fuel (at / before the end); 3 past the end; 4 `commands[pc]` raises; 5 no such command; 6 the instruction
succeeds, with the induction hypothesis for the rest of the run; 7 it faults. -/
theorem run_fuel_mono (hw : Bool) (a : Nat) (prog : List Instr) (fuel k : Nat) (s : State) (pc : Int)
    (h : (run hw a prog fuel s pc).out ≠ .outOfFuel) :
    run hw a prog (fuel + k) s pc = run hw a prog fuel s pc := by
  fun_induction run hw a prog fuel s pc with
  | case2 => exact absurd rfl h
  | case1 _ _ hge => cases k <;> simp [run, hge]
  | case3 n _ _ hge => rw [Nat.succ_add]; simp [run, hge]
  | case4 n _ _ hge hk => rw [Nat.succ_add]; simp [run, hge, hk]
  | case5 n _ _ hge _ hk hi => rw [Nat.succ_add]; simp [run, hge, hk, hi]
  | case6 n _ _ hge _ hk _ hi _ _ hs _ ih => rw [Nat.succ_add]; simp only [run, hge, hk, hi, hs, ih h, if_false]; rfl
  | case7 n _ _ hge _ hk _ hi _ _ hs => rw [Nat.succ_add]; simp [run, hge, hk, hi, hs]

/-- what every instruction of `a` preserves (success or fault), a whole subroutine of `a` preserves -/
theorem run_preserves {hw : Bool} {a : Nat} (Q : State → Prop)
    (hstep : ∀ i s pc, Q s → Q (step hw a i s pc).st) (prog : List Instr)
    (fuel : Nat) (s : State) (pc : Int) (hQ : Q s) : Q (run hw a prog fuel s pc).s := by
  fun_induction run hw a prog fuel s pc with
  | case1 | case2 | case3 | case4 | case5 => exact hQ
  | case6 _ s pc _ _ _ i _ _ _ hs _ ih => have := hstep i s pc hQ; rw [hs] at this; exact ih this
  | case7 _ s pc _ _ _ i _ _ _ hs => have := hstep i s pc hQ; rw [hs] at this; exact this

theorem run_apps_other (hw : Bool) (a : Nat) (prog : List Instr) (fuel : Nat) (s : State) (pc : Int)
    (b : Nat) (hb : b ≠ a) : (run hw a prog fuel s pc).s.apps b = s.apps b :=
  run_preserves (fun s' => s'.apps b = s.apps b)
    (fun i s' pc' h => (step_apps_other hw a i s' pc' b hb).trans h) prog fuel s pc rfl

/-- one instruction (`run … 1`), then the rest: the shape in which `runG` computes -/
theorem run_succ (hw : Bool) (a : Nat) (prog : List Instr) (n : Nat) (s : State) (pc : Int) :
    run hw a prog (n + 1) s pc =
      (match (run hw a prog 1 s pc).out with
       | .outOfFuel => { run hw a prog n (run hw a prog 1 s pc).s (run hw a prog 1 s pc).pc with
                         visited := (run hw a prog 1 s pc).visited ++
                           (run hw a prog n (run hw a prog 1 s pc).s (run hw a prog 1 s pc).pc).visited }
       | _ => run hw a prog 1 s pc) := by
  by_cases hge : pc ≥ prog.length
  · simp [run, hge]
  · rcases hk : pyIdx prog.length pc with _ | k
    · simp [run, hge, hk]
    · rcases hi : prog[k]? with _ | i
      · simp [run, hge, hk, hi]
      · rcases hs : step hw a i s pc with ⟨s', pc'⟩ | ⟨s', f⟩
        · by_cases hp : pc' ≥ prog.length
          · cases n <;> simp [run, hge, hk, hi, hs, hp]
          · simp [run, hge, hk, hi, hs, hp]
        · simp [run, hge, hk, hi, hs]

theorem runG_eq_run (hw : Bool) (a : Nat) (prog : List Instr) (n : Nat) (s : State) (pc : Int)
    (r : RunOut) (h : runG hw a prog n s pc = some r) : r = run hw a prog n s pc := by
  induction n generalizing s pc r with
  | zero => simp [runG] at h; exact h.symm
  | succ n ih =>
    unfold runG at h
    split at h
    · cases h
    · rw [run_succ]
      simp only [] at h
      split at h
      · rename_i ho
        simp only [ho]
        rcases hg : runG hw a prog n (run hw a prog 1 s pc).s (run hw a prog 1 s pc).pc with _ | r'
        · simp [hg] at h
        · simp only [hg, Option.map_some, Option.some.injEq] at h
          have := ih _ _ r' hg
          rw [← this, ← h]
      · rename_i ho
        cases h
        split
        · rename_i ho'; exact absurd ho' (by intro e; exact ho e)
        · rfl

end NQ.Exec
