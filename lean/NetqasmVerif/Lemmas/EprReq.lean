/-
Lemmas for C11: what `serializeReq` writes and what `getCreateRequest` reads back, each in closed form over the
generated tables; result slices.
-/
import NetqasmVerif.Model.EprReq
import NetqasmVerif.Lemmas.EprReqSpec
import NetqasmVerif.Lemmas.EprInv
namespace NQ.EprReq
open NQ.Gen.Epr

/-- the argument array `serialize_request` builds, cell by cell: the optional groups (time limit,
rotation triples, random-basis sets) are written only when given, and the last three only for M and R -/
def cells (tp : Int) (p : ReqParams) : List (Option Int) :=
  let m := tp = 1 ∨ tp = 2
  let t := p.maxTime ≠ 0
  let rot (t : Int × Int × Int) (v : Int) : Option Int :=
    if m then if t ≠ (0, 0, 0) then some v else none else none
  [some tp, some p.number, if m then p.rbl else none, if m then p.rbr else none, none,
   if t then some p.timeUnit else none, if t then some p.maxTime else none,
   none, none, none, none, none, none, none,
   rot p.rotL p.rotL.1, rot p.rotL p.rotL.2.1, rot p.rotL p.rotL.2.2,
   rot p.rotR p.rotR.1, rot p.rotR p.rotR.2.1, rot p.rotR p.rotR.2.2]

theorem ite_some_some {α} (c : Prop) [Decidable c] (a b : α) :
    (if c then some a else some b) = some (if c then a else b) := by split <;> rfl

theorem ite_cons_cons {α} (c : Prop) [Decidable c] (a b : α) (l l' : List α) :
    (if c then a :: l else b :: l') = (if c then a else b) :: (if c then l else l') := by split <;> rfl

/-- Every `put` is evaluated once: a conditional group `if c then put … else a` is pushed into the cells
(`ite_some_some`, `ite_cons_cons`), so the array stays one explicit list whose untouched cells collapse by
`ite_self`, instead of one array per combination of conditions. -/
theorem serializeReq_eq (tp : Int) (p : ReqParams) : serializeReq tp p = some (cells tp p) := by
  obtain ⟨number, timeUnit, maxTime, rbl, rbr, rotL, rotR⟩ := p
  simp only [serializeReq, cells, put, lookupNat, lookupInt, serCreate, serCreateLen, eprType, List.replicate,
    List.find?, String.reduceBEq, Option.map, List.length_cons, List.length_nil, Nat.reduceAdd, Nat.reduceLT,
    if_true, List.set, ite_some_some, ite_cons_cons, ite_self]
  cases rbl <;> cases rbr <;>
    simp only [List.length_cons, List.length_nil, Nat.reduceAdd, Nat.reduceLT, if_true, List.set, ite_some_some,
      ite_cons_cons, ite_self, Option.some.injEq]

theorem convField_cons_ne {k k' : String} (x : FVal) (kw : List (String × FVal)) (conv : FVal → Option FVal)
    (h : k' ≠ k) :
    convField (some ((k', x) :: kw)) k conv = (convField (some kw) k conv).map ((k', x) :: ·) := by
  simp only [convField, List.find?, beq_eq_false_iff_ne.2 h]
  split
  · rfl
  · split
    · rfl
    · simp [h]

theorem convField_cons_eq {k : String} (x : FVal) (kw : List (String × FVal)) (conv : FVal → Option FVal)
    (h : ∀ e ∈ kw, e.1 ≠ k) :
    convField (some ((k, x) :: kw)) k conv = (conv x).map fun v => (k, v) :: kw := by
  simp only [convField, List.find?, beq_self_eq_true]
  cases conv x with
  | none => rfl
  | some v =>
    simp
    exact (List.map_congr_left fun e he => by simp [h e he]).trans (List.map_id kw)

theorem fillDefaults_cons (a : Option Int) (as : List (Option Int)) (f : String) (fs : List String) (d : FVal)
    (ds : List FVal) : fillDefaults (a :: as) (f :: fs) (d :: ds) = (f, a.elim d .int) :: fillDefaults as fs ds := by
  cases a <;> rfl

theorem elim_int (c : Option Int) (d : Int) : c.elim (FVal.int d) .int = .int (c.getD d) := by cases c <;> rfl

theorem toRandBasis_elim (c : Option Int) (h : ValidRB c) :
    toRandBasis (c.elim (.randBasis 0) .int) = some (.randBasis (c.getD 0)) := by
  cases c with
  | none => rfl
  | some v => simp [toRandBasis, h v rfl]

/-- `_get_create_request` on ANY argument array of 20 cells whose type cell holds a `RequestType` value and
whose random-basis cells are valid: an unset cell gives the `LinkLayerCreate` default, the three enum fields
arrive as enum members. -/
theorem getCreateRequest_cells (remote purpose tp : Int) (htp : (requestType.map (·.2)).contains tp = true)
    (n bl br c4 c5 c6 c7 c8 c9 c10 c11 c12 c13 c14 c15 c16 c17 c18 c19 : Option Int)
    (hl : ValidRB bl) (hr : ValidRB br) :
    getCreateRequest remote purpose
      [some tp, n, bl, br, c4, c5, c6, c7, c8, c9, c10, c11, c12, c13, c14, c15, c16, c17, c18, c19] =
    some [("remote_node_id", .int remote), ("purpose_id", .int purpose), ("type", .reqType tp),
      ("number", .int (n.getD 1)), ("random_basis_local", .randBasis (bl.getD 0)),
      ("random_basis_remote", .randBasis (br.getD 0)), ("minimum_fidelity", .int (c4.getD 0)),
      ("time_unit", .int (c5.getD 0)), ("max_time", .int (c6.getD 0)), ("priority", .int (c7.getD 0)),
      ("atomic", .int (c8.getD 0)), ("consecutive", .int (c9.getD 0)),
      ("probability_dist_local1", .int (c10.getD 0)), ("probability_dist_local2", .int (c11.getD 0)),
      ("probability_dist_remote1", .int (c12.getD 0)), ("probability_dist_remote2", .int (c13.getD 0)),
      ("rotation_X_local1", .int (c14.getD 0)), ("rotation_Y_local", .int (c15.getD 0)),
      ("rotation_X_local2", .int (c16.getD 0)), ("rotation_X_remote1", .int (c17.getD 0)),
      ("rotation_Y_remote", .int (c18.getD 0)), ("rotation_X_remote2", .int (c19.getD 0))] := by
  simp only [getCreateRequest, createFields, createDefaults, fillDefaults_cons,
    show fillDefaults [] [] [] = [] from rfl, List.length_cons, List.length_nil, Nat.reduceAdd, ne_eq,
    not_true_eq_false, if_false, elim_int, Option.elim_some]
  simp only [convField_cons_ne, convField_cons_eq, String.reduceEq, ne_eq, not_false_eq_true, List.mem_cons,
    forall_eq_or_imp, List.not_mem_nil, false_imp_iff, implies_true, and_self, toRandBasis_elim _ hl,
    toRandBasis_elim _ hr, toReqType, htp, if_true, Option.map_some]

/-- The request round trip: what `_get_create_request` reads from the array `serialize_request` wrote is
`expectedCreate`. The random-basis sets have to be `RandomBasis` members only where they are written (M and R). -/
theorem roundtrip (tp : Int) (htp : tp = 0 ∨ tp = 1 ∨ tp = 2) (remote purpose : Int) (p : ReqParams)
    (hl : tp = 1 ∨ tp = 2 → ValidRB p.rbl) (hr : tp = 1 ∨ tp = 2 → ValidRB p.rbr) :
    (serializeReq tp p).bind (getCreateRequest remote purpose) = some (expectedCreate tp remote purpose p) := by
  have hv : ∀ {c : Prop} [Decidable c] {o : Option Int}, (c → ValidRB o) → ValidRB (if c then o else none) := by
    intro c _ o h; split
    · exact h ‹_›
    · intro x hx; cases hx
  rw [serializeReq_eq, Option.bind_some, cells,
    getCreateRequest_cells (htp := by rcases htp with rfl | rfl | rfl <;> decide) (hl := hv hl) (hr := hv hr)]
  -- cell by cell; a rotation triple that is not written is zero
  have hz (t : Int × Int × Int) : (if t = (0, 0, 0) then 0 else t.1) = t.1 ∧
      (if t = (0, 0, 0) then 0 else t.2.1) = t.2.1 ∧ (if t = (0, 0, 0) then 0 else t.2.2) = t.2.2 := by
    by_cases h : t = (0, 0, 0) <;> simp [h]
  simp +contextual only [Option.getD_some, apply_ite (Option.getD · (0 : Int)), Option.getD_none, ne_eq,
    ite_not, hz, expectedCreate, Bool.or_eq_true, beq_iff_eq, Option.some.injEq, List.cons.injEq, Prod.mk.injEq,
    FVal.int.injEq, ite_eq_right_iff, implies_true, and_self]

/-- a keep request, whatever random-basis sets the parameters carry: it never writes them -/
theorem roundtrip_K (remote purpose : Int) (p : ReqParams) :
    (serializeReq 0 p).bind (getCreateRequest remote purpose) = some (expectedCreate 0 remote purpose p) :=
  roundtrip 0 (.inl rfl) remote purpose p (fun h => absurd h (by decide)) (fun h => absurd h (by decide))

/-- after storing responses `rs` at pair indices `k, k+1, …`: entry `(k+i)·okf + j` holds field `j` of
response `i`; entries below `k·okf` are untouched. For lists of ANY length. -/
theorem storeAll_get {okf : Nat} : ∀ (rs : List (List Int)) (arr arr' : List (Option Int)) (k : Nat),
    (∀ r ∈ rs, r.length = okf) → storeAll okf arr k rs = some arr' →
    (∀ i r, rs[i]? = some r → ∀ j v, r[j]? = some v → arr'[(k + i) * okf + j]? = some (some v)) ∧
    (∀ x, x < k * okf → arr'[x]? = arr[x]?) := by
  intro rs
  induction rs with
  | nil =>
    intro arr arr' k _ h
    simp [storeAll] at h
    subst h
    exact ⟨by intro i r hr; simp at hr, fun _ _ => rfl⟩
  | cons r0 rs ih =>
    intro arr arr' k hlen h
    unfold storeAll at h
    split at h
    · cases h
    · rename_i a1 h1
      have hspec := Epr.storeSlice_spec (by simpa [storeEntInfo] using h1)
      obtain ⟨ih1, ih2⟩ := ih a1 arr' (k + 1) (fun r hr => hlen r (by simp [hr])) h
      have hl0 : r0.length = okf := hlen r0 (by simp)
      refine ⟨?_, ?_⟩
      · intro i r hr j v hv
        cases i with
        | zero =>
          simp only [List.getElem?_cons_zero, Option.some.injEq] at hr
          subst hr
          have hj : j < r0.length := (List.getElem?_eq_some_iff.1 hv).1
          have hx : (k + 0) * okf + j < (k + 1) * okf := by
            rw [Nat.add_zero, Nat.add_mul, Nat.one_mul]; exact Nat.add_lt_add_left (hl0 ▸ hj) _
          rw [ih2 _ hx, Nat.add_zero, hspec.2.1 j hj, hv]
          rfl
        | succ i =>
          simp only [List.getElem?_cons_succ] at hr
          have := ih1 i r hr j v hv
          have e : (k + (i + 1)) * okf = (k + 1 + i) * okf := congrArg (· * okf) (Nat.add_right_comm k i 1)
          rw [e]; exact this
      · intro x hx
        have hx' : x < (k + 1) * okf := Nat.lt_of_lt_of_le hx (Nat.mul_le_mul_right _ (Nat.le_succ k))
        rw [ih2 x hx', hspec.2.2 x (Or.inl hx)]

/-- what a host-side handle finds: entry `i·okf + j` holds field `j` of response `i` -/
theorem storeAll_read {okf : Nat} (rs : List (List Int)) (arr arr' : List (Option Int))
    (hlen : ∀ r ∈ rs, r.length = okf) (h : storeAll okf arr 0 rs = some arr') (i : Nat) (r : List Int)
    (hr : rs[i]? = some r) (j : Nat) (hj : j < okf) :
    ∃ v, r[j]? = some v ∧ arr'[i * okf + j]? = some (some v) := by
  have hj' : j < r.length := by rw [hlen r (List.mem_of_getElem? hr)]; exact hj
  refine ⟨r[j], List.getElem?_eq_getElem hj', ?_⟩
  simpa using (storeAll_get rs arr arr' 0 hlen h).1 i r hr j _ (List.getElem?_eq_getElem hj')

end NQ.EprReq
