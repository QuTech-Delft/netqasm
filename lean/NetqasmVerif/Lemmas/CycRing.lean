/-
ℤ[ζ₈] (Model/Cyc, four `Int`s) is a commutative ring, `ζ⁴ = −1`, `I·I = −1`: so the polynomial
identities of Lemmas/RotPoly hold in it, and the exact matrices used by the kernel-decided obligations
(`rot2P ax (Cyc.zpow k)`) are the `D = 2` instance of the same definition.
-/
import Mathlib.Algebra.Ring.MinimalAxioms
import Mathlib.Tactic.Ring
import NetqasmVerif.Lemmas.RotPoly
namespace NQ
open NQ.Rot

instance : Zero Cyc := ⟨Cyc.zero⟩
instance : One Cyc := ⟨Cyc.one⟩

theorem Cyc.ext' {x y : Cyc} (ha : x.a = y.a) (hb : x.b = y.b) (hc : x.c = y.c) (hd : x.d = y.d) : x = y := by
  cases x; cases y; simp_all

@[simp] theorem Cyc.add_def (x y : Cyc) : x + y = ⟨x.a + y.a, x.b + y.b, x.c + y.c, x.d + y.d⟩ := rfl
@[simp] theorem Cyc.neg_def (x : Cyc) : -x = ⟨-x.a, -x.b, -x.c, -x.d⟩ := rfl
@[simp] theorem Cyc.mul_def (x y : Cyc) : x * y = Cyc.mul x y := rfl
@[simp] theorem Cyc.zero_def : (0 : Cyc) = ⟨0, 0, 0, 0⟩ := rfl
@[simp] theorem Cyc.one_def : (1 : Cyc) = ⟨1, 0, 0, 0⟩ := rfl

instance : CommRing Cyc :=
  CommRing.ofMinimalAxioms
    (by intro x y z; apply Cyc.ext' <;> simp only [Cyc.add_def] <;> ring)
    (by intro x; apply Cyc.ext' <;> simp only [Cyc.add_def, Cyc.zero_def, zero_add])
    (by intro x; apply Cyc.ext' <;> simp only [Cyc.add_def, Cyc.neg_def, Cyc.zero_def, neg_add_cancel])
    (by intro x y z; apply Cyc.ext' <;> simp only [Cyc.mul_def, Cyc.mul] <;> ring)
    (by intro x y; apply Cyc.ext' <;> simp only [Cyc.mul_def, Cyc.mul] <;> ring)
    (by intro x; apply Cyc.ext' <;> simp only [Cyc.mul_def, Cyc.mul, Cyc.one_def] <;> ring)
    (by intro x y z; apply Cyc.ext' <;> simp only [Cyc.mul_def, Cyc.mul, Cyc.add_def] <;> ring)

/-- `ζ⁴ = −1`, written as the hypothesis `ζ ^ 2 ^ D = −1` of the `Rot.wOf_*` lemmas at `D = 2` -/
theorem Cyc.zeta_pow4 : Cyc.zeta ^ 2 ^ 2 = (-1 : Cyc) := by decide +kernel
theorem Cyc.I_mul_I : Cyc.I * Cyc.I = (-1 : Cyc) := by decide +kernel

theorem Cyc.zpow_eq_pow (k : Nat) : Cyc.zpow k = Cyc.zeta ^ k := by
  induction k with
  | zero => rfl
  | succ k ih =>
    rw [pow_succ, ← ih]
    show Cyc.mulZeta (Cyc.zpow k) = Cyc.zpow k * Cyc.zeta
    apply Cyc.ext' <;> simp only [Cyc.mulZeta, Cyc.mul_def, Cyc.mul, Cyc.zeta] <;> ring

theorem rot2P_cyc (ax : Axis) (k : Nat) : rot2P ax (Cyc.zpow k) = P Cyc.I ax (Cyc.zeta ^ k) := by
  rw [Cyc.zpow_eq_pow]; cases ax <;> rfl

theorem rot2PNeg_cyc (ax : Axis) (k : Nat) : rot2PNeg ax (Cyc.zpow k) = PNeg Cyc.I ax (Cyc.zeta ^ k) := by
  rw [Cyc.zpow_eq_pow]; cases ax <;> rfl

end NQ
