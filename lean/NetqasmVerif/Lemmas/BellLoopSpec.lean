/-
Lemmas (C10): the two correction templates. The per-pair block of the
post-routine / move-to-memory paths (`corrBlockCode`, `block_at`) and the body of the
wait-all loop (`corrBodyCode`, `corrBody_spec`) stand anywhere in a program; the
wait-all loop itself (`corrLoopCode`) is run as a program of its own in
`C10.waitall_loop_runs`.
-/
import NetqasmVerif.Lemmas.BellLoop

/-- the results array holds the Bell value of pair `i` at `idxBell + len·i` -/
def NQ.C10.ResultsHold (ly : NQ.Bell.Layout) (resv bvs : List Int) : Prop :=
  ∀ i (h : i < bvs.length), ∃ k : Nat, ly.idxBell + ly.len * (i : Int) = (k : Int) ∧ resv[k]? = some bvs[i]

namespace NQ.Bell
open C10 (ResultsHold)

structure RegsDistinct (q b L I J : Nat) : Prop where
  qb : q ≠ b
  qL : q ≠ L
  qI : q ≠ I
  qJ : q ≠ J
  bL : b ≠ L
  bI : b ≠ I
  bJ : b ≠ J
  LI : L ≠ I
  LJ : L ≠ J
  IJ : I ≠ J

def LoopLabels.toList (lb : LoopLabels) : List String := [lb.l1, lb.l2, lb.x1, lb.x2, lb.x3, lb.l3, lb.l4]

/-- which qubit id a correction is addressed to -/
def Target.pick (t : Target) (id : Int) : Int := match t with | .loaded => id | .setZero => 0

/-- events of the pairs `(Bell value, qubit id)` in order -/
def pairEvents (sp : SinglePair) (t : Target) : List (Int × Int) → List Ev
  | [] => []
  | (bv, id) :: rest => corrEvents sp bv (t.pick id) ++ pairEvents sp t rest

def loopEnd (L : Nat) (l3 l4 : String) : List Cmd := [ .add L L (.imm 1), .jmp l3, .label l4 ]

section
variable {code : List Cmd} {mem : Mem} {o : Nat} {t : Target} {ly : Layout} {sp : SinglePair}
  {q b L I J : Nat} {l1 l2 x1 x2 x3 : String} {ids res : Int}
  {idv resv : List Int} {i k : Nat} {id bv : Int} {regs : Nat → Int}

/-- the command of `corrBlockCode` between the raw-Bell-state code and the single-pair block -/
def Target.mid (t : Target) (q : Nat) (ids : Int) (L : Nat) : Cmd :=
  match t with | .loaded => Cmd.load q ids L | .setZero => Cmd.set q 0

theorem corrBlockCode_eq : corrBlockCode t ly sp q b L I J l1 l2 x1 x2 x3 ids res =
    rawBellCode ly b L I J l1 l2 res ++ ([t.mid q ids L] ++ singlePairCode sp b q x1 x2 x3) := by
  cases t <;> rfl

theorem labelsOf_corrBlockCode :
    labelsOf (corrBlockCode t ly sp q b L I J l1 l2 x1 x2 x3 ids res) = [l1, l2, x1, x2, x3] := by
  cases t <;> rfl

theorem corrBlockCode_length (t : Target) (ly : Layout) (sp : SinglePair) (q b L I J : Nat)
    (l1 l2 x1 x2 x3 : String) (ids res : Int) :
    (corrBlockCode t ly sp q b L I J l1 l2 x1 x2 x3 ids res).length = 20 := by cases t <;> rfl

theorem mid_step {pc : Nat} {tr : List Ev} (hc : code[pc]? = some (t.mid q ids L)) (hmi : mem ids = some idv)
    (hL : regs L = (i : Int)) (hid : idv[i]? = some id) :
    step code mem ⟨pc, regs, tr⟩ = some ⟨pc + 1, upd regs q (t.pick id), tr⟩ := by
  cases t
  · exact step_silent hc (effect_load hmi hL hid)
  · exact step_silent hc rfl

/-- **The correction block inside any program.** Entered in iteration `i` (`L = i`), the block applies
exactly pair i's rotations to `t.pick (ids[i])`, keeps `L` and every register other than its four
scratch registers, and arrives at the command behind it. -/
theorem block_at (h : Frag code o (corrBlockCode t ly sp q b L I J l1 l2 x1 x2 x3 ids res))
    (hd : RegsDistinct q b L I J) (hmi : mem ids = some idv) (hmr : mem res = some resv)
    (hid : idv[i]? = some id) (hk : ly.idxBell + ly.len * (i : Int) = (k : Int)) (hbv : resv[k]? = some bv)
    (tr : List Ev) (hL : regs L = (i : Int)) :
    ∃ regs', Reaches code mem ⟨o, regs, tr⟩ ⟨o + 20, regs', tr ++ corrEvents sp bv (t.pick id)⟩ ∧
      regs' L = (i : Int) ∧ (∀ x, x ≠ I → x ≠ J → x ≠ b → x ≠ q → regs' x = regs x) := by
  rw [corrBlockCode_eq] at h
  obtain ⟨r, hr, hb, hfr⟩ := rawBell_spec (mem := mem) h.left hd.IJ hd.LI.symm hd.LJ.symm tr hL hmr hk hbv
  have hL' : r L = (i : Int) := (hfr L hd.LI hd.LJ hd.bL.symm).trans hL
  have hs := single_spec (mem := mem) h.right.right.singleAt (upd r q (t.pick id)) tr
  rw [upd_same, upd_other _ _ _ _ hd.qb.symm, hb] at hs
  refine ⟨_, .trans hr (.head (mid_step (h.get (j := 9) rfl) hmi hL' hid) hs), ?_, fun x hI hJ hb hq => ?_⟩
  · rw [upd_other _ _ _ _ hd.qL.symm, hL']
  · rw [upd_other _ _ _ _ hq, hfr x hI hJ hb]

/-- `corrLoopCode` overwrites the loaded qubit id by 0 in its `setZero` variant -/
def Target.zero (t : Target) (q : Nat) : List Cmd := match t with | .loaded => [] | .setZero => [.set q 0]

def corrBodyCode (t : Target) (ly : Layout) (sp : SinglePair) (q b L I J : Nat) (l1 l2 x1 x2 x3 : String)
    (ids res : Int) : List Cmd :=
  [.load q ids L] ++ (rawBellCode ly b L I J l1 l2 res ++ (t.zero q ++ singlePairCode sp b q x1 x2 x3))

theorem corrLoopCode_eq {lb : LoopLabels} {n : Int} : corrLoopCode t ly sp q b L I J lb n ids res =
    [.set L 0, .label lb.l3, .beq (.r L) (.imm n) lb.l4] ++
      (corrBodyCode t ly sp q b L I J lb.l1 lb.l2 lb.x1 lb.x2 lb.x3 ids res ++ loopEnd L lb.l3 lb.l4) := by
  cases t <;> rfl

theorem zero_spec (h : Frag code o (t.zero q)) (regs : Nat → Int) (tr : List Ev) :
    ∃ regs', Reaches code mem ⟨o, regs, tr⟩ ⟨o + (t.zero q).length, regs', tr⟩ ∧
      regs' q = t.pick (regs q) ∧ ∀ x, x ≠ q → regs' x = regs x := by
  cases t
  · exact ⟨regs, .refl _, rfl, fun _ _ => rfl⟩
  · exact ⟨_, .head (step_silent (h.get (j := 0) rfl) rfl) (.refl _), upd_same ..,
      fun x hx => upd_other _ _ _ _ hx⟩

/-- the loop body for pair `i`: it applies pair i's rotations to `t.pick (ids[i])` and keeps `L` -/
theorem corrBody_spec (h : Frag code o (corrBodyCode t ly sp q b L I J l1 l2 x1 x2 x3 ids res))
    (hd : RegsDistinct q b L I J) (hmi : mem ids = some idv) (hmr : mem res = some resv)
    (hid : idv[i]? = some id) (hk : ly.idxBell + ly.len * (i : Int) = (k : Int)) (hbv : resv[k]? = some bv)
    (tr : List Ev) (hL : regs L = (i : Int)) :
    ∃ regs', Reaches code mem ⟨o, regs, tr⟩
        ⟨o + (corrBodyCode t ly sp q b L I J l1 l2 x1 x2 x3 ids res).length, regs',
          tr ++ corrEvents sp bv (t.pick id)⟩ ∧
      regs' L = (i : Int) := by
  have hlen : o + (corrBodyCode t ly sp q b L I J l1 l2 x1 x2 x3 ids res).length =
      o + 1 + 9 + (t.zero q).length + 10 := by cases t <;> rfl
  have h1 := h.right
  have hL1 : upd regs q id L = (i : Int) := by rw [upd_other _ _ _ _ hd.qL.symm, hL]
  obtain ⟨r, hr, hb, hfr⟩ := rawBell_spec (mem := mem) h1.left hd.IJ hd.LI.symm hd.LJ.symm tr hL1 hmr hk hbv
  have hq : r q = id := (hfr q hd.qI hd.qJ hd.qb).trans (upd_same ..)
  obtain ⟨r', hz, hq', hfr'⟩ := zero_spec (mem := mem) h1.right.left r tr
  have hs := single_spec (mem := mem) h1.right.right.singleAt r' tr
  rw [hq', hq, hfr' b hd.qb.symm, hb] at hs
  rw [hlen]
  exact ⟨r', .head (step_silent (h.get (j := 0) rfl) (effect_load hmi hL hid)) (.trans hr (.trans hz hs)),
    by rw [hfr' L hd.qL.symm, hfr L hd.LI hd.LJ hd.bL.symm, hL1]⟩

end

/-- pair `i`'s Bell value and qubit id as the loop theorems name them (`getD`, so that no bound proof
enters a statement), and where the Bell value stands in the results array -/
theorem pair_data {ly : Layout} {idv resv bvs : List Int} (hlen : idv.length = bvs.length)
    (hres : ResultsHold ly resv bvs) {i : Nat} (hi : i < bvs.length) :
    ∃ k : Nat, ly.idxBell + ly.len * (i : Int) = (k : Int) ∧ resv[k]? = some (bvs.getD i 0) ∧
      idv[i]? = some (idv.getD i 0) := by
  obtain ⟨k, hk, hbv⟩ := hres i hi
  refine ⟨k, hk, ?_, ?_⟩
  · rw [hbv, List.getD_eq_getElem?_getD, List.getElem?_eq_getElem hi]; rfl
  · rw [List.getD_eq_getElem?_getD, List.getElem?_eq_getElem (hlen ▸ hi)]; rfl

theorem iterEvents_pairs {sp : SinglePair} {t : Target} {bvs idv : List Int} {R : Nat → List Ev → Prop}
    (hR : ∀ i e, R i e → e = corrEvents sp (bvs.getD i 0) (t.pick (idv.getD i 0)))
    (hlen : idv.length = bvs.length) {i d : Nat} {all : List Ev} (h : IterEvents R i d all)
    (hid : i + d = bvs.length) : all = pairEvents sp t ((bvs.zip idv).drop i) := by
  induction h with
  | nil i => rw [List.drop_eq_nil_of_le (by rw [List.length_zip]; omega)]; rfl
  | @cons i d e rest he _ ih =>
    have hz : i < (bvs.zip idv).length := by rw [List.length_zip]; omega
    rw [List.drop_eq_getElem_cons hz, hR i e he, ih (by omega), List.getElem_zip, pairEvents,
      List.getD_eq_getElem?_getD, List.getD_eq_getElem?_getD, List.getElem?_eq_getElem,
      List.getElem?_eq_getElem]
    rfl

end NQ.Bell
