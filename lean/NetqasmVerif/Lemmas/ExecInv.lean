/-
The C13 invariant `Inv` and its preservation by the elementary state changes, each stated on abstract
pre/post states through what happens to `unitOf`, `used`, `reserved`, `registry` (the model's operations are
matched against these in `ExecInvStep.lean`).  Fields of `Inv`: `inj` — (application, virtual) ↦ physical is
injective across all applications; `used_iff` — marked used = mapped or held by the link layer (`reserved`);
`disj` — a reserved qubit is not mapped; `reg` — an application that has a unit module owns its
shared-memory key.
-/
import NetqasmVerif.Lemmas.ExecRun
namespace NQ.Exec

def unitOf (s : State) (a : Nat) : Option (List (Option Nat)) := (s.apps a).map (·.unit)

def physU (ou : Option (List (Option Nat))) (v : Nat) : Option Nat :=
  match ou with
  | none => none
  | some u => u[v]?.join

/-- physical qubit mapped by virtual qubit `v` of application `a` -/
def phys (s : State) (a v : Nat) : Option Nat := physU (unitOf s a) v

structure Inv (s : State) : Prop where
  inj : ∀ a b va vb p, phys s a va = some p → phys s b vb = some p → a = b ∧ va = vb
  used_iff : ∀ p, p ∈ s.used ↔ (∃ a v, phys s a v = some p) ∨ p ∈ s.reserved
  disj : ∀ p a v, p ∈ s.reserved → phys s a v ≠ some p
  reg : ∀ a, unitOf s a ≠ none → a ∈ s.registry

theorem unitOf_of_apps {s : State} {a : Nat} {ap : App} (h : s.apps a = some ap) : unitOf s a = some ap.unit := by
  simp [unitOf, h]

theorem phys_of_unit {s : State} {a : Nat} {u : List (Option Nat)} (h : unitOf s a = some u) (v : Nat) :
    phys s a v = u[v]?.join := by simp [phys, h, physU]

/-- a mapped physical qubit is marked used -/
theorem Inv.used_of_slot {s : State} {a p q : Nat} {u : List (Option Nat)} (hI : Inv s)
    (hu : unitOf s a = some u) (hq : u[p]?.join = some q) : q ∈ s.used :=
  (hI.used_iff q).2 (.inl ⟨a, p, (phys_of_unit hu p).trans hq⟩)

theorem phys_upd {s s' : State} {a : Nat} {nu} (h : unitOf s' = upd (unitOf s) a nu) (b v : Nat) :
    phys s' b v = if b = a then physU nu v else phys s b v := by
  unfold phys; rw [h]; unfold upd; split <;> rfl

theorem set_join (u : List (Option Nat)) (p v : Nat) (x : Option Nat) (hp : p < u.length) :
    (u.set p x)[v]?.join = if v = p then x else u[v]?.join := by
  rw [List.getElem?_set]
  by_cases h : p = v
  · subst h; simp [hp]
  · have : ¬ v = p := fun e => h e.symm
    simp [h, this]

/-- One slot of a unit module changes from `u[p]` to `x`, and the sets follow: the old qubit leaves `used`; the
new one enters it and leaves `reserved`, and it was unused or held by the link layer. Allocation or delivery of a keep
response (`inv_alloc`) and freeing (`inv_free`) are the instances. -/
theorem inv_slot {s s' : State} {a : Nat} {u : List (Option Nat)} {p : Nat} {x : Option Nat} (hI : Inv s)
    (hu : unitOf s a = some u) (hp : p < u.length)
    (hx : ∀ q, x = some q → q ∉ s.used ∨ q ∈ s.reserved)
    (hu' : unitOf s' = upd (unitOf s) a (some (u.set p x)))
    (hused : ∀ y, y ∈ s'.used ↔ (y ∈ s.used ∧ u[p]?.join ≠ some y) ∨ x = some y)
    (hres : ∀ y, y ∈ s'.reserved ↔ y ∈ s.reserved ∧ x ≠ some y)
    (hreg : s'.registry = s.registry) : Inv s' := by
  have hold := phys_of_unit hu p
  have hps : ∀ b v, phys s' b v = if b = a ∧ v = p then x else phys s b v := fun b v => by
    rw [phys_upd hu']
    by_cases hb : b = a
    · subst hb; simp [phys, hu, physU, set_join u p v x hp]
    · simp [hb]
  have hfresh : ∀ q, x = some q → ∀ b v, phys s b v ≠ some q := fun q hq b v h =>
    (hx q hq).elim (fun hn => hn ((hI.used_iff q).2 (.inl ⟨b, v, h⟩))) (fun hr => hI.disj q b v hr h)
  have hinj := hI.inj
  have hdisj := hI.disj
  constructor
  · intro b c vb vc y h1 h2
    rw [hps] at h1 h2
    split at h1 <;> split at h2
    · rename_i e1 e2; exact ⟨e1.1.trans e2.1.symm, e1.2.trans e2.2.symm⟩
    · exact absurd h2 (hfresh y h1 c vc)
    · exact absurd h1 (hfresh y h2 b vb)
    · exact hinj b c vb vc y h1 h2
  · intro y
    rw [hused, hres, hI.used_iff, ← hold]
    constructor
    · rintro (⟨⟨b, v, h⟩ | h, hne⟩ | h)
      · refine .inl ⟨b, v, ?_⟩
        rw [hps, if_neg]
        · exact h
        · rintro ⟨rfl, rfl⟩; exact hne h
      · by_cases e : x = some y
        · exact .inl ⟨a, p, by rw [hps]; simp [e]⟩
        · exact .inr ⟨h, e⟩
      · exact .inl ⟨a, p, by rw [hps]; simp [h]⟩
    · rintro (⟨b, v, h⟩ | ⟨h, hne⟩)
      · rw [hps] at h
        split at h
        · exact .inr h
        · rename_i hn; exact .inl ⟨.inl ⟨b, v, h⟩, fun e => hn (hinj b a v p y h e)⟩
      · exact .inl ⟨.inr h, fun e => hdisj y a p h e⟩
  · intro y b v hy h
    rw [hres] at hy
    rw [hps] at h
    split at h
    · exact hy.2 h
    · exact hdisj y b v hy.1 h
  · intro b hb
    rw [hreg]
    apply hI.reg
    rw [hu'] at hb
    unfold upd at hb
    split at hb
    · subst_vars; rw [hu]; exact Option.some_ne_none u
    · exact hb

/-- a free slot receives a physical qubit that was unused (`qalloc`, a keep response of a stack that does not
reserve) or that the link layer held (keep response) -/
theorem inv_alloc {s s' : State} {a : Nat} {u : List (Option Nat)} {p q : Nat} (hI : Inv s)
    (hu : unitOf s a = some u) (hp : p < u.length) (hn : u[p]?.join = none) (hq : q ∉ s.used ∨ q ∈ s.reserved)
    (hu' : unitOf s' = upd (unitOf s) a (some (u.set p (some q))))
    (hused : ∀ x, x ∈ s'.used ↔ x = q ∨ x ∈ s.used)
    (hres : ∀ x, x ∈ s'.reserved ↔ x ∈ s.reserved ∧ x ≠ q) (hreg : s'.registry = s.registry) : Inv s' := by
  refine inv_slot hI hu hp (fun _ e => Option.some.inj e ▸ hq) hu' (fun y => ?_) (fun y => ?_) hreg
  · rw [hused, hn]; simp [or_comm, eq_comm]
  · rw [hres]; simp [eq_comm]

/-- the invariant only looks at unit modules, `used`, `reserved`, `registry` -/
theorem inv_same {s s' : State} (hI : Inv s) (hu' : unitOf s' = unitOf s)
    (hused : ∀ x, x ∈ s'.used ↔ x ∈ s.used) (hres : s'.reserved = s.reserved)
    (hreg : s'.registry = s.registry) : Inv s' := by
  have hp : ∀ b v, phys s' b v = phys s b v := fun b v => by simp [phys, hu']
  constructor
  · intro b c vb vc x h1 h2
    rw [hp] at h1 h2
    exact hI.inj b c vb vc x h1 h2
  · intro x
    rw [hused, hres, hI.used_iff]
    simp [hp]
  · intro x b v hx h
    rw [hres] at hx; rw [hp] at h
    exact hI.disj x b v hx h
  · intro b hb
    rw [hreg]; rw [hu'] at hb
    exact hI.reg b hb

theorem inv_free {s s' : State} {a : Nat} {u : List (Option Nat)} {p q : Nat} (hI : Inv s)
    (hu : unitOf s a = some u) (hq : u[p]?.join = some q)
    (hu' : unitOf s' = upd (unitOf s) a (some (u.set p none)))
    (hused : ∀ x, x ∈ s'.used ↔ x ∈ s.used ∧ x ≠ q)
    (hres : s'.reserved = s.reserved) (hreg : s'.registry = s.registry) : Inv s' := by
  have hp : p < u.length := by
    rcases Nat.lt_or_ge p u.length with h | h
    · exact h
    · simp [List.getElem?_eq_none h] at hq
  refine inv_slot hI hu hp (fun _ e => by cases e) hu' (fun y => ?_) (fun y => ?_) hreg
  · rw [hused, hq]; simp [eq_comm]
  · rw [hres]; simp

theorem inv_reserve {s s' : State} {q : Nat} (hI : Inv s) (hq : q ∉ s.used)
    (hu' : unitOf s' = unitOf s) (hused : ∀ x, x ∈ s'.used ↔ x = q ∨ x ∈ s.used)
    (hres : ∀ x, x ∈ s'.reserved ↔ x = q ∨ x ∈ s.reserved) (hreg : s'.registry = s.registry) :
    Inv s' := by
  have hp : ∀ b v, phys s' b v = phys s b v := fun b v => by simp [phys, hu']
  have hqm : ∀ b v, phys s b v ≠ some q := fun b v h => hq ((hI.used_iff q).2 (Or.inl ⟨b, v, h⟩))
  constructor
  · intro b c vb vc x h1 h2
    rw [hp] at h1 h2
    exact hI.inj b c vb vc x h1 h2
  · intro x
    rw [hused, hres, hI.used_iff]
    simp only [hp, or_left_comm]
  · intro x b v hx h
    rw [hres] at hx; rw [hp] at h
    rcases hx with hx | hx
    · subst hx; exact hqm b v h
    · exact hI.disj x b v hx h
  · intro b hb
    rw [hreg]; rw [hu'] at hb
    exact hI.reg b hb

theorem physU_replicate (n v : Nat) : physU (some (List.replicate n none)) v = none := by
  simp only [physU]
  rcases Nat.lt_or_ge v n with h | h
  · simp [h]
  · simp [Nat.not_lt.2 h]

/-- registration of a fresh application (no virtual qubit mapped) -/
theorem inv_initApp {s s' : State} {a n : Nat} (hI : Inv s) (ha : a ∉ s.registry)
    (hu' : unitOf s' = upd (unitOf s) a (some (List.replicate n none)))
    (hused : s'.used = s.used) (hres : s'.reserved = s.reserved)
    (hreg : ∀ b, b ∈ s'.registry ↔ b = a ∨ b ∈ s.registry) : Inv s' := by
  have hnone : unitOf s a = none := by
    rcases h : unitOf s a with _ | u
    · rfl
    · exact absurd (hI.reg a (by simp [h])) ha
  have hpa : ∀ v, phys s a v = none := fun v => by simp [phys, hnone, physU]
  have hp : ∀ b v, phys s' b v = phys s b v := fun b v => by
    rw [phys_upd hu', physU_replicate]
    split
    · subst_vars; rw [hpa]
    · rfl
  constructor
  · intro b c vb vc x h1 h2
    rw [hp] at h1 h2
    exact hI.inj b c vb vc x h1 h2
  · intro x
    rw [hused, hres, hI.used_iff]
    simp [hp]
  · intro x b v hx h
    rw [hres] at hx; rw [hp] at h
    exact hI.disj x b v hx h
  · intro b hb
    rw [hreg]
    by_cases e : b = a
    · exact Or.inl e
    · right
      apply hI.reg
      rw [hu'] at hb
      simpa [upd, e] using hb

theorem mem_mapped {u : List (Option Nat)} {x : Nat} : x ∈ mapped u ↔ ∃ v : Nat, u[v]?.join = some x := by
  unfold mapped
  rw [List.mem_filterMap]
  constructor
  · rintro ⟨o, ho, h⟩
    obtain ⟨v, hv, e⟩ := List.getElem_of_mem ho
    refine ⟨v, ?_⟩
    simp only [id] at h
    simp [hv, e, h]
  · rintro ⟨v, h⟩
    rcases hv : u[v]? with _ | o
    · simp [hv] at h
    · simp [hv] at h
      exact ⟨o, List.mem_of_getElem? hv, by simpa using h⟩

/-- stopping an application: its unit module disappears, its physical qubits become unused -/
theorem inv_stopApp {s s' : State} {a : Nat} {u : List (Option Nat)} (hI : Inv s)
    (hu : unitOf s a = some u) (hu' : unitOf s' = upd (unitOf s) a none)
    (hused : ∀ x, x ∈ s'.used ↔ x ∈ s.used ∧ x ∉ mapped u)
    (hres : s'.reserved = s.reserved) (hreg : ∀ b, b ∈ s'.registry ↔ b ∈ s.registry ∧ b ≠ a) : Inv s' := by
  have hpa := phys_of_unit hu
  have hp : ∀ b v, phys s' b v = if b = a then none else phys s b v := fun b v => by
    rw [phys_upd hu']; rfl
  have hinj := hI.inj
  constructor
  · intro b c vb vc x h1 h2
    rw [hp] at h1 h2
    split at h1
    · cases h1
    · split at h2
      · cases h2
      · exact hinj b c vb vc x h1 h2
  · intro x
    rw [hused, hres, hI.used_iff, mem_mapped]
    constructor
    · rintro ⟨(⟨b, v, h⟩ | h), hne⟩
      · refine Or.inl ⟨b, v, ?_⟩
        rw [hp]
        split
        · subst_vars; rw [hpa] at h; exact absurd ⟨v, h⟩ hne
        · exact h
      · exact Or.inr h
    · rintro (⟨b, v, h⟩ | h)
      · rw [hp] at h
        split at h
        · cases h
        · rename_i hne
          refine ⟨Or.inl ⟨b, v, h⟩, ?_⟩
          rintro ⟨w, hw⟩
          rw [← hpa] at hw
          exact hne (hinj b a v w x h hw).1
      · refine ⟨Or.inr h, ?_⟩
        rintro ⟨w, hw⟩
        rw [← hpa] at hw
        exact hI.disj x a w h hw
  · intro x b v hx h
    rw [hres] at hx
    rw [hp] at h
    split at h
    · cases h
    · exact hI.disj x b v hx h
  · intro b hb
    rw [hreg]
    rw [hu'] at hb
    unfold upd at hb
    split at hb
    · exact absurd rfl hb
    · rename_i hne
      exact ⟨hI.reg b hb, hne⟩

end NQ.Exec
