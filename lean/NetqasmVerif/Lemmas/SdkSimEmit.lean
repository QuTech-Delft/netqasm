/-
Compiler correctness of the SDK builder model (C05), part 4: `emit_sim` — the commands `emit` produces
for an operation, placed anywhere in a subroutine, take the controller from a state related to the
`HostSem` state to a state related to the `HostSem` result (`Sim`). Induction over the successful runs
of `emit` (`emit_induct`): the leaves are the lemmas of `SdkSimLeaf`, a construct with bodies composes the
runs of its bodies (`Sim.run`) with its own commands.
-/
import NetqasmVerif.Lemmas.SdkSimLoop
namespace NQ.Sdk

def ExtL (l L : List Nat) : Prop := ∀ (a n : Nat), l[a]? = some n → L[a]? = some n

theorem ExtL.of_append {a t L : List Nat} (h : ExtL (a ++ t) L) : ExtL a L :=
  fun k v x => h k v (prefix_get x)

theorem prot_set_self {a mu : List Bool} {i : Nat} (h : a.getD i true = false) : Prot (a.set i true) mu (R i) :=
  Or.inl ⟨rfl, getD_set_self (getD_true_false_lt h) _ _⟩

/-- a register just taken is bound to the next handle (loop index, `new_register()`) -/
theorem Rel.bindTaken {m m1 m2 : Mem} {rg : Option Nat} {i : Nat} {b : Bool} {t : List (Reg × Bool)}
    {H : List (Reg × Bool)} {L MH : List Nat} {hs : HSt} {ts : St}
    (hrel : Rel H L MH m.active m.measUsed hs ts) (h1 : takeAt m rg = .ok (m1, i))
    (ht : m2.handles = (bindHandle m1 (R i) b).handles ++ t) (hext : Ext m2.handles H) (v : Int) :
    H[m.handles.length]? = some (R i, b) ∧
      Rel H L MH (m.active.set i true) m.measUsed (hs.setH m.handles.length v) (ts.setReg (R i) v) := by
  have s1 := takeAt_spec h1
  have hH : H[m.handles.length]? = some (R i, b) := hext _ _ (by
    rw [ht, ← s1.2.2.handles]
    show ((m1.handles ++ [(R i, b)]) ++ t)[m1.handles.length]? = _
    rw [List.append_assoc, List.getElem?_append_right (Nat.le_refl _)]; simp)
  exact ⟨hH, hrel.bind hH (tmpIn_of_takeAt h1).not_prot (prot_set_self s1.1) (fun x hx => hx.mono (Sub.set _ _))
    v (fun _ h => h) (by intro hb; simp [R] at hb)⟩

/-- the claim of `emit_sim` for one successful run `emit m op = .ok (m', cs)` -/
def Sim (m : Mem) (op : Host) (m' : Mem) (cs : List PCmd) : Prop :=
  BodyOK op → ∀ (fuel : Nat) (H : List (Reg × Bool)) (L MH : List Nat) (p : List PCmd) (n : Nat)
    (hs hs' : HSt) (ts : St),
    Ext m'.handles H → ExtL m'.arrLens L → Placed p n cs →
    Rel H L MH m.active m.measUsed hs ts →
    hsem fuel m.handles.length m.arrLens.length op hs = some hs' →
    ∃ ts', Runs p n cs.length ts ts' ∧ Rel H L MH m.active m.measUsed hs' ts'

/-- `Sim` at a memory manager described by its register flags and table sizes -/
theorem Sim.run {m m' : Mem} {op : Host} {cs : List PCmd} (ih : Sim m op m' cs) (hb : BodyOK op)
    {act mu : List Bool} {nh na : Nat}
    (ha : m.active = act) (hm : m.measUsed = mu) (hnh : m.handles.length = nh) (hna : m.arrLens.length = na)
    {H : List (Reg × Bool)} {L MH : List Nat} {p : List PCmd} {n fuel : Nat} {hs hs' : HSt} {ts : St}
    (hext : Ext m'.handles H) (hextL : ExtL m'.arrLens L) (hpl : Placed p n cs)
    (hrel : Rel H L MH act mu hs ts) (hh : hsem fuel nh na op hs = some hs') :
    ∃ ts', Runs p n cs.length ts ts' ∧ Rel H L MH act mu hs' ts' := by
  subst ha hm hnh hna
  exact ih hb fuel H L MH p n hs hs' ts hext hextL hpl hrel hh

theorem hsem_fuel {fuel nh na : Nat} {op : Host} {s s' : HSt} (h : hsem fuel nh na op s = some s') :
    ∃ f, fuel = f + 1 := by
  cases fuel with
  | zero => simp [hsem] at h
  | succ f => exact ⟨f, rfl⟩

theorem Stat.emits_cases {m m' : Mem} {op : Host} {cs : List PCmd} (st : Stat m m' op cs) :
    (emits op = false ∧ cs = []) ∨ (emits op = true ∧ cs ≠ []) := by
  cases hem : emits op with
  | false => exact Or.inl ⟨rfl, st.empty.mpr hem⟩
  | true => exact Or.inr ⟨rfl, fun e => by rw [st.empty.mp e] at hem; cases hem⟩

/-- `loop`, `loop_body`, `foreach`: a register is taken and bound to the handle of the loop index, the
body is built, `_build_cmds_loop` wraps it, the register is released and the handle dies -/
theorem loopShape_sim {body : Host} (hb : BodyOK body)
    {m m1 m2 m4 : Mem} {i f : Nat} {b : Bool} {bc : List PCmd} {start stop stp : Int} {rg : Option Nat}
    (h1 : takeAt m rg = .ok (m1, i)) (h2 : emit (bindHandle m1 (R i) b) body = .ok (m2, bc))
    (ih : Sim (bindHandle m1 (R i) b) body m2 bc)
    (h4 : release (buildLoop m2 start stop stp (R i) bc).1 i = .ok m4)
    {H : List (Reg × Bool)} {L MH : List Nat} {p : List PCmd} {n : Nat} {hs hs' : HSt} {ts : St}
    (hext : Ext m4.handles H) (hextL : ExtL m4.arrLens L)
    (hpl : Placed p n (buildLoop m2 start stop stp (R i) bc).2)
    (hrel : Rel H L MH m.active m.measUsed hs ts)
    (hh : (if !emits body then some hs else
      clearOpt m.handles.length (iterLoop (hsem f (m.handles.length + 1) m.arrLens.length body)
        m.handles.length stop stp f (hs.setH m.handles.length start))) = some hs') :
    ∃ ts', Runs p n (buildLoop m2 start stop stp (R i) bc).2.length ts ts' ∧
      Rel H L MH m.active m.measUsed hs' ts' := by
  have st2 := emit_stat _ _ _ _ h2
  rcases st2.emits_cases with ⟨hem, rfl⟩ | ⟨hem, hbc⟩
  · simp only [hem, Bool.not_false, ↓reduceIte] at hh
    cases hh
    exact ⟨ts, Runs.refl _ _ _, hrel⟩
  simp only [hem, Bool.not_true, Bool.false_eq_true, ↓reduceIte] at hh
  cases hit : iterLoop (hsem f (m.handles.length + 1) m.arrLens.length body) m.handles.length stop stp f
      (hs.setH m.handles.length start) with
  | none => rw [hit] at hh; cases hh
  | some hs1 =>
    rw [hit] at hh
    cases hh
    have s1 := takeAt_spec h1
    have sm1 := takeAt_same h1
    have s42 : SameButL m2 m4 := (buildLoop_sameL _ _ _ _ _ _).trans (release_same h4).toL
    rw [buildLoop_shape _ _ _ _ _ _ hbc] at hpl ⊢
    obtain ⟨Lp, hplB⟩ := loopAt_of_placed hpl
    obtain ⟨t, ht, _⟩ := st2.handles
    obtain ⟨hH, hrel0⟩ := hrel.bindTaken h1 ht (s42.handles ▸ hext) start
    obtain ⟨ts', hst, hrel', vend, hvend⟩ := loop_sim Lp (Rel H L MH (m.active.set i true) m.measUsed) m.handles.length
      (hsem f (m.handles.length + 1) m.arrLens.length body)
      (fun a b v hr hv => (hr.reg_val hv hH).1)
      (fun a b a1 hr hb' => ih.run hb s1.2.1 sm1.meas (by simp [bindHandle, s1.2.2.handles])
        (congrArg List.length s1.2.2.lens) (s42.handles ▸ hext) (s42.lens ▸ hextL) hplB hr hb')
      (fun a b x v hr hx => hr.setBoth hx hH v) f _ _ hs1 hrel0 hit
    exact ⟨ts', runs_cast (steps_loop_entry Lp.h0 Lp.h1 hst) (by simp [loopCode]), hrel'.unbind hH hvend⟩

/-- every operation allowed in a body (`BodyOK` is part of `Sim`) compiles correctly -/
theorem emit_sim (op : Host) {m m' : Mem} {cs : List PCmd} (h : emit m op = .ok (m', cs)) : Sim m op m' cs := by
  have nop : ∀ {m m' : Mem} {op : Host}, (∀ fuel nh na hs, hsem (fuel + 1) nh na op hs = some hs) → Sim m op m' [] := by
    intro m m' op hop _ fuel H L MH p n hs hs' ts _ _ _ hrel hh
    obtain ⟨f, rfl⟩ := hsem_fuel hh
    rw [hop] at hh; cases hh
    exact ⟨ts, Runs.refl _ _ _, hrel⟩
  refine emit_induct (P := Sim) ?skip ?seq ?newArray ?newReg ?qop ?addF ?addR ?ifc ?loop ?untilNil ?untilBody
    ?tryUntil ?epr op h
  case skip => exact fun m => nop fun _ _ _ _ => rfl
  case seq =>
    intro m m1 m2 a b ca cb h1 h2 iha ihb
    intro hb fuel H L MH p n hs hs' ts hext hextL hpl hrel hh
    obtain ⟨f, rfl⟩ := hsem_fuel hh
    dsimp only [hsem] at hh
    split at hh
    · rename_i hs1 hh1
      have sa := emit_stat _ _ _ _ h1
      obtain ⟨t, ht, htl⟩ := sa.handles
      obtain ⟨u, hu, hul⟩ := sa.lens
      obtain ⟨t2, ht2, _⟩ := (emit_stat _ _ _ _ h2).handles
      obtain ⟨u2, hu2, _⟩ := (emit_stat _ _ _ _ h2).lens
      obtain ⟨ts1, hr1, hrel1⟩ := iha hb.1 f H L MH p n hs hs1 ts
        (by rw [ht2] at hext; exact hext.of_append) (by rw [hu2] at hextL; exact hextL.of_append)
        hpl.left hrel hh1
      obtain ⟨ts2, hr2, hrel2⟩ := ihb.run hb.2 (emit_active a _ _ _ hb.1.completed h1) (sa.body hb.1).1
        (by rw [ht, List.length_append, htl]) (by rw [hu, List.length_append, hul])
        hext hextL hpl.right hrel1 hh
      exact ⟨ts2, runs_append hr1 hr2, hrel2⟩
    · cases hh
  case newArray => exact fun m len init n _ _ => nop fun _ _ _ _ => rfl
  case newReg => exact fun _ _ hb => hb.elim
  case qop =>
    intro m m' g t cs h hb fuel H L MH p n hs hs' ts hext _ hpl hrel hh
    obtain ⟨f, rfl⟩ := hsem_fuel hh
    obtain ⟨tt, htt, _⟩ := (emitQop_spec h).stat.1.handles
    exact qop_sim h hb (by rw [htt] at hext; exact hext.of_append) hrel hpl hh
  case addF =>
    intro m m' fu o md cs h _ fuel H L MH p n hs hs' ts hext _ hpl hrel hh
    obtain ⟨f, rfl⟩ := hsem_fuel hh
    exact addF_sim h ((emitAddF_spec h).same.handles ▸ hext) hrel hpl hh
  case addR =>
    intro m m' hnd o md cs h _ fuel H L MH p n hs hs' ts hext _ hpl hrel hh
    obtain ⟨f, rfl⟩ := hsem_fuel hh
    obtain ⟨_, _, s⟩ := emitAddR_spec h
    exact addR_sim h (s.same.handles ▸ hext) hrel hpl hh
  case ifc =>
    -- operand loads and the negated branch (`branch_sim`), then the body or the jump past it
    intro m m1 m' cb c a b body bc cs h1 ih h
    intro hb fuel H L MH p n hs hs' ts hext hextL hpl hrel hh
    obtain ⟨f, rfl⟩ := hsem_fuel hh
    have a1 := emit_active body _ _ _ (BodyOK.completed (op := body) hb) h1
    have sl := buildCondition_sameL h
    dsimp only [hsem] at hh
    rcases (emit_stat _ _ _ _ h1).emits_cases with ⟨hem, rfl⟩ | ⟨hem, hbc⟩
    · -- a body without run-time operations: the SDK drops the `if`
      simp only [hem, Bool.not_false, ↓reduceIte] at hh
      cases hh; cases h
      exact ⟨ts, Runs.refl _ _ _, hrel⟩
    simp only [hem, Bool.not_true, Bool.false_eq_true, ↓reduceIte] at hh
    rcases buildCondition_eq_ok h with ⟨e, _⟩ | ⟨_, st, l, hbr, rfl⟩
    · exact absurd e hbc
    have hextB : Ext m1.handles H := sl.handles ▸ hext
    have finish : ∀ (va vb : Int), evalVal hs a = some va → (c.unary = false → evalVal hs b = some vb) →
        (if condB c va vb then hsem f m.handles.length m.arrLens.length body hs else some hs) = some hs' →
        ∃ ts', Runs p n (st ++ bc ++ [PCmd.label l]).length ts ts' ∧ Rel H L MH m.active m.measUsed hs' ts' := by
      intro va vb hva hvb hres
      obtain ⟨ts1, ld, oa, ob, rfl, hte, hrunL, hoa, hob⟩ := branch_sim hbr hextB hrel (by rw [a1]; exact Sub.refl _)
        (by rw [a1]) hpl.left.left hva hvb
      rw [a1] at hte
      -- behind the loads the code is the `if` shape of `SdkSem`
      have hend : n + (ld ++ [PCmd.instr (negBranch c) (branchOps c oa ob l)] ++ bc).length + 0
          = n + ld.length + 1 + bc.length := by simp; omega
      have I : IfAt p (n + ld.length) bc.length c oa ob l :=
        ⟨hpl.left.left.right.head, hpl.right.get (k := 0) rfl hend, hpl.right.lab (k := 0) rfl hend⟩
      have hlen : ld.length + (bc.length + 2)
          = (ld ++ [PCmd.instr (negBranch c) (branchOps c oa ob l)] ++ bc ++ [PCmd.label l]).length := by
        simp only [List.length_append, List.length_cons, List.length_nil]; omega
      by_cases hc : condB c va vb = true
      · rw [if_pos hc] at hres
        obtain ⟨ts2, hr2, hrel2⟩ := ih hb f H L MH p (n + ld.length + 1) hs hs' ts1 hextB
          (sl.lens ▸ hextL) (hpl.left.right.at (by simp; omega)) (hrel.tmp hte) hres
        exact ⟨ts2, runs_cast (runs_seq hrunL (if_runs I ts1 ts2 va vb hoa hob ((condB_iff c va vb).mp hc) hr2)) hlen,
          hrel2⟩
      · rw [if_neg hc] at hres
        cases hres
        exact ⟨ts1, runs_cast (runs_seq hrunL (if_skips I ts1 va vb hoa hob (fun h => hc ((condB_iff c va vb).mpr h))))
          hlen, hrel.tmp hte⟩
    split at hh
    · cases hh
    rename_i va hva
    by_cases hu : c.unary = true
    · rw [if_pos hu] at hh
      exact finish va 0 hva (fun hc => by rw [hu] at hc; cases hc) hh
    · rw [if_neg hu] at hh
      split at hh
      · cases hh
      · rename_i vb hvb
        exact finish va vb hva (fun _ => hvb) hh
  case loop =>
    -- `hsem` has the shape `loopShape_sim` expects; for `foreach` the run-time length of the array is the static one
    intro m op rg b s e d body hop m1 i m2 bc m4 h1 h2 ih h4
    intro hb fuel H L MH p n hs hs' ts hext hextL hpl hrel hh
    obtain ⟨f, rfl⟩ := hsem_fuel hh
    cases hop with
    | loop => exact loopShape_sim (body := body) hb h1 h2 ih h4 hext hextL hpl hrel hh
    | loopBody => exact loopShape_sim (body := body) hb h1 h2 ih h4 hext hextL hpl hrel hh
    | @foreach arr wi _ alen halen =>
      refine loopShape_sim (body := body) (f := f) hb h1 h2 ih h4 hext hextL hpl hrel ?_
      dsimp only [hsem] at hh
      by_cases hem : (!emits body) = true
      · rw [if_pos hem] at hh ⊢; exact hh
      rw [if_neg hem] at hh ⊢
      split at hh
      · cases hh
      rename_i l hl
      obtain ⟨u, hu, _⟩ := (emit_stat _ _ _ _ h2).lens
      have hL : L[arr]? = some alen := hextL _ _ (by
        rw [(release_same h4).lens, (buildLoop_sameL _ _ _ _ _ _).lens, hu]
        show (m1.arrLens ++ u)[arr]? = some alen
        rw [(takeAt_spec h1).2.2.lens]
        unfold arrLen at halen
        split at halen
        · rename_i nn hnn; cases halen; exact prefix_get hnn
        · cases halen)
      obtain ⟨l', hl', hlen⟩ := hrel.lens arr alen hL
      rw [hl] at hl'; cases hl'
      rw [hlen] at hh
      exact hh
  case untilNil =>
    intro m m1 i m2 m3 N body ef ev cl h1 h2 _ h3 hb fuel H L MH p n hs hs' ts _ _ _ hrel hh
    obtain ⟨f, rfl⟩ := hsem_fuel hh
    dsimp only [hsem] at hh
    rw [(emit_stat _ _ _ _ h2).empty.mp rfl] at hh
    cases hh
    exact ⟨ts, Runs.refl _ _ _, hrel⟩
  case untilBody =>
    -- like a counted loop, with the exit test (`condOperand_sim` for its operand) and the cleanup code between
    -- body and increment
    intro m m1 i m2 bc m5 brk m6 clc m7 N body ef ev cl h1 h2 hbc ihb h5 h6 ihc h7
    intro hb fuel H L MH p n hs hs' ts hext hextL hpl hrel hh
    obtain ⟨f, rfl⟩ := hsem_fuel hh
    have s1 := takeReg_spec h1
    have sm1 := takeReg_same h1
    have st2 := emit_stat _ _ _ _ h2
    dsimp only [hsem] at hh
    rcases st2.emits_cases with ⟨_, e⟩ | ⟨hem, _⟩
    · exact absurd e hbc
    simp only [hem, Bool.not_true, Bool.false_eq_true, ↓reduceIte] at hh
    obtain ⟨m4', ld, o, tt, hco, _, rfl⟩ := breakCmds_eq_ok h5
    cases hit : iterUntil (hsem f (m.handles.length + 1) m.arrLens.length body)
        (hsem f (m.handles.length + 1 + hCount body) (m.arrLens.length + aCount body) cl) ef ev
        m.handles.length N f (hs.setH m.handles.length 0) with
    | none => rw [hit] at hh; cases hh
    | some hs1 =>
      rw [hit] at hh
      cases hh
      have k5 := breakCmds_spec (by decide : 4 < 5) h5
      have sm5 := k5.same
      have a2 : m2.active = m.active.set i true := by
        rw [emit_active body _ _ _ (BodyOK.completed hb.1) h2]; exact s1.2.1
      have mu2 : m2.measUsed = m.measUsed := by rw [(st2.body hb.1).1]; exact sm1.meas
      obtain ⟨t2, ht2, htl2⟩ := st2.handles
      obtain ⟨u2, hu2, hul2⟩ := st2.lens
      obtain ⟨t6, ht6, _⟩ := (emit_stat _ _ _ _ h6).handles
      obtain ⟨u6, hu6, _⟩ := (emit_stat _ _ _ _ h6).lens
      have hext6 : Ext m6.handles H := (release_same h7).handles ▸ hext
      have hextL6 : ExtL m6.arrLens L := (release_same h7).lens ▸ hextL
      have hext2 : Ext m2.handles H := by rw [ht6, sm5.handles] at hext6; exact hext6.of_append
      have hextL2 : ExtL m2.arrLens L := by rw [hu6, sm5.lens] at hextL6; exact hextL6.of_append
      obtain ⟨U, plB, plK, plC⟩ := untilAt_of_placed hpl
      obtain ⟨hH, hrel0⟩ := hrel.bindTaken (rg := none) h1 ht2 hext2 0
      -- the memory manager in front of the exit test (`m2` with two more labels) and in front of the cleanup (`m5`)
      have a4 : (newLabel (newLabel m2 3).1 4).1.active = m.active.set i true := a2
      have e5h : m5.handles.length = m.handles.length + 1 + hCount body := by
        rw [sm5.handles]; show m2.handles.length = _
        rw [ht2]; simp [bindHandle, sm1.handles, htl2]; omega
      have e5l : m5.arrLens.length = m.arrLens.length + aCount body := by
        rw [sm5.lens]; show m2.arrLens.length = _
        rw [hu2]; simp [bindHandle, sm1.lens, hul2]
      have hbrk : ∀ a b v, Rel H L MH (m.active.set i true) m.measUsed a b → evalVal a ef = some v →
          ∃ ts1, Runs p (n + 3 + bc.length) ld.length b ts1 ∧ Rel H L MH (m.active.set i true) m.measUsed a ts1 ∧
            opVal ts1 o = some v := by
        intro a b v hr hv
        obtain ⟨ts1, hte, hrun, hop⟩ := condOperand_sim hco hext2 hr (by rw [a4]; exact Sub.refl _)
          (by rw [a4]) plK hv
        rw [a4] at hte
        exact ⟨ts1, hrun, hr.tmp hte, hop ts1 (TmpEq.refl _ _)⟩
      obtain ⟨ts', hst, hrel', vend, hvend⟩ := until_sim U (Rel H L MH (m.active.set i true) m.measUsed) m.handles.length
        (hsem f (m.handles.length + 1) m.arrLens.length body)
        (hsem f (m.handles.length + 1 + hCount body) (m.arrLens.length + aCount body) cl) ef
        (fun a b v hr hv => (hr.reg_val hv hH).1)
        (fun a b a1 hr hb' => ihb.run hb.1 s1.2.1 sm1.meas (by simp [bindHandle, sm1.handles])
          (congrArg List.length sm1.lens) hext2 hextL2 plB hr hb')
        hbrk
        (fun a b a1 hr hc => ihc.run hb.2 ((k5.took : m5.active = _).trans a2) (sm5.meas.trans mu2) e5h e5l
          hext6 hextL6 plC hr hc)
        (fun a b x v hr hx => hr.setBoth hx hH v) f _ _ hs1 hrel0 hit
      exact ⟨ts', runs_cast (steps_loop_entry U.h0 U.h1 hst) (by simp [loopUntilEntry, loopUntilExit]; omega),
        hrel'.unbind hH hvend⟩
  case tryUntil =>
    intro m m' N body cs h ih hb fuel H L MH p n hs hs' ts hext hextL hpl hrel hh
    obtain ⟨f, rfl⟩ := hsem_fuel hh
    exact ih hb f H L MH p n hs hs' ts hext hextL hpl hrel hh
  case epr => exact fun _ hb => hb.elim

end NQ.Sdk
