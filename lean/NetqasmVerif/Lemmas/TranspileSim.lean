/-
The simulation: one step of the vanilla subroutine is matched by the steps of the serialised NV
subroutine through the corresponding chunk; the relation is preserved.
-/
import NetqasmVerif.Lemmas.TranspileSem
namespace NQ.Tr
open NQ

/-- the registers `get_unused_register` hands out at some two-qubit gate of `S` (all in the Q bank) -/
def ScratchSet (cfg : Cfg) (S : List Instr) (r : Reg) : Prop :=
  ∃ p x, S[p]? = some x ∧ isGate2 cfg x = true ∧ getUnused ((S.take (p + 1)).flatMap topRegs) = .ok r

/-- the simulation relation at vanilla position `pc`: same memory (arrays, quantum state, …),
same registers except Q registers the pass borrows as scratch somewhere in the program, and every Q
register the program can read here (inside a window) — borrowed or not — holds the window's value in
both machines -/
structure Rel {μ : Type} (cfg : Cfg) (S : List Instr) (pc : Nat) (s u : St μ) : Prop where
  mem : s.mem = u.mem
  outside : ∀ r, (r.bank ≠ bankQ ∨ ¬ ScratchSet cfg S r) → s.regs r = u.regs r
  known : ∀ r v, K cfg S pc r = some v → s.regs r = some v ∧ u.regs r = some v

theorem Rel.init {μ : Type} (cfg : Cfg) (S : List Instr) (s : St μ) : Rel cfg S 0 s s :=
  ⟨rfl, fun _ _ => rfl, fun r v h => by rw [K_zero] at h; cases h⟩

theorem topRegs_sub_regsOf (x : Instr) : ∀ r ∈ topRegs x, r ∈ regsOf x := by
  intro r hr
  unfold topRegs at hr
  obtain ⟨o, ho, hro⟩ := List.mem_filterMap.1 hr
  unfold regsOf
  refine List.mem_flatMap.2 ⟨o, ho, ?_⟩
  cases o <;> simp [opReg?] at hro
  subst hro; simp [regsOfOperand]

theorem not_scratchSet_of_not_mem {cfg : Cfg} {S : List Instr} {r : Reg} (h : r ∉ scratchRegs cfg S) :
    ¬ ScratchSet cfg S r := by
  intro ⟨p, x, hx, hg2, hg⟩
  apply h
  unfold scratchRegs
  have hp : p < S.length := (List.getElem?_eq_some_iff.1 hx).1
  exact List.mem_filterMap.2 ⟨p, List.mem_range.2 hp, by simp [hx, hg2, hg]⟩

theorem regs_agree {μ : Type} {cfg : Cfg} {S : List Instr} {pc : Nat} {s u : St μ} {x : Instr}
    (hR : Rel cfg S pc s u) (hQ : QStatic cfg S = true) (hx : S[pc]? = some x)
    (hs : setOf cfg x = none) : ∀ r ∈ regsOf x, s.regs r = u.regs r := by
  intro r hr
  by_cases hb : r.bank = bankQ
  · rcases (qstatic_at hQ hx hs).1 r hr hb with ⟨v, hv⟩ | ⟨_, hnm⟩
    · have := hR.known r v hv
      rw [this.1, this.2]
    · exact hR.outside r (Or.inr (not_scratchSet_of_not_mem hnm))
  · exact hR.outside r (Or.inl hb)

theorem gate_operand_known {cfg : Cfg} {S : List Instr} {pc : Nat} {x : Instr}
    (hQ : QStatic cfg S = true) (hx : S[pc]? = some x) (hs : setOf cfg x = none)
    (hg : isGate cfg x = true) {r : Reg} (hr : r ∈ regsOf x) (hb : r.bank = bankQ) :
    ∃ v, K cfg S pc r = some v ∧ (rvAfter cfg [] (S.take pc)).lookup r = some v := by
  rcases (qstatic_at hQ hx hs).1 r hr hb with ⟨v, hv⟩ | ⟨hng, _⟩
  · have hl := win_lookup hb _ v hv
    rw [List.reverse_reverse] at hl
    exact ⟨v, hv, hl⟩
  · rw [hg] at hng; cases hng

theorem win_mem_used {cfg : Cfg} {tg : List Int} {r : Reg} : ∀ (pre : List Instr) (v : Int),
    win cfg tg r pre = some v → ∃ x ∈ pre, r ∈ topRegs x := by
  intro pre
  induction pre with
  | nil => intro v h; cases h
  | cons x pre ih =>
    intro v h
    rcases (win_cons_some h).2 with hs | ⟨h', _, _⟩
    · obtain ⟨_, _, _, hops⟩ := setOf_some hs
      exact ⟨x, List.mem_cons_self, by simp [topRegs, hops, opReg?]⟩
    · obtain ⟨y, hy, hr⟩ := ih v h'
      exact ⟨y, List.mem_cons_of_mem _ hy, hr⟩

/-- **scratch_ok (syntactic core)**: a register that is inside a window at `pc` was named by an
instruction before `pc`, hence is never the register `get_unused_register` hands out at or after -/
theorem K_mem_used {cfg : Cfg} {S : List Instr} {pc : Nat} {r : Reg} {v : Int}
    (h : K cfg S pc r = some v) : r ∈ (S.take pc).flatMap topRegs := by
  obtain ⟨x, hx, hr⟩ := win_mem_used _ v h
  exact List.mem_flatMap.2 ⟨x, by simpa using hx, hr⟩

structure Ctx {μ : Type} (M : Sem μ) (cfg : Cfg) (S out : List Instr) (cs : List (List Instr)) : Prop where
  hT : TemplatesNoBranch cfg = true
  hW : InfosWF cfg = true
  hpad : isDebug cfg.pad = false
  hL : SemLocal M cfg
  hE : ExpandSound M cfg
  hQ : QStatic cfg S = true
  hc : Chunks cfg [] [] S cs
  hout : out = cs.flatten.map (patchOf cfg S cs) ++ (if endTargeted cfg S cs then [cfg.pad] else [])
  hok : ∀ x ∈ cs.flatten, ∀ t, lineOf cfg x = some t →
    0 ≤ t ∧ t.toNat ≤ S.length ∧ patchOf cfg S cs x = setLine cfg x (tposS cs t.toNat)

theorem Ctx.single {μ : Type} {M : Sem μ} {cfg : Cfg} {S out : List Instr} {cs : List (List Instr)}
    (C : Ctx M cfg S out cs) {pc : Nat} {x : Instr} (hx : S[pc]? = some x) (hng : isGate cfg x = false) :
    x ∈ cs.flatten ∧ (serialise out)[tposS cs pc]? = some (patchOf cfg S cs x) ∧
      tposS cs (pc + 1) = tposS cs pc + 1 := by
  obtain ⟨hp, hch, hnd⟩ := C.hc.nongate_at C.hW hx hng
  refine ⟨List.mem_flatten.2 ⟨cs[pc], List.getElem_mem hp, by rw [hch]; exact List.mem_singleton.2 rfl⟩,
    ?_, by rw [tposS_succ cs pc hp, hch]; simp [slen, serialise, hnd]⟩
  obtain ⟨pre, post, h1, h2⟩ := code_at (cfg := cfg) (S := S) C.hpad pc hp
  rw [C.hout, h1, hch]
  have : isDebug (patchOf cfg S cs x) = false := by
    unfold patchOf isDebug; rw [patchOne_cls]; exact hnd
  simp [serialise, this, ← h2]

theorem Ctx.branch {μ : Type} {M : Sem μ} {cfg : Cfg} {S out : List Instr} {cs : List (List Instr)}
    (C : Ctx M cfg S out cs) {pc : Nat} {x : Instr} {t : Int} {s u : St μ} (hx : S[pc]? = some x)
    (hl : lineOf cfg x = some t) (hR : Rel cfg S pc s u) :
    ∃ y, (serialise out)[tposS cs pc]? = some y ∧ lineOf cfg y = some (tposS cs t.toNat : Int) ∧
      M.cond y u = M.cond x s ∧ t.toNat ≤ S.length ∧ tposS cs (pc + 1) = tposS cs pc + 1 ∧
      setOf cfg x = none := by
  obtain ⟨hmem, hnv, hpos⟩ := C.single hx (not_gate_of_line C.hW hl)
  obtain ⟨_, hle, hpatch⟩ := C.hok x hmem t hl
  have hs := setOf_none_of_line C.hW hl
  refine ⟨_, hpatch ▸ hnv, lineOf_setLine hl _, ?_, hle, hpos, hs⟩
  rw [C.hL.condLine, ← C.hL.condLoc x s u hR.mem (regs_agree hR C.hQ hx hs)]

/-- One step of the vanilla subroutine from states related at `pc` is matched by steps of the serialised
NV subroutine from `index_changes[pc]` to `index_changes[pc']` (through the whole expansion, for a gate),
and the states are related again at `pc'`. -/
theorem sim_step {μ : Type} {M : Sem μ} {cfg : Cfg} {S out : List Instr} {cs : List (List Instr)}
    (C : Ctx M cfg S out cs) {pc pc' : Nat} {s s' u : St μ}
    (hstep : Step M cfg S (pc, s) (pc', s')) (hR : Rel cfg S pc s u) :
    ∃ u', Steps M cfg (serialise out) (tposS cs pc, u) (tposS cs pc', u') ∧ Rel cfg S pc' s' u' := by
  have hlen := C.hc.length_eq
  cases hstep with
  | exec hx hl he =>
    rename_i x
    obtain ⟨hp, hxe⟩ := List.getElem?_eq_some_iff.1 hx
    have hp' : pc < cs.length := by omega
    cases hg : isGate cfg x with
    | true =>
      obtain ⟨hsn, hwn⟩ := setOf_none_of_gate C.hW hg
      obtain ⟨info, hi, _, hex⟩ := C.hc.at pc hp
      rw [hxe] at hi hex
      have hgi : infoGate info = true := by rw [← isGate_eq hi]; exact hg
      have hnl : ∀ y ∈ cs[pc], lineOf cfg y = none := expandInstr_gate_noLine C.hT hgi hex
      have hagree := regs_agree hR C.hQ hx hsn
      have hrv : rvAfter cfg [] (S.take (pc + 1)) = rvAfter cfg [] (S.take pc) := by
        rw [take_succ_of_get hx, rvAfter_snoc, qsetOf, hsn]; rfl
      have hknow : ∀ r ∈ topRegs x, ∀ v, (rvAfter cfg [] (S.take (pc + 1))).lookup r = some v →
          s.regs r = some v := by
        intro r hr v hv
        rw [hrv] at hv
        by_cases hb : r.bank = bankQ
        · obtain ⟨v', hv', hl⟩ := gate_operand_known C.hQ hx hsn hg (topRegs_sub_regsOf x r hr) hb
          cases hv.symm.trans hl
          exact (hR.known r v hv').1
        · exact absurd (rvAfter_lookup_bank hv) hb
      have hall : info.gate2 = true →
          (∀ r ∈ topRegs x, ((rvAfter cfg [] (S.take (pc + 1))).lookup r).isSome = true) ∨
          (info.tag = "mov" ∧ ∃ r0 rest, x.ops = .reg r0 :: rest ∧ s.regs r0 = some 0) := by
        intro h2
        rw [hrv]
        rcases (qstatic_at C.hQ hx hsn).2 (by simp [isGate2, hi, h2]) with hallQ | ⟨ht, r0, rest, hops, hk⟩
        · left
          intro r hr
          obtain ⟨v', _, hl⟩ := gate_operand_known C.hQ hx hsn hg (topRegs_sub_regsOf x r hr) (hallQ r hr)
          rw [hl]; rfl
        · exact .inr ⟨by simpa [isMovTag, hi] using ht, r0, rest, hops, (hR.known r0 0 hk).1⟩
      have hused : ∀ r ∈ topRegs x, r ∈ ([] : List Reg) ++ (S.take (pc + 1)).flatMap topRegs :=
        fun r hr => List.mem_flatMap.2 ⟨x, by rw [take_succ_of_get hx]; simp, hr⟩
      obtain ⟨u', hrun, hmem, hregs⟩ := C.hE x info _ _ _ s u s' hi hgi hex hused hknow hall hR.mem
        (fun r hr => hagree r (topRegs_sub_regsOf x r hr)) he
      obtain ⟨pre, post, h1, h2⟩ := code_at (cfg := cfg) (S := S) C.hpad pc hp'
      have hid : cs[pc].map (patchOf cfg S cs) = cs[pc] := by
        have : ∀ y ∈ cs[pc], patchOf cfg S cs y = id y := fun y hy => patchOne_noLine (hnl y hy)
        rw [List.map_congr_left this, List.map_id]
      rw [hid] at h1
      have hser_nl : ∀ y ∈ serialise cs[pc], lineOf cfg y = none := by
        intro y hy
        exact hnl y (List.mem_filter.1 hy).1
      have hsteps := steps_of_straight (cfg := cfg) (serialise cs[pc]) pre post u u' hser_nl hrun
      rw [← h1, ← C.hout, h2] at hsteps
      have hpos : tposS cs pc + (serialise cs[pc]).length = tposS cs (pc + 1) := by
        rw [tposS_succ cs pc hp']; rfl
      rw [hpos] at hsteps
      -- a gate writes no register; its expansion writes at most the borrowed one
      have hfr : ∀ r, s'.regs r = s.regs r := fun r => C.hL.frame x s s' r he (by rw [hwn]; simp)
      refine ⟨u', hsteps, ⟨hmem, ?_, ?_⟩⟩
      · intro r hb
        rw [hfr r, hregs r ?_]
        · exact hR.outside r hb
        intro hg2' s0 hs0 heq
        rcases hb with hb | hb
        · exact hb (heq ▸ (getUnused_fresh hs0).2)
        · exact hb ⟨pc, x, hx, by simp [isGate2, hi, hg2'], by simpa [heq] using hs0⟩
      · intro r v hk
        rcases K_succ_some hx hk with h | ⟨hk, _, _⟩
        · rw [hsn] at h; cases h
        rw [hfr r, hregs r ?_]
        · exact hR.known r v hk
        -- inside a window, so named before the gate, so not what `get_unused_register` returns
        intro _ s0 hs0 heq
        apply (getUnused_fresh hs0).1
        rw [← heq, take_succ_of_get hx]
        simp only [List.nil_append, List.flatMap_append, List.mem_append]
        exact Or.inl (K_mem_used hk)
    | false =>
      obtain ⟨_, hnv, hpos⟩ := C.single hx hg
      rw [show patchOf cfg S cs x = x from patchOne_noLine hl] at hnv
      rw [hpos]
      cases hs : setOf cfg x with
      | some q =>
        obtain ⟨r0, v0⟩ := q
        obtain ⟨s1, hs1, hm1, hr1⟩ := C.hL.setSem x r0 v0 s hs
        obtain ⟨u1, hu1, hmu1, hru1⟩ := C.hL.setSem x r0 v0 u hs
        rw [he] at hs1
        simp only [Option.some.injEq] at hs1
        subst hs1
        refine ⟨u1, Steps.step (Step.exec hnv hl hu1) (Steps.refl _), ⟨?_, ?_, ?_⟩⟩
        · rw [hm1, hmu1]; exact hR.mem
        · intro r hb
          rw [hr1 r, hru1 r]
          split
          · rfl
          · exact hR.outside r hb
        · intro r v hk
          rw [hr1 r, hru1 r]
          rcases K_succ_some hx hk with h | ⟨hk, hne, _⟩
          · rw [hs] at h
            cases h
            simp
          · have : ¬ r = r0 := fun e => hne v0 (e ▸ hs)
            rw [if_neg this, if_neg this]
            exact hR.known r v hk
      | none =>
        have hagree := regs_agree hR C.hQ hx hs
        obtain ⟨u1, hu1, hmem1, hw1⟩ := C.hL.loc x s u s' hR.mem hagree he
        refine ⟨u1, Steps.step (Step.exec hnv hl hu1) (Steps.refl _), ⟨hmem1, ?_, ?_⟩⟩
        · intro r hb
          by_cases hw : r ∈ writesOf cfg x
          · exact hw1 r hw
          · rw [C.hL.frame x s s' r he hw, C.hL.frame x u u1 r hu1 hw]; exact hR.outside r hb
        · intro r v hk
          rcases K_succ_some hx hk with h | ⟨hk, _, hw⟩
          · rw [hs] at h; cases h
          · rw [C.hL.frame x s s' r he (hw hs), C.hL.frame x u u1 r hu1 (hw hs)]
            exact hR.known r v hk
  | taken hx hl hcnd h0 =>
    obtain ⟨y, hy, hly, hc, hle, _, _⟩ := C.branch hx hl hR
    have hstep := Step.taken (M := M) hy hly (hc.trans hcnd) (by omega)
    rw [Int.toNat_natCast] at hstep
    refine ⟨u, Steps.step hstep (Steps.refl _), ⟨hR.mem, hR.outside, fun r v hk => ?_⟩⟩
    rw [K_target (List.mem_filterMap.2 ⟨_, List.mem_of_getElem? hx, hl⟩) h0 hle] at hk
    cases hk
  | skip hx hl hcnd =>
    obtain ⟨y, hy, hly, hc, _, hpos, hs⟩ := C.branch hx hl hR
    rw [hpos]
    refine ⟨u, Steps.step (Step.skip hy hly (hc.trans hcnd)) (Steps.refl _),
      ⟨hR.mem, hR.outside, fun r v hk => ?_⟩⟩
    rcases K_succ_some hx hk with h | ⟨hk, _, _⟩
    · rw [hs] at h; cases h
    · exact hR.known r v hk

theorem sim_steps {μ : Type} {M : Sem μ} {cfg : Cfg} {S out : List Instr} {cs : List (List Instr)}
    (C : Ctx M cfg S out cs) : ∀ {a b : Nat × St μ}, Steps M cfg S a b → ∀ u, Rel cfg S a.1 a.2 u →
    ∃ u', Steps M cfg (serialise out) (tposS cs a.1, u) (tposS cs b.1, u') ∧ Rel cfg S b.1 b.2 u' := by
  intro a b h
  induction h with
  | refl a => intro u hR; exact ⟨u, Steps.refl _, hR⟩
  | step hs _ ih =>
    rename_i a b c
    intro u hR
    obtain ⟨pc, s⟩ := a
    obtain ⟨pc', s'⟩ := b
    obtain ⟨u1, h1, hR1⟩ := sim_step C hs hR
    obtain ⟨u2, h2, hR2⟩ := ih u1 hR1
    exact ⟨u2, h1.trans h2, hR2⟩

/-- From the index of the original end the NV subroutine runs off its own end: at once, or through the
padding `set` when a branch targeted the end, which then is the only register it changes. -/
theorem final_pad {μ : Type} {M : Sem μ} {cfg : Cfg} {S out : List Instr} {cs : List (List Instr)}
    (C : Ctx M cfg S out cs) (hpl : lineOf cfg cfg.pad = none) {rp : Reg} {vp : Int}
    (hps : setOf cfg cfg.pad = some (rp, vp)) (u : St μ) :
    ∃ u', Steps M cfg (serialise out) (tposS cs S.length, u) ((serialise out).length, u') ∧ u'.mem = u.mem ∧
      ∀ r, (endTargeted cfg S cs = false ∨ r ≠ rp) → u'.regs r = u.regs r := by
  have hlen := C.hc.length_eq
  cases he : endTargeted cfg S cs with
  | false =>
    refine ⟨u, ?_, rfl, fun _ _ => rfl⟩
    have : (serialise out).length = tposS cs S.length := by
      rw [C.hout, serialise_out_eq C.hpad, he, ← hlen, tposS_all]
      simp [slen]
    rw [this]; exact Steps.refl _
  | true =>
    obtain ⟨pre, h1, h2⟩ := pad_at (cfg := cfg) (S := S) C.hpad he
    obtain ⟨u1, hu1, hm1, hr1⟩ := C.hL.setSem cfg.pad rp vp u hps
    have hN : serialise out = pre ++ [cfg.pad] := by rw [C.hout]; exact h1
    have hget : (serialise out)[tposS cs S.length]? = some cfg.pad := by
      rw [hN, ← hlen, ← h2]; simp
    have hl : (serialise out).length = tposS cs S.length + 1 := by
      rw [hN, ← hlen, ← h2]; simp
    rw [hl]
    refine ⟨u1, Steps.step (Step.exec hget hpl hu1) (Steps.refl _), hm1, ?_⟩
    intro r hr
    rcases hr with h | h
    · cases h
    · rw [hr1 r]; simp [h]

end NQ.Tr
