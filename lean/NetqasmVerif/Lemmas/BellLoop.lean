/-
Lemmas (C10): symbolic execution of the emitted correction code.

Everything is stated for an arbitrary command list `code` in which a code
template stands at some position `o` (`Frag code o blk`): the template's
commands are found at `o, o+1, …` and its labels resolve into it. One counted
loop (`counted_loop`) carries an invariant through `set C 0; l: beq C n l';
body; add C C 1; jmp l; l':`; the inner loops of the templates and the loops
around them are instances.
-/
import NetqasmVerif.Model.BellLoop
namespace NQ.Bell

theorem upd_same (f : Nat → Int) (r : Nat) (v : Int) : upd f r v r = v := by simp [upd]
theorem upd_other (f : Nat → Int) (r : Nat) (v : Int) (x : Nat) (h : x ≠ r) : upd f r v x = f x := by
  simp [upd, h]

def Reaches (code : List Cmd) (mem : Mem) (s s' : St) : Prop := ∃ k, runN code mem k s = some s'

theorem Reaches.refl {code : List Cmd} {mem : Mem} (s : St) : Reaches code mem s s := ⟨0, rfl⟩

theorem Reaches.head {code : List Cmd} {mem : Mem} {s s1 s2 : St}
    (h : step code mem s = some s1) (r : Reaches code mem s1 s2) : Reaches code mem s s2 := by
  obtain ⟨k, hk⟩ := r
  exact ⟨k + 1, by simp [runN, h, hk]⟩

theorem runN_add {code : List Cmd} {mem : Mem} (a b : Nat) (s : St) :
    runN code mem (a + b) s = (runN code mem a s).bind (runN code mem b) := by
  induction a generalizing s with
  | zero => simp [runN]
  | succ a ih =>
    have : a + 1 + b = (a + b) + 1 := by omega
    rw [this]
    simp only [runN]
    cases step code mem s with
    | none => simp
    | some s' => simp [ih]

theorem Reaches.trans {code : List Cmd} {mem : Mem} {s s1 s2 : St}
    (r1 : Reaches code mem s s1) (r2 : Reaches code mem s1 s2) : Reaches code mem s s2 := by
  obtain ⟨a, ha⟩ := r1
  obtain ⟨b, hb⟩ := r2
  exact ⟨a + b, by rw [runN_add, ha]; simpa using hb⟩

/-- Registers and new events after a command that is no branch, as `step` computes them (`none` for
`beq`/`bne`/`jmp` and for a load outside its array). Straight-line code is reasoned about through this
function: `step_effect` is the only link to `step`. -/
def Cmd.effect (mem : Mem) (regs : Nat → Int) : Cmd → Option ((Nat → Int) × List Ev)
  | .set r v => some (upd regs r v, [])
  | .add d a b => some (upd regs d (regs a + b.val regs), [])
  | .sub d a b => some (upd regs d (a.val regs - b.val regs), [])
  | .load r arr idx =>
    match mem arr with
    | none => none
    | some xs =>
      if regs idx < 0 then none
      else match xs[(regs idx).toNat]? with
        | none => none
        | some v => some (upd regs r v, [])
  | .rot g r => some (regs, [.rot g (regs r)])
  | .mov a b => some (regs, [.mov (regs a) (regs b)])
  | .qfree r => some (regs, [.qfree (regs r)])
  | .beq .. | .bne .. | .jmp _ => none
  | _ => some (regs, [])

section steps
variable {code : List Cmd} {mem : Mem} {pc : Nat} {regs r' : Nat → Int} {tr e : List Ev} {c : Cmd}

theorem step_effect (hc : code[pc]? = some c) (he : c.effect mem regs = some (r', e)) :
    step code mem ⟨pc, regs, tr⟩ = some ⟨pc + 1, r', tr ++ e⟩ := by
  cases c <;> simp only [Cmd.effect, Option.some.injEq, Prod.mk.injEq, reduceCtorEq] at he <;>
    simp only [step, hc]
  case load r arr idx =>
    revert he
    cases mem arr with
    | none => exact fun h => nomatch h
    | some xs =>
      dsimp only
      split
      · exact fun h => nomatch h
      · cases xs[(regs idx).toNat]? with
        | none => exact fun h => nomatch h
        | some v => rintro ⟨⟩; simp
  all_goals obtain ⟨rfl, rfl⟩ := he; simp

/-- for a command without events the trace stays as it is, not `tr ++ []` -/
theorem step_silent (hc : code[pc]? = some c) (he : c.effect mem regs = some (r', [])) :
    step code mem ⟨pc, regs, tr⟩ = some ⟨pc + 1, r', tr⟩ := by rw [step_effect hc he, List.append_nil]

theorem effect_load {r idx k : Nat} {arr v : Int} {xs : List Int} (hm : mem arr = some xs)
    (hi : regs idx = (k : Int)) (hv : xs[k]? = some v) :
    (Cmd.load r arr idx).effect mem regs = some (upd regs r v, []) := by
  have h0 : ¬ ((k : Int) < 0) := by omega
  simp [Cmd.effect, hm, hi, h0, hv]

theorem step_jmp {l : String} {t : Nat} (hc : code[pc]? = some (.jmp l)) (ht : findLabel code l = some t) :
    step code mem ⟨pc, regs, tr⟩ = some ⟨t, regs, tr⟩ := by simp [step, hc, ht]

theorem step_beq_taken {a b : Opd} {l : String} {t : Nat} (hc : code[pc]? = some (.beq a b l))
    (hv : a.val regs = b.val regs) (ht : findLabel code l = some t) :
    step code mem ⟨pc, regs, tr⟩ = some ⟨t, regs, tr⟩ := by simp [step, hc, hv, ht]

theorem step_beq_not {a b : Opd} {l : String} (hc : code[pc]? = some (.beq a b l))
    (hv : a.val regs ≠ b.val regs) :
    step code mem ⟨pc, regs, tr⟩ = some ⟨pc + 1, regs, tr⟩ := by simp [step, hc, hv]

theorem step_bne_taken {a b : Opd} {l : String} {t : Nat} (hc : code[pc]? = some (.bne a b l))
    (hv : a.val regs ≠ b.val regs) (ht : findLabel code l = some t) :
    step code mem ⟨pc, regs, tr⟩ = some ⟨t, regs, tr⟩ := by simp [step, hc, hv, ht]

theorem step_bne_not {a b : Opd} {l : String} (hc : code[pc]? = some (.bne a b l))
    (hv : a.val regs = b.val regs) :
    step code mem ⟨pc, regs, tr⟩ = some ⟨pc + 1, regs, tr⟩ := by simp [step, hc, hv]

end steps

def labelsOf (cs : List Cmd) : List String :=
  cs.filterMap fun | .label l => some l | _ => none

theorem labelsOf_append (A B : List Cmd) : labelsOf (A ++ B) = labelsOf A ++ labelsOf B :=
  List.filterMap_append

theorem mem_labelsOf {cs : List Cmd} {l : String} : l ∈ labelsOf cs ↔ Cmd.label l ∈ cs := by
  simp only [labelsOf, List.mem_filterMap]
  constructor
  · rintro ⟨c, hc, h⟩
    cases c <;> simp at h
    exact h ▸ hc
  · exact fun h => ⟨_, h, rfl⟩

theorem findLabelFrom_append {A : List Cmd} {l : String} (h : l ∉ labelsOf A) (B : List Cmd) (k : Nat) :
    findLabelFrom (A ++ B) l k = findLabelFrom B l (k + A.length) := by
  induction A generalizing k with
  | nil => rfl
  | cons c A ih =>
    have hA : l ∉ labelsOf A := fun e => h (by
      rw [mem_labelsOf] at e ⊢; exact List.mem_cons_of_mem _ e)
    have hc : c ≠ .label l := fun e => h (by rw [mem_labelsOf, e]; exact List.mem_cons_self)
    have : findLabelFrom (c :: (A ++ B)) l k = findLabelFrom (A ++ B) l (k + 1) := by
      cases c <;> simp only [findLabelFrom]
      exact if_neg fun e => hc (by rw [e])
    rw [List.cons_append, this, ih hA, List.length_cons, Nat.add_right_comm, Nat.add_assoc]

theorem findLabel_first {A : List Cmd} {l : String} (h : l ∉ labelsOf A) (B : List Cmd) :
    findLabel (A ++ .label l :: B) l = some A.length := by
  rw [findLabel, findLabelFrom_append h, findLabelFrom, if_pos rfl, Nat.zero_add]

/-- `blk` stands at position `o` of `code`; the labels it defines are pairwise different and none of
them is defined before `o`, so that (first definition wins) its branches stay inside it whatever
follows. For a concrete template `h.get (j := 3) rfl` is its fourth command at `o + 3` and
`h.label (j := 2) rfl` says that the label defined by its third command resolves to `o + 2`. -/
def Frag (code : List Cmd) (o : Nat) (blk : List Cmd) : Prop :=
  ∃ pre rest, code = pre ++ (blk ++ rest) ∧ pre.length = o ∧ (labelsOf blk).Nodup ∧
    ∀ l ∈ labelsOf blk, l ∉ labelsOf pre

section frag
variable {code blk A B C : List Cmd} {o j : Nat}

theorem Frag.intro (pre rest : List Cmd) (hn : (labelsOf blk).Nodup)
    (hf : ∀ l ∈ labelsOf blk, l ∉ labelsOf pre) : Frag (pre ++ (blk ++ rest)) pre.length blk :=
  ⟨pre, rest, rfl, rfl, hn, hf⟩

theorem Frag.of_nodup {pre : List Cmd} (rest : List Cmd) (h : (labelsOf (pre ++ blk)).Nodup) :
    Frag (pre ++ (blk ++ rest)) pre.length blk := by
  obtain ⟨-, hn, hd⟩ := List.nodup_append.mp (labelsOf_append .. ▸ h)
  exact .intro pre rest hn fun l hl hp => hd l hp l hl rfl

theorem Frag.whole (he : code = blk) (hn : (labelsOf code).Nodup) : Frag code 0 blk :=
  ⟨[], [], by rw [he, List.append_nil, List.nil_append], rfl, he ▸ hn, fun _ _ h => nomatch h⟩

theorem Frag.nodup (h : Frag code o blk) : (labelsOf blk).Nodup :=
  let ⟨_, _, _, _, hn, _⟩ := h; hn

theorem getElem?_in_place {pre blk rest : List Cmd} {j : Nat} {c : Cmd} (hj : blk[j]? = some c) :
    (pre ++ (blk ++ rest))[pre.length + j]? = some c := by
  obtain ⟨hlt, -⟩ := List.getElem?_eq_some_iff.mp hj
  rw [List.getElem?_append_right (Nat.le_add_right ..), Nat.add_sub_cancel_left,
    List.getElem?_append_left hlt, hj]

theorem Frag.get {c : Cmd} (h : Frag code o blk) (hj : blk[j]? = some c) : code[o + j]? = some c := by
  obtain ⟨pre, rest, rfl, rfl, -⟩ := h
  exact getElem?_in_place hj

theorem Frag.label {l : String} (h : Frag code o blk) (hj : blk[j]? = some (.label l)) :
    findLabel code l = some (o + j) := by
  obtain ⟨pre, rest, rfl, rfl, hn, hf⟩ := h
  obtain ⟨hlt, he⟩ := List.getElem?_eq_some_iff.mp hj
  obtain ⟨A, B, rfl, rfl⟩ : ∃ A B, blk = A ++ .label l :: B ∧ A.length = j :=
    ⟨blk.take j, blk.drop (j + 1), by rw [← he, List.getElem_cons_drop, List.take_append_drop],
      List.length_take_of_le (Nat.le_of_lt hlt)⟩
  rw [labelsOf_append] at hn hf
  have hl : l ∈ labelsOf (.label l :: B) := mem_labelsOf.mpr List.mem_cons_self
  have hfirst : l ∉ labelsOf (pre ++ A) := by
    rw [labelsOf_append, List.mem_append]
    rintro (hp | ht)
    · exact hf l (List.mem_append_right _ hl) hp
    · exact (List.nodup_append.mp hn).2.2 l ht l hl rfl
  have := findLabel_first hfirst (B ++ rest)
  rwa [List.length_append, List.append_assoc, ← List.cons_append, ← List.append_assoc A] at this

theorem Frag.sub (h : Frag code o (A ++ (B ++ C))) : Frag code (o + A.length) B := by
  obtain ⟨pre, rest, rfl, rfl, hn, hf⟩ := h
  simp only [labelsOf_append] at hn hf
  obtain ⟨-, hBC, hd⟩ := List.nodup_append.mp hn
  refine ⟨pre ++ A, C ++ rest, by simp only [List.append_assoc], List.length_append, (List.nodup_append.mp hBC).1, ?_⟩
  intro l hl
  rw [labelsOf_append, List.mem_append]
  rintro (hp | ha)
  · exact hf l (List.mem_append_right _ (List.mem_append_left _ hl)) hp
  · exact hd l ha l (List.mem_append_left _ hl) rfl

theorem Frag.left (h : Frag code o (B ++ C)) : Frag code o B := Frag.sub (A := []) h

theorem Frag.right (h : Frag code o (A ++ B)) : Frag code (o + A.length) B :=
  Frag.sub (C := []) (by rwa [List.append_nil])

end frag

section counted
variable {code : List Cmd} {mem : Mem} {h y z C n : Nat} {bound : Opd} {l3 l4 : String}
  (c0 : code[h]? = some (.set C 0)) (c1 : code[h + 1]? = some (.label l3))
  (c2 : code[h + 2]? = some (.beq (.r C) bound l4))
  (cy : code[y]? = some (.add C C (.imm 1))) (cj : code[y + 1]? = some (.jmp l3))
  (cz : code[z]? = some (.label l4))
  (t3 : findLabel code l3 = some (h + 1)) (t4 : findLabel code l4 = some z)
  (P : Nat → (Nat → Int) → List Ev → Prop)
  (hb : ∀ i regs tr, P i regs tr → bound.val regs = (n : Int))
  (body : ∀ i, i < n → ∀ (regs : Nat → Int) (tr : List Ev), regs C = (i : Int) → P i regs tr →
    ∃ regs' tr', Reaches code mem ⟨h + 2 + 1, regs, tr⟩ ⟨y, regs', tr'⟩ ∧ regs' C = (i : Int) ∧
      P (i + 1) (upd regs' C ((i + 1 : Nat) : Int)) tr')
include c1 c2 cy cj cz t3 t4 hb body

/-- `set C 0; l3: beq C bound l4; BODY; add C C 1; jmp l3; l4:` with an invariant `P i regs tr`
(iteration number, registers, trace) that fixes the value `n` of `bound`, where BODY, entered with
`C = i < n` and `P i`, arrives at the `add` with `C = i` and establishes `P (i + 1)` for the
incremented counter. Entered at the `beq` with `C = i`, `P i` and `d` iterations still to run, the
loop arrives behind its exit label with `P n`. -/
theorem counted_loop_from : ∀ (d i : Nat), i + d = n → ∀ (regs : Nat → Int) (tr : List Ev),
    regs C = (i : Int) → P i regs tr →
    ∃ regs' tr', Reaches code mem ⟨h + 2, regs, tr⟩ ⟨z + 1, regs', tr'⟩ ∧ P n regs' tr' := by
  intro d
  induction d with
  | zero =>
    intro i hi regs tr hC hP
    obtain rfl : i = n := hi
    have hv : (Opd.r C).val regs = bound.val regs := by rw [hb i regs tr hP]; exact hC
    exact ⟨regs, tr, .head (step_beq_taken c2 hv t4) (.head (step_silent cz rfl) (.refl _)), hP⟩
  | succ d ih =>
    intro i hi regs tr hC hP
    have hv : (Opd.r C).val regs ≠ bound.val regs := by
      rw [hb i regs tr hP]; simp only [Opd.val, hC]; omega
    obtain ⟨r1, tr1, hr1, hC1, hP1⟩ := body i (by omega) regs tr hC hP
    obtain ⟨r2, tr2, hr2, hP2⟩ := ih (i + 1) (by omega) _ tr1 (upd_same ..) hP1
    have e : r1 C + (Opd.imm 1).val r1 = ((i + 1 : Nat) : Int) := by rw [hC1]; rfl
    refine ⟨r2, tr2, .head (step_beq_not c2 hv) (.trans hr1 (.head (step_silent cy rfl) ?_)), hP2⟩
    rw [e]
    exact .head (step_jmp cj t3) (.head (step_silent c1 rfl) hr2)

include c0

/-- the whole loop, from its `set C 0`: from `P 0` to `P n` behind the exit label -/
theorem counted_loop (regs : Nat → Int) (tr : List Ev) (h0 : P 0 (upd regs C 0) tr) :
    ∃ regs' tr', Reaches code mem ⟨h, regs, tr⟩ ⟨z + 1, regs', tr'⟩ ∧ P n regs' tr' := by
  obtain ⟨r, tr', hr, hP⟩ := counted_loop_from c1 c2 cy cj cz t3 t4 P hb body n 0 (Nat.zero_add n)
    (upd regs C 0) tr (upd_same ..) h0
  exact ⟨r, tr', .head (step_silent c0 rfl) (.head (step_silent c1 rfl) hr), hP⟩

end counted

/-- events of the iterations `i, i+1, …, i+d−1`, each related to its iteration number by `R` -/
inductive IterEvents (R : Nat → List Ev → Prop) : Nat → Nat → List Ev → Prop
  | nil (i : Nat) : IterEvents R i 0 []
  | cons {i d : Nat} {e rest : List Ev} : R i e → IterEvents R (i + 1) d rest → IterEvents R i (d + 1) (e ++ rest)

theorem IterEvents.snoc {R : Nat → List Ev → Prop} {i d : Nat} {all e : List Ev}
    (h : IterEvents R i d all) (he : R (i + d) e) : IterEvents R i (d + 1) (all ++ e) := by
  induction h with
  | nil i => simpa using IterEvents.cons he (.nil (i + 1))
  | @cons i d _ _ hR _ ih =>
    have e' : i + 1 + d = i + (d + 1) := by omega
    rw [List.append_assoc]
    exact .cons hR (ih (e' ▸ he))

/-- `set L 0; l3: beq L n l4; BODY; add L L 1; jmp l3; l4:` where BODY, entered with `L = i < n`,
arrives at the `add` with `L = i` again and events related to `i` by `R`: the loop performs the
iterations 0 … n−1 in order and ends behind its exit label. -/
theorem loop_skeleton {code : List Cmd} {mem : Mem} {h y z L n : Nat} {l3 l4 : String}
    (c0 : code[h]? = some (.set L 0)) (c1 : code[h + 1]? = some (.label l3))
    (c2 : code[h + 2]? = some (.beq (.r L) (.imm n) l4))
    (cy : code[y]? = some (.add L L (.imm 1))) (cj : code[y + 1]? = some (.jmp l3))
    (cz : code[z]? = some (.label l4))
    (t3 : findLabel code l3 = some (h + 1)) (t4 : findLabel code l4 = some z)
    (R : Nat → List Ev → Prop)
    (body : ∀ i, i < n → ∀ (regs : Nat → Int) (tr : List Ev), regs L = (i : Int) →
      ∃ regs' evs, Reaches code mem ⟨h + 2 + 1, regs, tr⟩ ⟨y, regs', tr ++ evs⟩ ∧ regs' L = (i : Int) ∧ R i evs)
    (regs : Nat → Int) (tr : List Ev) :
    ∃ regs' all, Reaches code mem ⟨h, regs, tr⟩ ⟨z + 1, regs', tr ++ all⟩ ∧ IterEvents R 0 n all := by
  obtain ⟨r, _, hr, all, rfl, hI⟩ := counted_loop (mem := mem) c0 c1 c2 cy cj cz t3 t4
    (fun i _ t => ∃ all, t = tr ++ all ∧ IterEvents R 0 i all) (fun _ _ _ _ => rfl)
    (fun i hi regs t hL ⟨all, ht, hI⟩ => by
      obtain ⟨r', evs, hr, hL', hR⟩ := body i hi regs t hL
      exact ⟨r', _, hr, hL', all ++ evs, by rw [ht, List.append_assoc],
        hI.snoc (by rwa [Nat.zero_add])⟩)
    regs tr ⟨[], (List.append_nil _).symm, .nil 0⟩
  exact ⟨r, all, hr, hI⟩

/-- `_get_raw_bell_state`: afterwards the Bell register holds `res[idxBell + len·i]`, where `i` is the value of
the pair register; only `I`, `J` and `b` change -/
theorem rawBell_spec {code : List Cmd} {mem : Mem} {o : Nat} {ly : Layout} {b L I J : Nat}
    {l1 l2 : String} {res : Int} (h : Frag code o (rawBellCode ly b L I J l1 l2 res))
    (hIJ : I ≠ J) (hIL : I ≠ L) (hJL : J ≠ L)
    {i k : Nat} {xs : List Int} {v : Int} {regs : Nat → Int} (tr : List Ev)
    (hL : regs L = (i : Int)) (hm : mem res = some xs)
    (hk : ly.idxBell + ly.len * (i : Int) = (k : Int)) (hv : xs[k]? = some v) :
    ∃ regs', Reaches code mem ⟨o, regs, tr⟩ ⟨o + 9, regs', tr⟩ ∧ regs' b = v ∧
      (∀ x, x ≠ I → x ≠ J → x ≠ b → regs' x = regs x) := by
  -- invariant at the `beq` with `J = j`: `I = idxBell + len·j`, and nothing else has changed
  let P (j : Nat) (r : Nat → Int) (t : List Ev) : Prop :=
    t = tr ∧ r I = ly.idxBell + ly.len * (j : Int) ∧ ∀ x, x ≠ I → x ≠ J → r x = regs x
  have body : ∀ j, j < i → ∀ (r : Nat → Int) (t : List Ev), r J = (j : Int) → P j r t →
      ∃ r' t', Reaches code mem ⟨o + 1 + 2 + 1, r, t⟩ ⟨o + 5, r', t'⟩ ∧ r' J = (j : Int) ∧
        P (j + 1) (upd r' J ((j + 1 : Nat) : Int)) t' := by
    intro j _ r t hJ ⟨ht, hI, hfr⟩
    refine ⟨_, t, .head (step_silent (h.get (j := 4) rfl) rfl) (.refl _), ?_, ht, ?_, fun x hxI hxJ => ?_⟩
    · rw [upd_other _ _ _ _ (Ne.symm hIJ), hJ]
    · rw [upd_other _ _ _ _ hIJ, upd_same, hI, Opd.val, Int.natCast_succ, Int.mul_add, Int.mul_one,
        Int.add_assoc]
    · rw [upd_other _ _ _ _ hxJ, upd_other _ _ _ _ hxI, hfr x hxI hxJ]
  obtain ⟨r, _, hr, rfl, hI, hfr⟩ := counted_loop (mem := mem) (h.get (j := 1) rfl) (h.get (j := 2) rfl)
    (h.get (j := 3) rfl) (h.get (j := 5) rfl) (h.get (j := 6) rfl) (h.get (j := 7) rfl)
    (h.label (j := 2) rfl) (h.label (j := 7) rfl) P
    (fun _ r _ hP => (hP.2.2 L (Ne.symm hIL) (Ne.symm hJL)).trans hL) body (upd regs I ly.idxBell) tr
    ⟨rfl, by rw [upd_other _ _ _ _ hIJ, upd_same, Int.natCast_zero, Int.mul_zero, Int.add_zero],
      fun x hxI hxJ => by rw [upd_other _ _ _ _ hxJ, upd_other _ _ _ _ hxI]⟩
  exact ⟨upd r b v, .head (step_silent (h.get (j := 0) rfl) rfl)
      (.trans hr (.head (step_silent (h.get (j := 8) rfl) (effect_load hm (hI.trans hk) hv)) (.refl _))),
    upd_same .., fun x hxI hxJ hxb => by rw [upd_other _ _ _ _ hxb, hfr x hxI hxJ]⟩

/-- an `if_eq` block with one rotation -/
theorem ifBlock1 {code : List Cmd} {mem : Mem} {p : Nat} {b q : Nat} {v : Int} {g : Gate} {x : String}
    (c0 : code[p]? = some (.bne (.r b) (.imm v) x)) (c1 : code[p + 1]? = some (.rot g q))
    (c2 : code[p + 2]? = some (.label x)) (t : findLabel code x = some (p + 2))
    (regs : Nat → Int) (tr : List Ev) :
    Reaches code mem ⟨p, regs, tr⟩
      ⟨p + 3, regs, tr ++ (if regs b = v then [g] else []).map (fun g => Ev.rot g (regs q))⟩ := by
  by_cases hv : regs b = v
  · rw [if_pos hv]
    exact .head (step_bne_not c0 hv) (.head (step_effect c1 rfl) (.head (step_silent c2 rfl) (.refl _)))
  · rw [if_neg hv, List.map_nil, List.append_nil]
    exact .head (step_bne_taken c0 hv t) (.head (step_silent c2 rfl) (.refl _))

/-- an `if_eq` block with two rotations -/
theorem ifBlock2 {code : List Cmd} {mem : Mem} {p : Nat} {b q : Nat} {v : Int} {g g' : Gate} {x : String}
    (c0 : code[p]? = some (.bne (.r b) (.imm v) x)) (c1 : code[p + 1]? = some (.rot g q))
    (c2 : code[p + 2]? = some (.rot g' q))
    (c3 : code[p + 3]? = some (.label x)) (t : findLabel code x = some (p + 3))
    (regs : Nat → Int) (tr : List Ev) :
    Reaches code mem ⟨p, regs, tr⟩
      ⟨p + 4, regs, tr ++ (if regs b = v then [g, g'] else []).map (fun g => Ev.rot g (regs q))⟩ := by
  by_cases hv : regs b = v
  · rw [if_pos hv, List.map_cons, List.append_cons]
    exact .head (step_bne_not c0 hv) (.head (step_effect c1 rfl) (.head (step_effect c2 rfl)
      (.head (step_silent c3 rfl) (.refl _))))
  · rw [if_neg hv, List.map_nil, List.append_nil]
    exact .head (step_bne_taken c0 hv t) (.head (step_silent c3 rfl) (.refl _))

/-- the single-pair block stands at position `o` of `code`, field by field: its ten commands and where
its three labels resolve to. It is what `single_spec` and `C10.single_pair_block` assume;
`Frag.singleAt` provides it wherever the template `singlePairCode` stands as a fragment. -/
structure SingleAt (code : List Cmd) (o : Nat) (sp : SinglePair) (b q : Nat) (x1 x2 x3 : String) : Prop where
  c0 : code[o]? = some (.bne (.r b) (.imm sp.v1) x1)
  c1 : code[o + 1]? = some (.rot sp.g1 q)
  c2 : code[o + 2]? = some (.label x1)
  c3 : code[o + 3]? = some (.bne (.r b) (.imm sp.v2) x2)
  c4 : code[o + 4]? = some (.rot sp.g2 q)
  c5 : code[o + 5]? = some (.label x2)
  c6 : code[o + 6]? = some (.bne (.r b) (.imm sp.v3) x3)
  c7 : code[o + 7]? = some (.rot sp.g3a q)
  c8 : code[o + 8]? = some (.rot sp.g3b q)
  c9 : code[o + 9]? = some (.label x3)
  t1 : findLabel code x1 = some (o + 2)
  t2 : findLabel code x2 = some (o + 5)
  t3 : findLabel code x3 = some (o + 9)

theorem Frag.singleAt {code : List Cmd} {o : Nat} {sp : SinglePair} {b q : Nat} {x1 x2 x3 : String}
    (h : Frag code o (singlePairCode sp b q x1 x2 x3)) : SingleAt code o sp b q x1 x2 x3 :=
  ⟨h.get (j := 0) rfl, h.get (j := 1) rfl, h.get (j := 2) rfl, h.get (j := 3) rfl, h.get (j := 4) rfl,
    h.get (j := 5) rfl, h.get (j := 6) rfl, h.get (j := 7) rfl, h.get (j := 8) rfl, h.get (j := 9) rfl,
    h.label (j := 2) rfl, h.label (j := 5) rfl, h.label (j := 9) rfl⟩

/-- `_build_cmds_epr_keep_corrections_single_pair`: the block applies exactly the rotations selected by the Bell
value to the qubit whose id is in the qubit register, and changes no register -/
theorem single_spec {code : List Cmd} {mem : Mem} {o : Nat} {sp : SinglePair} {b q : Nat}
    {x1 x2 x3 : String} (h : SingleAt code o sp b q x1 x2 x3) (regs : Nat → Int) (tr : List Ev) :
    Reaches code mem ⟨o, regs, tr⟩ ⟨o + 10, regs, tr ++ corrEvents sp (regs b) (regs q)⟩ := by
  have := (ifBlock1 (mem := mem) h.c0 h.c1 h.c2 h.t1 regs tr).trans
    ((ifBlock1 (p := o + 3) h.c3 h.c4 h.c5 h.t2 regs _).trans (ifBlock2 (p := o + 6) h.c6 h.c7 h.c8 h.c9 h.t3 regs _))
  rw [corrEvents, SinglePair.gates, List.map_append, List.map_append, ← List.append_assoc, ← List.append_assoc]
  exact this

end NQ.Bell
