/-
`Bridge.QSafe` for the subroutines of the builder model.

The chain theorem of `Props/C05Chain.lean` assumes, per flush, that the executor passes every quantum /
allocation instruction (`Bridge.QSafe`): ProtoExec has no unit module.  For the one-qubit vocabulary
of the builder model this is provable: the quantum instructions come in closed straight-line blocks
(`Sdk.QClosed`, derived from the builder in `Lemmas/SdkEmitted.lean`)

    set Q0 0; qalloc Q0; init Q0; (set Q0 0; gate Q0)*; set Q0 0; meas Q0 M; qfree Q0

so, if the virtual qubit 0 is free (and the unit module non-empty) when the subroutine starts, then at
every reachable state of the source-level executor machine (`Asm.step (qMachine a) (tr sub)`)
* `Q0` holds 0 at every quantum instruction, * the virtual qubit 0 is free at `qalloc` and allocated
(with its physical qubit marked used) at `qfree` (`qsafe_of_closed`), and it is free again when the
subroutine ends (`unit_free_after`).
The proof is an abstract interpretation: `Sdk.qscan` of the prefix before the program counter describes
the state of the unit module (`QInv`), jumps only land behind labels, where the qubit is free.
-/
import NetqasmVerif.Lemmas.SdkEmitted
namespace NQ.Bridge
open NQ NQ.Asm

/-- virtual qubit 0 is free (`al = false`) / allocated to a physical qubit marked used (`al = true`) -/
structure UnitOK (m : XMem) (al : Bool) : Prop where
  len : 1 ≤ m.unit.length
  free : al = false → m.unit[0]?.join = none
  held : al = true → ∃ ph, m.unit[0]?.join = some ph ∧ ph ∈ m.used

theorem UnitOK.congr {m m' : XMem} {al : Bool} (h : UnitOK m al) (hu : m'.unit = m.unit) (hs : m'.used = m.used) :
    UnitOK m' al :=
  ⟨by rw [hu]; exact h.len, by rw [hu]; exact h.free, by rw [hu, hs]; exact h.held⟩

def Quiet (m : XMem) (r : Res XMem) : Prop :=
  ∀ out m' j, r = .ok out m' j → m'.unit = m.unit ∧ m'.used = m.used

theorem quiet_fault (m : XMem) (f : Exec.Fault) : Quiet m (xf f) := by
  intro o m' j e; cases e

theorem quiet_ok (m m' : XMem) (o : Option Int) (b : Bool) (hu : m'.unit = m.unit) (hs : m'.used = m.used) :
    Quiet m (.ok o m' b) := by
  intro o' m'' j e; cases e; exact ⟨hu, hs⟩

theorem quiet_ite {m : XMem} {c : Prop} [Decidable c] {x y : Res XMem} (hx : Quiet m x) (hy : Quiet m y) :
    Quiet m (if c then x else y) := by
  split <;> assumption

/-- Only `qalloc` and `qfree` touch the unit module and the used set.  The mnemonic is a variable:
`qExec` and `xExec` are chains `if mn = … then (match vals with | shape => helper | _ => fault) else …`,
peeled arm by arm (no name is compared); every helper ends in a fault or in `m` with other fields updated. -/
theorem quiet_qExec (a : Nat) {mn : String} (h1 : mn ≠ "qalloc") (h2 : mn ≠ "qfree") (vals : List Val) (m : XMem) :
    Quiet m ((qMachine a).exec mn vals m) := by
  show Quiet m (qExec a mn vals m)
  unfold qExec xExec qMeas qGate xLoad xStore xUndef xArray xArith xArithm xRetReg xRetArr xBrCmp
  rw [if_neg h1, if_neg h2]
  repeat' apply quiet_ite
  all_goals repeat' split
  all_goals first | exact quiet_fault _ _ | exact quiet_ok _ _ _ _ rfl rfl

/-- a result that does not raise the jump flag -/
def NoJump (r : Res XMem) : Prop := ∀ out m' j, r = .ok out m' j → j = false

theorem noJump_fault (f : Exec.Fault) : NoJump (xf f) := by
  intro o m' j e; cases e

theorem noJump_ok (o : Option Int) (m : XMem) : NoJump (.ok o m false) := by
  intro o' m' j e; cases e; rfl

theorem noJump_ite {c : Prop} [Decidable c] {x y : Res XMem} (hx : NoJump x) (hy : NoJump y) :
    NoJump (if c then x else y) := by
  split <;> assumption

/-- Only the seven branch instructions raise the jump flag: with their arms out of the way (`if_neg`), the chain is
peeled as in `quiet_qExec` and every leaf is a fault or an `ok … false`. -/
theorem noJump_qExec (a : Nat) {mn : String} (h : mn ∉ ["jmp", "bez", "bnz", "beq", "bne", "blt", "bge"])
    (vals : List Val) (m : XMem) : NoJump ((qMachine a).exec mn vals m) := by
  show NoJump (qExec a mn vals m)
  simp only [List.mem_cons, List.not_mem_nil, or_false, not_or] at h
  obtain ⟨h1, h2, h3, h4, h5, h6, h7⟩ := h
  unfold qExec xExec qMeas qGate xLoad xStore xUndef xArray xArith xArithm xRetReg xRetArr xQalloc xQfree
  rw [if_neg h1, if_neg h2, if_neg h3, if_neg h4, if_neg h5, if_neg h6, if_neg h7]
  repeat' apply noJump_ite
  all_goals repeat' split
  all_goals first | exact noJump_fault _ | exact noJump_ok _ _

theorem pyIdx_zero {len : Nat} (h : 1 ≤ len) : Exec.pyIdx len 0 = some 0 := by
  have := pyIdx_nat len 0
  simpa [show 0 < len from h] using this

theorem xQalloc_free {m : XMem} (h : UnitOK m false) :
    ∃ m', xQalloc (some 0) m = .ok none m' false ∧ UnitOK m' true ∧ m'.arrays = m.arrays := by
  have hl := h.len
  have hge : ¬ ((0 : Int) ≥ (m.unit.length : Int)) := by omega
  refine ⟨{ m with unit := m.unit.set 0 (some (Exec.firstUnused m.used)),
                    used := Exec.sadd (Exec.firstUnused m.used) m.used }, ?_, ?_, rfl⟩
  · simp only [xQalloc, hge, if_false, pyIdx_zero hl, h.free rfl]
  · refine ⟨by simpa using hl, fun e => (by cases e), fun _ => ⟨Exec.firstUnused m.used, ?_, ?_⟩⟩
    · have : 0 < m.unit.length := hl
      simp [this]
    · simp only [Exec.sadd]
      split
      · assumption
      · simp

theorem xQfree_held {m : XMem} (h : UnitOK m true) :
    ∃ m', xQfree (some 0) m = .ok none m' false ∧ UnitOK m' false := by
  obtain ⟨ph, h1, h2⟩ := h.held rfl
  have hl := h.len
  refine ⟨{ m with unit := m.unit.set 0 none, used := Exec.srem ph m.used }, ?_, ?_⟩
  · simp only [xQfree, pyIdx_zero hl, h1, h2, if_true]
  · refine ⟨by simpa using hl, fun _ => ?_, fun e => (by cases e)⟩
    have : 0 < m.unit.length := hl
    simp [this]

def Q0' : Reg := cvReg Sdk.Q0

/-- the abstract scan of the commands before `n` describes the unit module and `Q0` -/
def QInv (P : List Sdk.PCmd) (t : State XMem) (n : Nat) : Prop :=
  ∃ al q0, Sdk.qscan (false, false) (P.take n) = some (al, q0) ∧ UnitOK t.mem al ∧
    (q0 = true → t.regs Q0' = some 0)

theorem scan_split {P : List Sdk.PCmd} {st0 stE : Bool × Bool} (hP : Sdk.qscan st0 P = some stE)
    {n : Nat} {c : Sdk.PCmd} (hn : P[n]? = some c) :
    ∃ st st1, Sdk.qscan st0 (P.take n) = some st ∧ Sdk.qscan st [c] = some st1 ∧
      Sdk.qscan st0 (P.take (n + 1)) = some st1 := by
  have e2 : P.take (n + 1) = P.take n ++ [c] := by rw [List.take_add_one, hn]; rfl
  rw [← List.take_append_drop (n + 1) P, Sdk.qscan_append, e2, Sdk.qscan_append] at hP
  obtain ⟨st1, h1, _⟩ := Option.bind_eq_some_iff.1 hP
  obtain ⟨st, h, h2⟩ := Option.bind_eq_some_iff.1 h1
  exact ⟨st, st1, h, h2, by rw [e2, Sdk.qscan_append, h]; exact h2⟩

theorem scan_label {al q0 : Bool} {l : Sdk.Lbl} {st1 : Bool × Bool}
    (h : Sdk.qscan (al, q0) [.label l] = some st1) : al = false ∧ st1 = (false, false) := by
  cases al <;> simp [Sdk.qscan] at h
  exact ⟨rfl, h.symm⟩

theorem scan_branch {al q0 : Bool} {mn : Sdk.Mn} {ops : List Sdk.POp} {st1 : Bool × Bool}
    (hb : Sdk.isBranch mn = true) (h : Sdk.qscan (al, q0) [.instr mn ops] = some st1) :
    al = false ∧ st1 = (false, false) := by
  cases mn with
  | jmp | bez | bnz | beq | bne | blt | bge =>
    cases al <;> simp [Sdk.qscan, Sdk.isBranch] at h
    exact ⟨rfl, h.symm⟩
  | _ => cases hb

theorem scan_plain {al q0 : Bool} {mn : Sdk.Mn} {ops : List Sdk.POp} {st1 : Bool × Bool}
    (hq : Sdk.isQ mn = false) (hb : Sdk.isBranch mn = false) (hs : mn ≠ .set)
    (h : Sdk.qscan (al, q0) [.instr mn ops] = some st1) : st1 = (al, false) := by
  cases mn with
  | load | store | array | add | addm | retReg | retArr =>
    simp [Sdk.qscan, Sdk.isBranch] at h
    exact h.symm
  | set => exact absurd rfl hs
  | qalloc | init | meas | qfree | gate _ => cases hq
  | _ => cases hb

theorem tr_label_inv {P : List Sdk.PCmd} {k : Nat} {name : String} (h : (tr P)[k]? = some (.label name)) :
    ∃ l, P[k]? = some (.label l) := by
  rw [tr_get] at h
  cases hk : P[k]? with
  | none => rw [hk] at h; cases h
  | some c =>
    cases c with
    | label l => exact ⟨l, rfl⟩
    | instr mn ops => rw [hk] at h; simp [trCmd] at h

theorem isQ_eq (mn : Sdk.Mn) : Sdk.Mn.isQ mn = Sdk.isQ mn := by cases mn <;> rfl

theorem name_ne_alloc {mn : Sdk.Mn} (h : Sdk.isQ mn = false) : mn.name ≠ "qalloc" ∧ mn.name ≠ "qfree" := by
  cases mn <;> simp [Sdk.isQ] at h <;> simp [Sdk.Mn.name]

theorem name_not_branch {mn : Sdk.Mn} (hq : Sdk.isQ mn = false) (hb : Sdk.isBranch mn = false) :
    mn.name ∉ ["jmp", "bez", "bnz", "beq", "bne", "blt", "bge"] := by
  cases mn <;> simp [Sdk.isQ] at hq <;> simp [Sdk.isBranch] at hb <;> simp [Sdk.Mn.name]

/-- the classical instructions of the builder leave the unit module alone; only branches jump -/
theorem exec_nonQ (a : Nat) (mn : Sdk.Mn) (hq : Sdk.isQ mn = false) (vals : List Val) (m : XMem) :
    Quiet m ((qMachine a).exec mn.name vals m) ∧
      (Sdk.isBranch mn = false → NoJump ((qMachine a).exec mn.name vals m)) :=
  ⟨quiet_qExec a (name_ne_alloc hq).1 (name_ne_alloc hq).2 vals m,
    fun hb => noJump_qExec a (name_not_branch hq hb) vals m⟩

theorem qinv_of_step (a : Nat) {P : List Sdk.PCmd} {t t1 : State XMem} {n : Nat}
    (hstep : step (qMachine a) (tr P) t n = .next t1 (n + 1)) (hinv : QInv P t1 (n + 1)) :
    QStepOk a P t n ∧ ∀ t' n', step (qMachine a) (tr P) t n = .next t' n' → QInv P t' n' :=
  ⟨fun _ _ _ _ => ⟨_, _, hstep⟩, fun t' n' hs => by rw [hstep] at hs; cases hs; exact hinv⟩

theorem qinv_step (a : Nat) {P : List Sdk.PCmd} {stE : Bool × Bool}
    (hP : Sdk.qscan (false, false) P = some stE) (hok : Sdk.AllOK P)
    {t : State XMem} {n : Nat} (hinv : QInv P t n) :
    QStepOk a P t n ∧ ∀ t' n', step (qMachine a) (tr P) t n = .next t' n' → QInv P t' n' := by
  obtain ⟨al, q0, hsc, hu, hq0⟩ := hinv
  cases hn : P[n]? with
  | none =>
    refine ⟨fun mn ops h => (by rw [hn] at h; cases h), fun t' n' hs => ?_⟩
    have : step (qMachine a) (tr P) t n = .halt :=
      step_halt_of_ge (by simpa [tr] using List.getElem?_eq_none_iff.1 hn)
    rw [this] at hs; cases hs
  | some c =>
    obtain ⟨st, st1, h1, h2, h3⟩ := scan_split hP hn
    rw [hsc] at h1; cases h1
    cases c with
    | label l =>
      obtain ⟨rfl, rfl⟩ := scan_label h2
      have hg : (tr P)[n]? = some (.label l.name) := by rw [tr_get, hn]; rfl
      exact qinv_of_step a (step_label hg) ⟨false, false, h3, hu, fun e => by cases e⟩
    | instr mn ops =>
      by_cases hq : Sdk.isQ mn = true
      · -- quantum / allocation instructions: the scan fixes the operands and the abstract state
        cases mn with
        | qalloc =>
          simp [Sdk.qscan] at h2
          obtain ⟨⟨⟨rfl, rfl⟩, rfl⟩, rfl⟩ := h2
          obtain ⟨m', hx, hu', _⟩ := xQalloc_free hu
          exact qinv_of_step a (step_tr_next a hn (vals := [.use (t.regs Q0')]) rfl (out := none) (m := m')
            (by rw [hq0 rfl]; exact (exec_qalloc_one a _ _).trans hx)) ⟨true, true, h3, hu', fun _ => hq0 rfl⟩
        | qfree =>
          simp [Sdk.qscan] at h2
          obtain ⟨⟨⟨rfl, rfl⟩, rfl⟩, rfl⟩ := h2
          obtain ⟨m', hx, hu'⟩ := xQfree_held hu
          exact qinv_of_step a (step_tr_next a hn (vals := [.use (t.regs Q0')]) rfl (out := none) (m := m')
            (by rw [hq0 rfl]; exact (exec_qfree_one a _ _).trans hx)) ⟨false, true, h3, hu', fun _ => hq0 rfl⟩
        | init =>
          simp [Sdk.qscan] at h2
          obtain ⟨⟨rfl, rfl⟩, rfl⟩ := h2
          exact qinv_of_step a (step_tr_next a hn (vals := [.use (t.regs Q0')]) rfl (out := none)
            (m := { t.mem with trace := t.mem.trace ++ [⟨a, "init", [0]⟩] })
            (by rw [hq0 rfl]; exact exec_q1 a (by decide) _ _)) ⟨al, true, h3, hu.congr rfl rfl, fun _ => hq0 rfl⟩
        | gate g =>
          simp [Sdk.qscan] at h2
          obtain ⟨⟨rfl, rfl⟩, rfl⟩ := h2
          exact qinv_of_step a (step_tr_next a hn (vals := [.use (t.regs Q0')]) rfl (out := none)
            (m := { t.mem with trace := t.mem.trace ++ [⟨a, (Sdk.Mn.gate g).name, [0]⟩] })
            (by rw [hq0 rfl]; exact exec_q1 a (gate_name_mem g) _ _)) ⟨al, true, h3, hu.congr rfl rfl, fun _ => hq0 rfl⟩
        | meas =>
          simp only [Sdk.qscan] at h2
          split at h2
          · rename_i q r
            simp at h2
            obtain ⟨⟨⟨rfl, rfl⟩, hb⟩, rfl⟩ := h2
            -- the outcome goes to a register of bank 3, not to `Q0`
            have hne : Q0' ≠ cvReg r := by
              intro e
              have : (2 : Nat) = r.bank := congrArg Reg.bank e
              omega
            exact qinv_of_step a (step_tr_next a hn (vals := [.use (t.regs Q0'), .dst]) rfl
              (out := some (t.mem.oracle.headD 0))
              (m := { t.mem with oracle := t.mem.oracle.tail, trace := t.mem.trace ++ [⟨a, "meas", [0]⟩] })
              (by rw [hq0 rfl]; exact exec_meas a _ _))
              ⟨al, true, h3, hu.congr rfl rfl, fun _ => by simp [writeBack, dstOf, rolesOf, trOp, upd, hne, hq0 rfl]⟩
          · cases h2
        | _ => simp [Sdk.isQ] at hq
      · -- classical instructions
        have hq' : Sdk.isQ mn = false := by simpa using hq
        refine ⟨fun mn' ops' h hq'' => (by rw [hn] at h; cases h; rw [isQ_eq, hq'] at hq''; cases hq''), fun t' n' hs => ?_⟩
        rcases step_next_inv hs with ⟨l, hl, _⟩ | ⟨mn', args, ops', hg', ⟨rs, vals, out, m, jump, hr, he, hx, rfl, hj⟩⟩
        · rw [tr_instr hn] at hl; cases hl
        · rw [tr_instr hn] at hg'
          cases hg'
          rw [roles_name] at hr; cases hr
          obtain ⟨hmu, hms⟩ := (exec_nonQ a mn hq' vals t.mem).1 out m jump hx
          by_cases hb : Sdk.isBranch mn = true
          · obtain ⟨rfl, rfl⟩ := scan_branch hb h2
            rcases hj with ⟨_, hjt⟩ | ⟨_, rfl⟩
            · -- a taken branch lands behind a label, where the qubit is free
              unfold jumpTarget at hjt
              split at hjt
              · rename_i name htg
                simp only [Option.map_eq_some_iff] at hjt
                obtain ⟨k, hk, rfl⟩ := hjt
                obtain ⟨l', hl'⟩ := tr_label_inv (labelIdx_spec hk)
                obtain ⟨st, st1, g1, g2, g3⟩ := scan_split hP hl'
                obtain ⟨_, rfl⟩ := scan_label g2
                exact ⟨false, false, g3, hu.congr hmu hms, fun e => by cases e⟩
              · rename_i v htg
                exact absurd htg (Sdk.labelTargets_of_allOK a hok _ _ _ _ v (List.mem_of_getElem? (tr_instr hn))
                  (roles_name a mn))
              · cases hjt
            · exact ⟨false, false, h3, hu.congr hmu hms, fun e => by cases e⟩
          · have hb' : Sdk.isBranch mn = false := by simpa using hb
            rcases hj with ⟨_, hjt⟩ | ⟨_, rfl⟩
            · -- no target operand, nowhere to jump
              simp [jumpTarget, allOps, Sdk.tgtOf_notgt _ _ (Sdk.rolesOf_notgt hb')] at hjt
            · by_cases hset : mn = .set
              · subst hset
                simp [Sdk.qscan] at h2
                subst h2
                refine ⟨al, _, h3, hu.congr hmu hms, fun hd => ?_⟩
                have hops : ops = [.reg Sdk.Q0, .lit 0] := by simpa using hd
                subst hops
                cases he
                cases (exec_x a (mn := "set") (by simp [q1Names]) (xExec_set 0 t.mem)).symm.trans hx
                simp [writeBack, dstOf, allOps, rolesOf, trOp, upd, Q0']
              · have := scan_plain hq' hb' hset h2
                subst this
                exact ⟨al, false, h3, hu.congr hmu hms, fun e => by cases e⟩

theorem qinv_steps (a : Nat) {P : List Sdk.PCmd} {stE : Bool × Bool}
    (hP : Sdk.qscan (false, false) P = some stE) (hok : Sdk.AllOK P) {c c' : State XMem × Nat}
    (h : Steps (qMachine a) (tr P) c c') : QInv P c.1 c.2 → QInv P c'.1 c'.2 := by
  induction h with
  | refl c => exact id
  | step hs _ ih => intro hinv; exact ih ((qinv_step a hP hok hinv).2 _ _ hs)

theorem qinv_start (P : List Sdk.PCmd) {t : State XMem} (hu : UnitOK t.mem false) : QInv P t 0 :=
  ⟨false, false, by simp [Sdk.qscan], hu, fun e => by cases e⟩

theorem qsafe_of_closed (a : Nat) {P : List Sdk.PCmd} (hc : Sdk.QClosed P) (hok : Sdk.AllOK P)
    {t : State XMem} (hu : UnitOK t.mem false) : QSafe a P t 0 := by
  obtain ⟨q', hP⟩ := hc false
  intro t1 n1 hsteps
  exact (qinv_step a hP hok (qinv_steps a hP hok hsteps (qinv_start P hu))).1

theorem unit_free_after (a : Nat) {P : List Sdk.PCmd} (hc : Sdk.QClosed P) (hok : Sdk.AllOK P)
    {t t' : State XMem} (hu : UnitOK t.mem false)
    (h : Steps (qMachine a) (tr P) (t, 0) (t', P.length)) : UnitOK t'.mem false := by
  obtain ⟨q', hP⟩ := hc false
  obtain ⟨al, q0, hsc, hu', _⟩ := qinv_steps a hP hok h (qinv_start P hu)
  simp only [List.take_length] at hsc
  rw [hP] at hsc
  cases hsc
  exact hu'

end NQ.Bridge
