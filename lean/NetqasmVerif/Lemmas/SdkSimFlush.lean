/-
Compiler correctness of the SDK builder model (C05), part 7: one flush —
`subrt_pop_pending_subroutine` + `_reset`: array initialisation, the pending commands of the segment,
`ret_arr` / `ret_reg`; the invariant between two flushes.
-/
import NetqasmVerif.Lemmas.SdkInv2
namespace NQ.Sdk

theorem Rel.extH {H H' : List (Reg × Bool)} {L MH : List Nat} {act mu : List Bool} {hs : HSt} {ts : St}
    (h : Rel H L MH act mu hs ts) (he : Ext H H') : Rel H' L MH act mu hs ts := by
  have look : ∀ hh v r b, hs.hregs hh = some v → H'[hh]? = some (r, b) → H[hh]? = some (r, b) := by
    intro hh v r b hv hH'
    obtain ⟨r0, b0, e1, _, _⟩ := h.regs hh v hv
    have := he _ _ e1
    rw [hH'] at this; cases this; exact e1
  exact ⟨h.arrs, h.trace, h.outs,
    fun hh v hv => by
      obtain ⟨r, b, e1, e2, e3⟩ := h.regs hh v hv
      exact ⟨r, b, he _ _ e1, e2, e3⟩,
    fun h1 h2 v1 v2 r b1 b2 hv1 hv2 hH1 hH2 =>
      h.inj h1 h2 v1 v2 r b1 b2 hv1 hv2 (look h1 v1 r b1 hv1 hH1) (look h2 v2 r b2 hv2 hH2),
    h.lens,
    fun hh v r b hv hH hb => h.mh hh v r b hv (look hh v r b hv hH) hb⟩

theorem clearAll_hregs : ∀ (l : List Nat) (s : HSt) (h : Nat),
    (clearAll s l).hregs h = if h ∈ l then none else s.hregs h := by
  intro l
  induction l with
  | nil => intro s h; simp [clearAll]
  | cons x xs ih =>
    intro s h
    dsimp only [clearAll]
    rw [ih]
    by_cases e : h = x
    · subst e; simp [HSt.clearH_self]
    · by_cases e2 : h ∈ xs <;> simp [HSt.clearH_ne _ e, e, e2]

theorem clearAll_other : ∀ (l : List Nat) (s : HSt),
    (clearAll s l).arrs = s.arrs ∧ (clearAll s l).trace = s.trace ∧ (clearAll s l).outcomes = s.outcomes := by
  intro l
  induction l with
  | nil => intro s; exact ⟨rfl, rfl, rfl⟩
  | cons x xs ih => intro s; exact ih (s.clearH x)

/-- at a flush the measurement registers are recycled and their handles die -/
theorem Rel.flushClear {H : List (Reg × Bool)} {L MH : List Nat} {act mu mu' : List Bool} {hs : HSt} {ts : St}
    (h : Rel H L MH act mu hs ts) : Rel H L [] act mu' (clearAll hs MH) ts := by
  have ho := clearAll_other MH hs
  have key : ∀ hh v, (clearAll hs MH).hregs hh = some v → hh ∉ MH ∧ hs.hregs hh = some v := by
    intro hh v hv
    rw [clearAll_hregs] at hv
    by_cases e : hh ∈ MH
    · simp [e] at hv
    · simp [e] at hv; exact ⟨e, hv⟩
  refine ⟨by rw [ho.1]; exact h.arrs, by rw [ho.2.1]; exact h.trace, by rw [ho.2.2]; exact h.outs, ?_, ?_, ?_, ?_⟩
  · intro hh v hv
    obtain ⟨hn, hv'⟩ := key hh v hv
    obtain ⟨r, b, e1, e2, e3⟩ := h.regs hh v hv'
    refine ⟨r, b, e1, e2, ?_⟩
    rcases e3 with e3 | e3
    · exact Or.inl e3
    · exact absurd (h.mh hh v r b hv' e1 e3.1) hn
  · intro h1 h2 v1 v2 r b1 b2 hv1 hv2
    exact h.inj h1 h2 v1 v2 r b1 b2 (key h1 v1 hv1).2 (key h2 v2 hv2).2
  · intro a n hn
    rw [ho.1]; exact h.lens a n hn
  · intro hh v r b hv hH hb
    obtain ⟨hn, hv'⟩ := key hh v hv
    exact absurd (h.mh hh v r b hv' hH hb) hn

def retArrCmds (ds : List ArrDecl) : List PCmd := ds.map (fun d => PCmd.instr .retArr [.addr d.addr])
def retRegCmds (rs : List Reg) : List PCmd := rs.map (fun r => PCmd.instr .retReg [.reg r])

theorem retArr_nolab : ∀ ds, labelsIn (retArrCmds ds) = []
  | [] => rfl
  | d :: ds => by simp [retArrCmds, labelsIn]; exact retArr_nolab ds

theorem retReg_nolab : ∀ rs, labelsIn (retRegCmds rs) = []
  | [] => rfl
  | r :: rs => by simp [retRegCmds, labelsIn]; exact retReg_nolab rs

structure ShmOnly (ts ts' : St) : Prop where
  regs : ts'.regs = ts.regs
  arrs : ts'.arrs = ts.arrs
  trace : ts'.trace = ts.trace
  outs : ts'.outcomes = ts.outcomes

theorem ShmOnly.refl (ts : St) : ShmOnly ts ts := ⟨rfl, rfl, rfl, rfl⟩
theorem ShmOnly.trans {a b c : St} (h1 : ShmOnly a b) (h2 : ShmOnly b c) : ShmOnly a c :=
  ⟨h2.regs.trans h1.regs, h2.arrs.trans h1.arrs, h2.trace.trans h1.trace, h2.outs.trans h1.outs⟩

theorem retArrs_sim : ∀ (ds : List ArrDecl) (p : List PCmd) (n : Nat) (ts : St),
    Placed p n (retArrCmds ds) → (∀ d ∈ ds, ∃ l, ts.arrs d.addr = some l) →
    ∃ ts', Runs p n (retArrCmds ds).length ts ts' ∧ ShmOnly ts ts' ∧ ts'.shmRegs = ts.shmRegs ∧
      (∀ d ∈ ds, ts'.shmArrs d.addr = ts.arrs d.addr) ∧
      (∀ a, (∀ d ∈ ds, d.addr ≠ a) → ts'.shmArrs a = ts.shmArrs a) := by
  intro ds
  induction ds with
  | nil =>
    intro p n ts _ _
    exact ⟨ts, Runs.refl _ _ _, ShmOnly.refl _, rfl, fun d hd => (by cases hd), fun _ _ => rfl⟩
  | cons d ds ih =>
    intro p n ts hpl hex
    obtain ⟨l, hl⟩ := hex d (by simp)
    let ts1 : St := { ts with shmArrs := fun x => if x = d.addr then some l else ts.shmArrs x }
    have r0 : Runs p n 1 ts ts1 := runs_instr hpl.head (by simp [exec, hl, ts1])
    obtain ⟨ts', hr, hso, hsr, hin, hout⟩ := ih p (n + 1) ts1 hpl.tail
      (fun d' hd' => hex d' (by simp [hd']))
    refine ⟨ts', runs_cons r0 hr, (⟨rfl, rfl, rfl, rfl⟩ : ShmOnly ts ts1).trans hso, hsr, ?_, ?_⟩
    · -- an address returned again later in the list is overwritten with the same array
      intro d' hd'
      by_cases hlater : ∃ x, x ∈ ds ∧ x.addr = d'.addr
      · obtain ⟨x, hx, hxa⟩ := hlater
        rw [← hxa]; exact hin x hx
      · have hnd : ∀ x ∈ ds, x.addr ≠ d'.addr := fun x hx e => hlater ⟨x, hx, e⟩
        rcases List.mem_cons.mp hd' with rfl | hd'
        · rw [hout _ hnd]; simp [ts1, hl]
        · exact absurd rfl (hnd d' hd')
    · intro a ha
      rw [hout a (fun x hx => ha x (by simp [hx]))]
      have : a ≠ d.addr := fun e => ha d (by simp) e.symm
      simp [ts1, this]

theorem retRegs_sim : ∀ (rs : List Reg) (p : List PCmd) (n : Nat) (ts : St),
    Placed p n (retRegCmds rs) → (∀ r ∈ rs, ∃ v, ts.regs r = some v) →
    ∃ ts', Runs p n (retRegCmds rs).length ts ts' ∧ ShmOnly ts ts' ∧ ts'.shmArrs = ts.shmArrs ∧
      (∀ r ∈ rs, ts'.shmRegs r = ts.regs r) ∧ (∀ x, x ∉ rs → ts'.shmRegs x = ts.shmRegs x) := by
  intro rs
  induction rs with
  | nil =>
    intro p n ts _ _
    exact ⟨ts, Runs.refl _ _ _, ShmOnly.refl _, rfl, fun r hr => (by cases hr), fun _ _ => rfl⟩
  | cons r rs ih =>
    intro p n ts hpl hex
    obtain ⟨v, hv⟩ := hex r (by simp)
    let ts1 : St := { ts with shmRegs := fun x => if x = r then some v else ts.shmRegs x }
    have r0 : Runs p n 1 ts ts1 := runs_instr hpl.head (by simp [exec, hv, ts1])
    obtain ⟨ts', hr, hso, hsa, hin, hout⟩ := ih p (n + 1) ts1 hpl.tail
      (fun r' hr' => hex r' (by simp [hr']))
    refine ⟨ts', runs_cons r0 hr, (⟨rfl, rfl, rfl, rfl⟩ : ShmOnly ts ts1).trans hso, hsa, ?_, ?_⟩
    · intro r' hr'
      by_cases hmem : r' ∈ rs
      · exact hin r' hmem
      · rcases List.mem_cons.mp hr' with rfl | hr'
        · rw [hout _ hmem]; simp [ts1, hv]
        · exact absurd hr' hmem
    · intro x hx
      simp only [List.mem_cons, not_or] at hx
      rw [hout x hx.2]; simp [ts1, hx.1]

theorem applyDecls_at : ∀ (ds : List ArrDecl) (arrs : Arrs) (d : ArrDecl), (ds.map (·.addr)).Nodup → d ∈ ds →
    applyDecls arrs ds d.addr = some (initList d) := by
  intro ds
  induction ds with
  | nil => intro _ d _ h; cases h
  | cons x xs ih =>
    intro arrs d hn h
    rw [List.map_cons, List.nodup_cons] at hn
    dsimp only [applyDecls]
    rcases List.mem_cons.mp h with rfl | h
    · rw [applyDecls_other]
      · simp [updArr]
      · intro d' hd' e
        exact hn.1 (by rw [← e]; exact List.mem_map_of_mem hd')
    · exact ih _ d hn.2 h

theorem initList_length {d : ArrDecl} (h : DeclOK d) : (initList d).length = d.len := by
  unfold initList
  cases hi : d.init with
  | none => simp
  | some vs => simp [DeclOK, hi] at h; simp [h]

theorem decl_addr {n : Nat} {ds : List ArrDecl} (hadr : ds.map (·.addr) = List.range' n ds.length)
    {k : Nat} {d : ArrDecl} (hd : ds[k]? = some d) : d.addr = n + k := by
  have := congrArg (fun l => l[k]?) hadr
  simp only [List.getElem?_map, hd, Option.map_some,
    List.getElem?_range' (List.getElem?_eq_some_iff.mp hd).1] at this
  simpa using this

theorem lens_lookup {l0 : List Nat} {ds : List ArrDecl}
    (hadr : ds.map (·.addr) = List.range' l0.length ds.length) (a n : Nat)
    (h : (l0 ++ ds.map (·.len))[a]? = some n) :
    (a < l0.length ∧ l0[a]? = some n) ∨ (∃ d ∈ ds, d.addr = a ∧ d.len = n) := by
  by_cases ha : a < l0.length
  · left; rw [List.getElem?_append_left ha] at h; exact ⟨ha, h⟩
  · right
    rw [List.getElem?_append_right (Nat.le_of_not_lt ha), List.getElem?_map] at h
    cases hd : ds[a - l0.length]? with
    | none => rw [hd] at h; cases h
    | some d =>
      rw [hd] at h
      exact ⟨d, List.mem_of_getElem? hd, by rw [decl_addr hadr hd]; omega, Option.some.inj h⟩

theorem lens_of_decl {l0 : List Nat} {ds : List ArrDecl}
    (hadr : ds.map (·.addr) = List.range' l0.length ds.length) {d : ArrDecl} (hd : d ∈ ds) :
    (l0 ++ ds.map (·.len))[d.addr]? = some d.len := by
  obtain ⟨k, hk, hkd⟩ := List.getElem_of_mem hd
  have hget : ds[k]? = some d := by rw [List.getElem?_eq_getElem hk, hkd]
  rw [decl_addr hadr hget, List.getElem?_append_right (Nat.le_add_right _ _), Nat.add_sub_cancel_left,
    List.getElem?_map, hget]
  rfl

/-- the invariant between two flushes -/
structure SegInv (m : Mem) (hs : HSt) (ts : St) : Prop where
  rel : Rel m.handles m.arrLens [] m.active m.measUsed hs ts
  lbl : m.lbl.length = 5
  aret : m.arraysToReturn = []
  rret : m.regsToReturn = []

/-- what the host reads from shared memory after the flush: the arrays created in the segment and the
registers returned by it hold the controller's (= `HostSem`'s) values -/
structure ViewOK (m1 : Mem) (hs1 : HSt) (ts1 : St) : Prop where
  arrs : ∀ d ∈ m1.arraysToReturn, (hs1.arrs d.addr).isSome ∧ ts1.shmArrs d.addr = hs1.arrs d.addr
  regs : ∀ r ∈ m1.regsToReturn, ∃ (h : Nat) (b : Bool) (v : Int),
    m1.handles[h]? = some (r, b) ∧ hs1.hregs h = some v ∧ ts1.shmRegs r = some v

section OneFlush
variable {m0 m1 m2 : Mem} {ops : List Host} {pend : List PCmd} {fuel : Nat} {hs0 hs1 : HSt} {ts0 : St}
  {nh1 na1 : Nat}

/-- the commands of a flush, whether or not there is anything to send; `m1'` is the memory manager before
`_reset` -/
theorem flush_sim {m1' : Mem} {ini : List PCmd}
    (hinv : SegInv m0 hs0 ts0) (htop : ∀ op ∈ ops, TopOK op)
    (he : emitOps m0 ops = .ok (m1, pend)) (hini : initArrays m1 [] m1.arraysToReturn = .ok (m1', ini))
    (hh : runSegment fuel m0.handles.length m0.arrLens.length ops hs0 = some (hs1, nh1, na1)) :
    ∃ ts1, Runs (ini ++ pend ++ retArrCmds m1'.arraysToReturn ++ retRegCmds m1'.regsToReturn) 0
        (ini ++ pend ++ retArrCmds m1'.arraysToReturn ++ retRegCmds m1'.regsToReturn).length ts0 ts1 ∧
      (∀ mu', Rel m1'.handles m1'.arrLens [] m1'.active mu'
        (clearAll hs1 (segMHandles m0.handles.length ops)) ts1) ∧
      m1'.lbl.length = 5 ∧ nh1 = m1'.handles.length ∧ na1 = m1'.arrLens.length ∧ ViewOK m1 hs1 ts1 := by
  obtain ⟨⟨t, ht⟩, _, haret0⟩ := emitOps_tables ops m0 m1 pend he
  have haret : m1.arraysToReturn = segDecls m0.arrLens.length ops := by rw [haret0, hinv.aret]; simp
  have hlens := emitOps_lens ops m0 m1 pend he
  have hadr := segDecls_addr ops m0.arrLens.length
  have si := initArrays_spec _ hini
  have sL := si.same
  have hact := emitOps_active ops m0 m1 pend htop he
  have hactI : m1'.active = m1.active := si.act
  -- the labels of the whole subroutine are pairwise distinct, so every part of it is `Placed`
  have fp := emitOps_fresh ops m0 m1 pend hinv.lbl he
  have fi := si.fresh (m0 := m1) (Fresh.nolabel fp.len rfl rfl)
  have hnd : (labelsIn (ini ++ pend ++ retArrCmds m1'.arraysToReturn ++ retRegCmds m1'.regsToReturn)).Nodup := by
    have f := fp.seq fi
    have hperm : (labelsIn (ini ++ pend ++ retArrCmds m1'.arraysToReturn ++ retRegCmds m1'.regsToReturn)).Perm
        (labelsIn (pend ++ ini)) := by
      simp only [labelsIn_append, retArr_nolab, retReg_nolab, List.append_nil]
      exact List.perm_append_comm
    exact hperm.nodup_iff.mpr f.nodup
  have hplW := Placed.whole _ hnd
  have plI : Placed _ 0 ini := hplW.left.left.left
  have plP := hplW.left.left.right
  have plA := hplW.left.right
  have plR := hplW.right
  have hpo := initArrays_sim m1.arraysToReturn m1 m1' [] ini [] hini (PendOK.nil _)
    (by rw [haret, List.nil_append, hadr]; exact List.nodup_range')
    (by rw [haret]; exact segDecls_ok ops _)
  obtain ⟨ts_a, hra, hqa, haa⟩ := hpo _ 0 ts0 plI
  rw [List.nil_append, haret] at haa
  have hdspec := initDecls_spec hs0 (segDecls m0.arrLens.length ops)
  have hrelInit : Rel m1.handles m1.arrLens [] m0.active m0.measUsed
      (initDecls hs0 (segDecls m0.arrLens.length ops)) ts_a := by
    have R0 := hinv.rel
    have hreg0 : ∀ hh v, (initDecls hs0 (segDecls m0.arrLens.length ops)).hregs hh = some v →
        hs0.hregs hh = some v := by intro hh v hv; rwa [hdspec.2.1] at hv
    have R1 := R0.extH (H' := m1.handles) (by rw [ht]; exact Ext.append _ _)
    refine ⟨?_, ?_, ?_, ?_,
      fun h1 h2 v1 v2 r b1 b2 hv1 hv2 => R1.inj h1 h2 v1 v2 r b1 b2 (hreg0 _ _ hv1) (hreg0 _ _ hv2), ?_,
      fun hh v r b hv => R1.mh hh v r b (hreg0 _ _ hv)⟩
    · rw [haa, hdspec.1, R0.arrs]
    · rw [hqa.trace, hdspec.2.2.1]; exact R0.trace
    · rw [hqa.outs, hdspec.2.2.2]; exact R0.outs
    · intro hh v hv
      obtain ⟨r, b, e1, e2, e3⟩ := R1.regs hh v (hreg0 hh v hv)
      exact ⟨r, b, e1, by rw [hqa.regs r (fun hc => e3.not_tmp (hc.sub hact.1 hact.2))]; exact e2, e3⟩
    · -- array lengths: an old array is untouched by the declarations, a new one has its declared length
      intro a n hn
      rw [hdspec.1]
      rw [hlens] at hn
      rcases lens_lookup (by simpa using hadr) a n hn with ⟨hlt, hold⟩ | ⟨d, hd, hda, hdl⟩
      · obtain ⟨l, hl, hll⟩ := R0.lens a n hold
        refine ⟨l, ?_, hll⟩
        rw [applyDecls_other _ _ _ ?_]; exact hl
        intro d hd e
        have hmem : d.addr ∈ List.range' m0.arrLens.length (segDecls m0.arrLens.length ops).length := by
          rw [← hadr]; exact List.mem_map_of_mem hd
        rw [List.mem_range'_1] at hmem
        omega
      · subst hda
        refine ⟨initList d, applyDecls_at _ _ d (by rw [hadr]; exact List.nodup_range') hd, ?_⟩
        rw [initList_length (segDecls_ok ops _ d hd)]; exact hdl
  unfold runSegment at hh
  obtain ⟨ts_b, hrb, hrelb, en, ea⟩ := ops_sim ops fuel m0 m1 pend htop he m1.handles m1.arrLens [] _ _
    _ hs1 ts_a nh1 na1 (Ext.refl _) (fun _ _ h => h) plP hrelInit hh
  simp only [List.nil_append] at hrelb
  have harrs_b : ∀ d ∈ m1'.arraysToReturn, ∃ l, ts_b.arrs d.addr = some l := by
    intro d hd
    rw [sL.aret, haret] at hd
    have := lens_of_decl (l0 := m0.arrLens) (by simpa using hadr) hd
    rw [← hlens] at this
    obtain ⟨l, hl, _⟩ := hrelb.lens _ _ this
    exact ⟨l, by rw [hrelb.arrs]; exact hl⟩
  obtain ⟨ts_c, hrc, hsoc, hsrc, hinc, _⟩ := retArrs_sim m1'.arraysToReturn _ _ ts_b plA harrs_b
  have hret : RetOK m1 hs1 := ops_ret ops fuel m0 m1 pend _ hs1 nh1 na1 htop he
    (by intro r hr; rw [hinv.rret] at hr; cases hr) hh
  have hregs_c : ∀ r ∈ m1'.regsToReturn, ∃ v, ts_c.regs r = some v := by
    intro r hr
    rw [sL.rret] at hr
    obtain ⟨h0, b, v, e1, e2⟩ := hret r hr
    exact ⟨v, by rw [hsoc.regs]; exact (hrelb.reg_val e2 e1).1⟩
  obtain ⟨ts_d, hrd, hsod, hsad, hind, _⟩ := retRegs_sim m1'.regsToReturn _ _ ts_c plR hregs_c
  have hso := hsoc.trans hsod
  refine ⟨ts_d, runs_append (runs_append (runs_append hra hrb) hrc) hrd, ?_, fi.len, ?_, ?_, ?_⟩
  · intro mu'
    rw [sL.handles, sL.lens, hactI]
    exact (hrelb.frame hso.arrs hso.trace hso.outs (fun r _ => congrFun hso.regs r)).flushClear
  · rw [sL.handles]; exact en
  · rw [sL.lens]; exact ea
  · constructor
    · intro d hd
      have hd' : d ∈ m1'.arraysToReturn := by rw [sL.aret]; exact hd
      obtain ⟨l, hl⟩ := harrs_b d hd'
      refine ⟨by rw [← hrelb.arrs, hl]; rfl, ?_⟩
      rw [hsad, hinc d hd', hrelb.arrs]
    · intro r hr
      obtain ⟨h0, b, v, e1, e2⟩ := hret r hr
      refine ⟨h0, b, v, e1, e2, ?_⟩
      rw [hind r (by rw [sL.rret]; exact hr), hsoc.regs]
      exact (hrelb.reg_val e2 e1).1

/-- the flush that sends the subroutine `sub` -/
theorem segment_sim {sub : List PCmd}
    (hinv : SegInv m0 hs0 ts0) (htop : ∀ op ∈ ops, TopOK op)
    (he : emitOps m0 ops = .ok (m1, pend)) (hf : flush m1 pend = .ok (m2, some sub))
    (hh : runSegment fuel m0.handles.length m0.arrLens.length ops hs0 = some (hs1, nh1, na1)) :
    ∃ ts1, Runs sub 0 sub.length ts0 ts1 ∧
      SegInv m2 (clearAll hs1 (segMHandles m0.handles.length ops)) ts1 ∧
      nh1 = m2.handles.length ∧ na1 = m2.arrLens.length ∧ ViewOK m1 hs1 ts1 := by
  unfold flush at hf
  split at hf
  · cases hf
  rename_i m1' ini hini
  simp only at hf
  split at hf
  · cases hf
  cases hf
  obtain ⟨ts1, hr, hrel, hl, en, ea, hv⟩ := flush_sim hinv htop he hini hh
  exact ⟨ts1, hr, ⟨hrel _, hl, rfl, rfl⟩, en, ea, hv⟩

/-- the flush that has nothing to send (`subrt_pop_pending_subroutine` returns `None`) -/
theorem segment_sim_none
    (hinv : SegInv m0 hs0 ts0) (htop : ∀ op ∈ ops, TopOK op)
    (he : emitOps m0 ops = .ok (m1, pend)) (hf : flush m1 pend = .ok (m2, none))
    (hh : runSegment fuel m0.handles.length m0.arrLens.length ops hs0 = some (hs1, nh1, na1)) :
    SegInv m2 (clearAll hs1 (segMHandles m0.handles.length ops)) ts0 ∧
      nh1 = m2.handles.length ∧ na1 = m2.arrLens.length := by
  unfold flush at hf
  split at hf
  · cases hf
  rename_i m1' ini hini
  simp only at hf
  split at hf
  case isFalse => cases hf
  rename_i hemp
  cases hf
  obtain ⟨ts1, hr, hrel, hl, en, ea, _⟩ := flush_sim hinv htop he hini hh
  have hcs : ini ++ pend ++ retArrCmds m2.arraysToReturn ++ retRegCmds m2.regsToReturn = [] :=
    List.isEmpty_iff.mp hemp
  rw [hcs] at hr
  -- nothing runs
  cases hr with
  | refl =>
    simp only [List.append_eq_nil_iff, retArrCmds, retRegCmds, List.map_eq_nil_iff] at hcs
    exact ⟨⟨hrel _, hl, hcs.1.2, hcs.2⟩, en, ea⟩
  | next hs _ => simp [step] at hs

end OneFlush

end NQ.Sdk
