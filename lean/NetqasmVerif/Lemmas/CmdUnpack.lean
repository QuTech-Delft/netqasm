/-
Decode direction of `Model/CmdPack.lean`: reading a 7-byte command through the generic ctypes struct
model (`readFields` over leaf fields) with the canonical layout of a shape returns the opcode byte
and the operands of `decodeOps`, for every byte string (`unpackCmd_canon`); hence so does every
layout that `isCanonical` accepts (`unpackCmd_of_canonical`).  A read at a byte offset is a read at
offset 0 of the remaining bytes (`shift_read`), which brings every leaf to one closed computation.
-/
import NetqasmVerif.Lemmas.CmdPack
namespace NQ.Cmd
open NQ NQ.Msg

theorem shift_read (pre rem : List Nat) (hpre : ∀ b ∈ pre, b < 256) (s : Nat) :
    ofBytes (pre ++ rem) / 2 ^ (8 * pre.length + s) = ofBytes rem / 2 ^ s := by
  rw [ofBytes_append, Nat.pow_add, ← pow256, ← Nat.div_div_eq_div_mul,
    Nat.add_mul_div_left _ _ (Nat.pow_pos (by decide)), Nat.div_eq_of_lt (ofBytes_lt pre hpre), Nat.zero_add]

/-- in the shape `reg_at` reduces to: `/ 2 ^ 0`, the bytes above as `R` -/
theorem unreg_read (b R : Nat) :
    regOfParts (decVal ⟨"", 0, 2, false⟩ ((b + 256 * R) / 2 ^ 0 % 2 ^ 2))
      (decVal ⟨"", 0, 4, false⟩ ((b + 256 * R) / 2 ^ 2 % 2 ^ 4)) = unregByte b := by
  simp only [regOfParts, decVal, unregByte, Bool.false_and, Bool.false_eq_true, if_false, Int.toNat_natCast]
  norm_num
  constructor <;> omega

/-- in the shape `i32_at` reduces to -/
theorem i32_read (b0 b1 b2 b3 R : Nat) (h0 : b0 < 256) (h1 : b1 < 256) (h2 : b2 < 256) (h3 : b3 < 256) :
    decVal ⟨"", 0, 32, true⟩ ((b0 + 256 * (b1 + 256 * (b2 + 256 * (b3 + 256 * R)))) / 2 ^ 0 % 2 ^ 32)
      = unle32 b0 b1 b2 b3 := by
  have : (b0 + 256 * (b1 + 256 * (b2 + 256 * (b3 + 256 * R)))) / 2 ^ 0 % 2 ^ 32
      = b0 + 256 * b1 + 65536 * b2 + 16777216 * b3 := by norm_num; omega
  rw [this]
  simp only [decVal, unle32]
  norm_num

theorem decVal_name (nm : String) (st w : Nat) (sg : Bool) (u : Nat) :
    decVal ⟨nm, st, w, sg⟩ u = decVal ⟨"", 0, w, sg⟩ u := rfl

theorem reg_at (pre : List Nat) (b : Nat) (r : List Nat) (hpre : ∀ x ∈ pre, x < 256) :
    regOfParts
      (decVal ⟨"", 8 * pre.length, 2, false⟩ (ofBytes (pre ++ b :: r) / 2 ^ (8 * pre.length) % 2 ^ 2))
      (decVal ⟨"", 8 * pre.length + 2, 4, false⟩ (ofBytes (pre ++ b :: r) / 2 ^ (8 * pre.length + 2) % 2 ^ 4))
      = unregByte b := by
  have h0 := shift_read pre (b :: r) hpre 0
  have h2 := shift_read pre (b :: r) hpre 2
  simp only [Nat.add_zero] at h0
  rw [h0, h2, decVal_name, decVal_name "" (8 * pre.length + 2)]
  exact unreg_read b (ofBytes r)

theorem i32_at (pre : List Nat) (b0 b1 b2 b3 : Nat) (r : List Nat) (hpre : ∀ x ∈ pre, x < 256)
    (h0 : b0 < 256) (h1 : b1 < 256) (h2 : b2 < 256) (h3 : b3 < 256) :
    decVal ⟨"", 8 * pre.length, 32, true⟩
      (ofBytes (pre ++ b0 :: b1 :: b2 :: b3 :: r) / 2 ^ (8 * pre.length) % 2 ^ 32) = unle32 b0 b1 b2 b3 := by
  have h := shift_read pre (b0 :: b1 :: b2 :: b3 :: r) hpre 0
  simp only [Nat.add_zero] at h
  rw [h, decVal_name]
  exact i32_read b0 b1 b2 b3 (ofBytes r) h0 h1 h2 h3

theorem slot_read (pre rem : List Nat) (hpre : ∀ x ∈ pre, x < 256) (hrem : ∀ x ∈ rem, x < 256)
    (k : FieldKind) (op : Operand) (rest : List Nat) (h : decodeOp k rem = some (op, rest)) :
    buildOp k (canonGroup pre.length k)
      (readFields ((canonGroup pre.length k).map (·.1)) (ofBytes (pre ++ rem))) = op := by
  unfold decodeOp at h
  split at h
  all_goals cases h
  all_goals simp only [List.forall_mem_cons] at hrem
  · exact congrArg Operand.reg (reg_at pre _ _ hpre)
  · rename_i b
    have hs := shift_read pre (b :: rest) hpre 0
    simp only [Nat.add_zero] at hs
    simp only [buildOp, canonGroup, List.map_cons, List.map_nil, readFields, lookupPart, if_true, hs,
      ofBytes, decVal]
    norm_num
    omega
  · obtain ⟨h0, h1, h2, h3, _⟩ := hrem
    exact congrArg Operand.imm (i32_at pre _ _ _ _ _ hpre h0 h1 h2 h3)
  · obtain ⟨h0, h1, h2, h3, _⟩ := hrem
    exact congrArg Operand.addr (i32_at pre _ _ _ _ _ hpre h0 h1 h2 h3)
  · rename_i b0 b1 b2 b3 i
    obtain ⟨h0, h1, h2, h3, _⟩ := hrem
    have hreg := reg_at (pre ++ [b0, b1, b2, b3]) i rest (List.forall_mem_append.2
      ⟨hpre, by simp only [List.forall_mem_cons]; exact ⟨h0, h1, h2, h3, nofun⟩⟩)
    simp only [List.length_append, List.length_cons, List.length_nil, List.append_assoc,
      List.cons_append, List.nil_append] at hreg
    exact congr (congrArg Operand.entry (i32_at pre _ _ _ _ _ hpre h0 h1 h2 h3)) hreg
  · rename_i b0 b1 b2 b3 s e
    obtain ⟨h0, h1, h2, h3, h4, _⟩ := hrem
    have hs := reg_at (pre ++ [b0, b1, b2, b3]) s (e :: rest) (List.forall_mem_append.2
      ⟨hpre, by simp only [List.forall_mem_cons]; exact ⟨h0, h1, h2, h3, nofun⟩⟩)
    have he := reg_at (pre ++ [b0, b1, b2, b3, s]) e rest (List.forall_mem_append.2
      ⟨hpre, by simp only [List.forall_mem_cons]; exact ⟨h0, h1, h2, h3, h4, nofun⟩⟩)
    simp only [List.length_append, List.length_cons, List.length_nil, List.append_assoc,
      List.cons_append, List.nil_append] at hs he
    exact congr (congr (congrArg Operand.slice (i32_at pre _ _ _ _ _ hpre h0 h1 h2 h3)) hs) he

theorem decodeOp_split (k : FieldKind) (rem : List Nat) (h : kindSize k ≤ rem.length) :
    ∃ op c rest, decodeOp k rem = some (op, rest) ∧ rem = c ++ rest ∧ c.length = kindSize k := by
  cases k <;> simp only [kindSize] at h
  · match rem, h with
    | b :: r, _ => exact ⟨_, [b], r, rfl, rfl, rfl⟩
  · match rem, h with
    | b :: r, _ => exact ⟨_, [b], r, rfl, rfl, rfl⟩
  · match rem, h with
    | b0 :: b1 :: b2 :: b3 :: r, _ => exact ⟨_, [b0, b1, b2, b3], r, rfl, rfl, rfl⟩
  · match rem, h with
    | b0 :: b1 :: b2 :: b3 :: r, _ => exact ⟨_, [b0, b1, b2, b3], r, rfl, rfl, rfl⟩
  · match rem, h with
    | b0 :: b1 :: b2 :: b3 :: i :: r, _ => exact ⟨_, [b0, b1, b2, b3, i], r, rfl, rfl, rfl⟩
  · match rem, h with
    | b0 :: b1 :: b2 :: b3 :: s :: e :: r, _ => exact ⟨_, [b0, b1, b2, b3, s, e], r, rfl, rfl, rfl⟩

theorem buildOps_canon (ks : List FieldKind) (pre rem : List Nat) (hpre : ∀ x ∈ pre, x < 256)
    (hrem : ∀ x ∈ rem, x < 256) (hlen : shapeSize ks ≤ rem.length) :
    buildOps (ofBytes (pre ++ rem)) ks (canonGroups pre.length ks) = decodeOps ks rem := by
  induction ks generalizing pre rem with
  | nil => rfl
  | cons k ks ih =>
    rw [shapeSize_cons] at hlen
    obtain ⟨op, c, rest, hd, rfl, hc⟩ := decodeOp_split k rem (by omega)
    obtain ⟨hcb, hrest⟩ := List.forall_mem_append.1 hrem
    have ih := ih (pre ++ c) rest (List.forall_mem_append.2 ⟨hpre, hcb⟩) hrest
      (by rw [List.length_append] at hlen; omega)
    rw [List.append_assoc, List.length_append, hc] at ih
    simp only [canonGroups, buildOps, ih, decodeOps_cons hd, slot_read pre _ hpre hrem k op rest hd]
    cases decodeOps ks rest <;> rfl

/-- `C02.generic_unpack_eq_model` for the canonical layout, for ALL byte strings -/
theorem unpackCmd_canon (row : Row) (opb : Nat) (body : List Nat) (hfit : shapeSize row.shape ≤ 6)
    (hlen : body.length = 6) (hop : opb < 256) (hb : ∀ x ∈ body, x < 256) :
    unpackCmd (canonCmd row) row (opb :: body) = (decodeOps row.shape body).map (fun os => ((opb : Int), os)) := by
  have hpre : ∀ x ∈ [opb], x < 256 := by intro x hx; simp at hx; subst hx; exact hop
  have hb' := buildOps_canon row.shape [opb] body hpre hb (by omega)
  simp only [List.length_singleton, List.singleton_append] at hb'
  unfold unpackCmd
  simp only [canonCmd, COMMAND_BYTES, List.length_cons, hlen]
  rw [if_neg (by omega), List.take_of_length_le (by simp [hlen]), hb']
  have hid : decVal ⟨"", 0, 8, false⟩ (ofBytes (opb :: body) / 2 ^ 0 % 2 ^ 8) = (opb : Int) := by
    simp only [ofBytes, decVal]
    norm_num
    omega
  rw [hid]
  cases decodeOps row.shape body <;> rfl

theorem unpackCmd_of_canonical (L : CmdLayout) (row : Row) (h : isCanonical L row = true) (opb : Nat)
    (body : List Nat) (hlen : body.length = 6) (hop : opb < 256) (hb : ∀ x ∈ body, x < 256) :
    unpackCmd L row (opb :: body) = (decodeOps row.shape body).map (fun os => ((opb : Int), os)) := by
  simp only [isCanonical, Bool.and_eq_true, beq_iff_eq, decide_eq_true_eq] at h
  obtain ⟨⟨⟨⟨⟨h1, h2⟩, h3⟩, h4⟩, h5⟩, _⟩ := h
  rw [← unpackCmd_canon row opb body h5 hlen hop hb]
  simp only [unpackCmd, h1, h2, h3]
  rfl

end NQ.Cmd
