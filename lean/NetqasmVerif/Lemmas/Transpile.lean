/-
Lemmas about the transpiler pass (Model/Transpile.lean): the output is the concatenation of
per-instruction chunks; `index_changes` = serialised chunk starts; retargeting is a `map`.
-/
import NetqasmVerif.Model.Transpile
namespace NQ.Tr
open NQ

theorem serialise_append (a b : List Instr) : serialise (a ++ b) = serialise a ++ serialise b := by
  simp [serialise]

theorem slen_append (a b : List Instr) : slen (a ++ b) = slen a + slen b := by
  simp [slen, serialise_append]

theorem slen_nil : slen [] = 0 := rfl

theorem slen_add_debug (l : List Instr) : slen l + (l.filter isDebug).length = l.length := by
  induction l with
  | nil => rfl
  | cons x xs ih =>
    unfold slen serialise at *
    by_cases h : isDebug x <;> simp [h] <;> omega

theorem slen_le_length (l : List Instr) : slen l ≤ l.length := by
  have := slen_add_debug l; omega

/-- `cs` are the expansions the loop of `transpile()` appends over `S`, one per instruction. -/
inductive Chunks (cfg : Cfg) : List (Reg × Int) → List Reg → List Instr → List (List Instr) → Prop
  | nil (rv used) : Chunks cfg rv used [] []
  | cons {rv used i rest ex cs} (info : ClsInfo) (hi : infoOf cfg i.cls = some info)
      (hex : expandInstr cfg info (updRegVals info i rv) (used ++ topRegs i) i = .ok ex)
      (hrest : Chunks cfg (updRegVals info i rv) (used ++ topRegs i) rest cs) :
      Chunks cfg rv used (i :: rest) (ex :: cs)

theorem Chunks.length_eq {cfg rv used S cs} (h : Chunks cfg rv used S cs) : cs.length = S.length := by
  induction h with
  | nil => rfl
  | cons _ _ _ _ ih => simp [ih]

def starts (base : Nat) : List (List Instr) → List Nat
  | [] => []
  | c :: cs => base :: starts (base + slen c) cs

theorem starts_length (b : Nat) (cs : List (List Instr)) : (starts b cs).length = cs.length := by
  induction cs generalizing b with
  | nil => rfl
  | cons c cs ih => simp [starts, ih]

/-- serialised position at which chunk `i` starts -/
def tposS (cs : List (List Instr)) (i : Nat) : Nat := slen (cs.take i).flatten

theorem starts_getElem? (b : Nat) (cs : List (List Instr)) (i : Nat) (h : i < cs.length) :
    (starts b cs)[i]? = some (b + tposS cs i) := by
  induction cs generalizing b i with
  | nil => simp at h
  | cons c cs ih =>
    cases i with
    | zero => simp [starts, tposS, slen_nil]
    | succ k =>
      have hk : k < cs.length := by simpa using h
      simp only [starts, List.getElem?_cons_succ, ih _ _ hk, tposS, List.take_succ_cons,
        List.flatten_cons, slen_append]
      congr 1; omega

theorem tposS_succ (cs : List (List Instr)) (p : Nat) (hp : p < cs.length) :
    tposS cs (p + 1) = tposS cs p + slen cs[p] := by
  unfold tposS
  rw [← List.take_append_getElem hp, List.flatten_append, slen_append]
  simp

theorem tposS_mono (cs : List (List Instr)) {i j : Nat} (h : i ≤ j) : tposS cs i ≤ tposS cs j := by
  obtain ⟨d, rfl⟩ := Nat.exists_eq_add_of_le h
  unfold tposS
  rw [List.take_add, List.flatten_append, slen_append]
  omega

theorem tposS_zero (cs : List (List Instr)) : tposS cs 0 = 0 := by simp [tposS, slen_nil]

theorem tposS_all (cs : List (List Instr)) : tposS cs cs.length = slen cs.flatten := by
  simp [tposS]

/-- `new_commands` grows by one chunk per instruction and `index_changes` records the serialised
start of each; the invariant is that `num_debug` counts the debug markers emitted so far. -/
theorem passLoop_chunks (cfg : Cfg) : ∀ (S : List Instr) (st st' : PState),
    passLoop cfg st S = .ok st' → st.nDebug = (st.out.filter isDebug).length →
    ∃ cs, Chunks cfg st.regVals st.used S cs ∧ st'.out = st.out ++ cs.flatten ∧
      st'.idx = st.idx ++ starts (slen st.out) cs ∧
      st'.nDebug = (st'.out.filter isDebug).length := by
  intro S
  induction S with
  | nil =>
    intro st st' h hinv
    simp only [passLoop, Except.ok.injEq] at h
    subst h
    exact ⟨[], Chunks.nil _ _, by simp, by simp [starts], hinv⟩
  | cons i rest ih =>
    intro st st' h hinv
    unfold passLoop at h
    split at h
    · cases h
    rename_i st1 hs
    unfold passStep at hs
    split at hs
    · cases hs
    rename_i info hi
    simp only at hs
    split at hs
    · cases hs
    rename_i ex hex
    cases hs
    have hinv1 : (st.nDebug + (ex.filter isDebug).length)
        = ((st.out ++ ex).filter isDebug).length := by
      simp [List.filter_append, hinv]
    obtain ⟨cs, hc, hout, hidx, hnd⟩ := ih _ st' h hinv1
    refine ⟨ex :: cs, Chunks.cons info hi hex hc, ?_, ?_, hnd⟩
    · simp [hout]
    · simp only [hidx, starts, slen_append, List.append_assoc, List.cons_append,
        List.nil_append]
      have := slen_add_debug st.out
      have h2 : st.out.length - st.nDebug = slen st.out := by omega
      rw [h2]

/-- the pass's (flow-insensitive) register knowledge after textually scanning `l` -/
def rvAfter (cfg : Cfg) (rv : List (Reg × Int)) : List Instr → List (Reg × Int)
  | [] => rv
  | i :: rest => rvAfter cfg (match infoOf cfg i.cls with
      | some info => updRegVals info i rv
      | none => rv) rest

/-- `set r v` on a Q register: the only instruction `_register_values` records -/
def qsetOf (cfg : Cfg) (i : Instr) : Option (Reg × Int) := (setOf cfg i).filter (·.1.bank == bankQ)

theorem updRegVals_eq {cfg : Cfg} {x : Instr} {info : ClsInfo} (hi : infoOf cfg x.cls = some info)
    (rv : List (Reg × Int)) : updRegVals info x rv = (qsetOf cfg x).toList ++ rv := by
  unfold updRegVals qsetOf setOf
  rw [hi]
  simp only
  split
  · split
    · split <;> simp_all [Option.filter]
    · rfl
  · rfl

theorem rvAfter_eq (cfg : Cfg) : ∀ (l : List Instr) (rv : List (Reg × Int)),
    rvAfter cfg rv l = (l.filterMap (qsetOf cfg)).reverse ++ rv
  | [], _ => rfl
  | x :: xs, rv => by
    rw [rvAfter, rvAfter_eq cfg xs, List.filterMap_cons]
    cases hi : infoOf cfg x.cls with
    | none => simp [qsetOf, setOf, hi]
    | some info => simp only [updRegVals_eq hi]; cases qsetOf cfg x <;> simp

theorem rvAfter_base (cfg : Cfg) (P : List Instr) (rv : List (Reg × Int)) :
    rvAfter cfg rv P = rvAfter cfg [] P ++ rv := by
  simp [rvAfter_eq]

theorem rvAfter_snoc (cfg : Cfg) (rv : List (Reg × Int)) (A : List Instr) (x : Instr) :
    rvAfter cfg rv (A ++ [x]) = (qsetOf cfg x).toList ++ rvAfter cfg rv A := by
  simp only [rvAfter_eq, List.filterMap_append, List.reverse_append, List.append_assoc]
  cases h : qsetOf cfg x <;> simp [h]

/-- A chunking of `A ++ i :: B` is a chunking of `A`, the chunk of `i`, and a chunking of `B` from the
attributes as the pass has them behind `i`. -/
theorem Chunks.split {cfg : Cfg} {A : List Instr} {rv used i B cs} (h : Chunks cfg rv used (A ++ i :: B) cs) :
    ∃ ca ex cb info, cs = ca ++ ex :: cb ∧ ca.length = A.length ∧ Chunks cfg rv used A ca ∧
      infoOf cfg i.cls = some info ∧
      expandInstr cfg info (rvAfter cfg rv (A ++ [i])) (used ++ (A ++ [i]).flatMap topRegs) i = .ok ex ∧
      Chunks cfg (rvAfter cfg rv (A ++ [i])) (used ++ (A ++ [i]).flatMap topRegs) B cb := by
  induction A generalizing rv used cs with
  | nil =>
    cases h with
    | cons info hi hex hrest =>
      refine ⟨[], _, _, info, rfl, rfl, .nil _ _, hi, ?_, ?_⟩ <;>
        simp only [List.nil_append, rvAfter, hi, List.flatMap_cons, List.flatMap_nil, List.append_nil]
      · exact hex
      · exact hrest
  | cons a A ih =>
    cases h with
    | cons info hi hex hrest =>
      obtain ⟨ca, ex, cb, info', rfl, hl, hca, hi', hex', hcb⟩ := ih hrest
      refine ⟨_ :: ca, ex, cb, info', rfl, congrArg (· + 1) hl, .cons info hi hex hca, hi', ?_, ?_⟩ <;>
        simp only [List.cons_append, rvAfter, hi, List.flatMap_cons, ← List.append_assoc]
      · exact hex'
      · exact hcb

/-- Chunk `p` depends only on the text `S[0..p]`, whatever the control flow. -/
theorem Chunks.at {cfg : Cfg} {rv used S cs} (h : Chunks cfg rv used S cs) (p : Nat) (hp : p < S.length) :
    ∃ info, infoOf cfg S[p].cls = some info ∧ ∃ hp' : p < cs.length,
      expandInstr cfg info (rvAfter cfg rv (S.take (p + 1))) (used ++ (S.take (p + 1)).flatMap topRegs) S[p]
        = .ok cs[p] := by
  induction h generalizing p with
  | nil => cases hp
  | @cons rv used i rest ex cs info hi hex _ ih =>
    cases p with
    | zero => exact ⟨info, hi, Nat.zero_lt_succ _, by simpa [rvAfter, hi] using hex⟩
    | succ k =>
      obtain ⟨info', hi', hk, hex'⟩ := ih k (Nat.lt_of_succ_lt_succ hp)
      exact ⟨info', hi', Nat.succ_lt_succ hk, by simpa [rvAfter, hi, List.append_assoc] using hex'⟩

def patchOne (cfg : Cfg) (n : Nat) (idx : List Nat) (endTgt : Nat) (i : Instr) : Instr :=
  match retargetOne cfg n idx endTgt i with
  | .ok (i', _) => i'
  | .error _ => i

theorem retargetOne_ok {cfg n idx e i i' f} (h : retargetOne cfg n idx e i = .ok (i', f)) :
    (lineOf cfg i = none ∧ i' = i ∧ f = false) ∨
    (lineOf cfg i = some (n : Int) ∧ i' = setLine cfg i e ∧ f = true) ∨
    ∃ v t, lineOf cfg i = some v ∧ v ≠ n ∧ 0 ≤ v ∧ idx[v.toNat]? = some t ∧
      i' = setLine cfg i t ∧ f = false := by
  unfold retargetOne at h
  split at h
  · cases h; exact .inl ⟨‹_›, rfl, rfl⟩
  · rename_i v hl
    by_cases hv : (v == (n : Int)) = true
    · rw [if_pos hv] at h
      cases h
      exact .inr (.inl ⟨eq_of_beq hv ▸ hl, rfl, rfl⟩)
    rw [if_neg hv] at h
    split at h
    · cases h
    · rename_i hneg
      split at h
      · rename_i t ht
        cases h
        exact .inr (.inr ⟨v, t, hl, fun e => hv (beq_iff_eq.2 e), by omega, ht, rfl, rfl⟩)
      · cases h

theorem retargetOne_flag {cfg n idx e i i' f} (h : retargetOne cfg n idx e i = .ok (i', f)) :
    f = (lineOf cfg i == some (n : Int)) := by
  rcases retargetOne_ok h with ⟨hl, _, rfl⟩ | ⟨hl, _, rfl⟩ | ⟨v, t, hl, hv, _, _, _, rfl⟩ <;> rw [hl]
  · rfl
  · exact (beq_self_eq_true _).symm
  · exact (beq_eq_false_iff_ne.2 (fun e => hv (Option.some.inj e))).symm

theorem retargetAll_spec {cfg : Cfg} {n : Nat} {idx : List Nat} {e : Nat} :
    ∀ {l l' : List Instr} {f : Bool}, retargetAll cfg n idx e l = .ok (l', f) →
    l' = l.map (patchOne cfg n idx e) ∧ f = l.any (fun i => lineOf cfg i == some (n : Int)) ∧
      ∀ i ∈ l, ∃ i' fl, retargetOne cfg n idx e i = .ok (i', fl) := by
  intro l
  induction l with
  | nil => intro l' f h; cases h; exact ⟨rfl, rfl, fun _ hi => nomatch hi⟩
  | cons x xs ih =>
    intro l' f h
    unfold retargetAll at h
    split at h
    · cases h
    · rename_i x' fx h1
      split at h
      · cases h
      · rename_i xs' fxs h2
        cases h
        obtain ⟨ih1, ih2, ih3⟩ := ih h2
        refine ⟨?_, ?_, fun i hi => ?_⟩
        · rw [ih1]; simp [patchOne, h1]
        · rw [ih2, retargetOne_flag h1]; simp
        · rcases List.mem_cons.1 hi with rfl | hm
          · exact ⟨x', fx, h1⟩
          · exact ih3 i hm

theorem patchOne_noLine {cfg n idx e i} (h : lineOf cfg i = none) : patchOne cfg n idx e i = i := by
  simp [patchOne, retargetOne, h]

end NQ.Tr
