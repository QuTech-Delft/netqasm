/-
Meaning of the Boolean checks of Model/Gates: `equivUpToScalarV u v = true` really says
"u and v are proportional with non-zero factors"; and `angleK` as one exact division (`angleK_eq`).
-/
import NetqasmVerif.Model.Gates
namespace NQ

theorem Cyc.mulz_eq (x y : Cyc) : Cyc.mulz x y = x * y := by
  unfold Cyc.mulz
  split
  · rename_i h
    rw [Bool.or_eq_true, Cyc.isZero_iff, Cyc.isZero_iff] at h
    rcases h with rfl | rfl
    · show Cyc.zero = Cyc.mul Cyc.zero y
      simp [Cyc.mul, Cyc.zero]
    · show Cyc.zero = Cyc.mul x Cyc.zero
      simp [Cyc.mul, Cyc.zero]
  · rfl

theorem firstNonzero_spec (l : List Cyc) (i p : Nat) (b : Cyc)
    (h : firstNonzero l i = some (p, b)) : b ≠ 0 ∧ i ≤ p ∧ l.getD (p - i) 0 = b := by
  induction l generalizing i with
  | nil => simp [firstNonzero] at h
  | cons x xs ih =>
    unfold firstNonzero at h
    split at h
    · obtain ⟨h1, h2, h3⟩ := ih (i + 1) h
      refine ⟨h1, by omega, ?_⟩
      have : p - i = (p - (i + 1)) + 1 := by omega
      rw [this]; simpa using h3
    · rename_i hx
      simp only [Option.some.injEq, Prod.mk.injEq] at h
      obtain ⟨rfl, rfl⟩ := h
      refine ⟨?_, Nat.le_refl _, by simp⟩
      intro h0
      apply hx
      rw [Cyc.isZero_iff]; exact h0

theorem allCross_spec (a b : Cyc) (u v : List Cyc) (h : allCross a b u v = true) :
    u.length = v.length ∧ ∀ i, u.getD i 0 * b = v.getD i 0 * a ∨ u.length ≤ i := by
  induction u generalizing v with
  | nil =>
    cases v with
    | nil => exact ⟨rfl, fun i => Or.inr (Nat.zero_le _)⟩
    | cons y ys => simp [allCross] at h
  | cons x xs ih =>
    cases v with
    | nil => simp [allCross] at h
    | cons y ys =>
      simp only [allCross, Bool.and_eq_true, beq_iff_eq] at h
      obtain ⟨hl, hi⟩ := ih ys h.2
      refine ⟨by simp [hl], ?_⟩
      intro i
      cases i with
      | zero => left; simpa using h.1
      | succ j =>
        rcases hi j with h' | h'
        · left; simpa using h'
        · right; simp; omega

/-- in the domain ℤ[ζ₈] ⊂ ℂ the conclusion says `u = (a/b)·v` -/
theorem equivUpToScalarV_sound (u v : Vec) (h : equivUpToScalarV u v = true) :
    ∃ a b : Cyc, a ≠ 0 ∧ b ≠ 0 ∧ u.length = v.length ∧
      ∀ i, i < u.length → u.getD i 0 * b = v.getD i 0 * a := by
  unfold equivUpToScalarV at h
  split at h
  · simp at h
  · rename_i p b hf
    simp only [Bool.and_eq_true, Bool.not_eq_true', ] at h
    obtain ⟨ha, hc⟩ := h
    obtain ⟨hb, _, _⟩ := firstNonzero_spec v 0 p b hf
    obtain ⟨hl, hi⟩ := allCross_spec _ _ _ _ hc
    refine ⟨u.getD p 0, b, ?_, hb, hl, ?_⟩
    · intro h0
      have : (u.getD p 0).isZero = true := by rw [Cyc.isZero_iff]; exact h0
      rw [this] at ha; cases ha
    · intro i hlt
      rcases hi i with h' | h'
      · exact h'
      · omega

/-- `angleK` without the split on `d ≤ 2`: the angle `n·π/2^d` is `(4n/2^d)·π/4` when that quotient is exact -/
theorem angleK_eq (n d : Nat) :
    angleK n d = if 2 ^ d ∣ n * 4 then some (n * 4 / 2 ^ d % 8) else none := by
  unfold angleK
  by_cases hd : d ≤ 2
  · have e : n * 4 = n * 2 ^ (2 - d) * 2 ^ d := by
      rw [Nat.mul_assoc, ← Nat.pow_add, Nat.sub_add_cancel hd]
    rw [if_pos hd, if_pos (e ▸ Nat.dvd_mul_left _ _), e, Nat.mul_div_cancel _ (Nat.two_pow_pos d)]
  · have e : 2 ^ d = 2 ^ (d - 2) * 4 := by
      rw [show d = d - 2 + 2 by omega, Nat.pow_add]; rfl
    simp only [if_neg hd, e, Nat.mul_dvd_mul_iff_right (show 0 < 4 by decide),
      Nat.mul_div_mul_right _ _ (show 0 < 4 by decide), Nat.dvd_iff_mod_eq_zero]

end NQ
