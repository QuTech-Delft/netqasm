/-
C03, part 4: `_assign_branch_labels` is a simulation (labels disappear, every branch lands on
the command that followed its label): `localSim_assignLabels`.
-/
import NetqasmVerif.Lemmas.AsmSim1
namespace NQ.Asm
open NQ

theorem filterMap_patch_label (tbl : List (String × Nat)) (l : String) (ys : List PCmd) :
    (PCmd.label l :: ys).filterMap (patchCmd tbl) = ys.filterMap (patchCmd tbl) := rfl

theorem filterMap_patch_get {tbl : List (String × Nat)} {P : List PCmd} {i : Nat} {mn : String}
    {a : List Int} {ops : List POperand} (h : P[i]? = some (.instr mn a ops)) :
    (P.filterMap (patchCmd tbl))[tpos2 P i]? = some (.instr mn a (ops.map (patchOp tbl))) := by
  induction P generalizing i with
  | nil => simp at h
  | cons y ys ih =>
    cases i with
    | zero =>
      simp at h; subst h
      simp [tpos2, patchCmd]
    | succ k =>
      simp at h
      rw [tpos2_cons_succ]
      cases y with
      | label l =>
        rw [filterMap_patch_label]; simpa [len2] using ih h
      | instr mn' a' o' =>
        simp only [List.filterMap_cons, patchCmd, len2]
        rw [Nat.add_comm, List.getElem?_cons_succ]
        exact ih h

theorem filterMap_patch_length (tbl : List (String × Nat)) (P : List PCmd) :
    (P.filterMap (patchCmd tbl)).length = tpos2 P P.length := by
  induction P with
  | nil => simp [tpos2]
  | cons y ys ih =>
    rw [List.length_cons, tpos2_cons_succ]
    cases y with
    | label l =>
      rw [filterMap_patch_label]; simpa [len2] using ih
    | instr mn a o => simp only [List.filterMap_cons, patchCmd, len2, List.length_cons, ih]; omega

/-- `labels_correct` (pass level): the table entry of a label is the number of real commands
before it -/
theorem lookup_labelTable (P : List PCmd) (n : Nat) (l : String) :
    lookupLabel (labelTable P n) l = (labelIdx P l).map (fun k => n + tpos2 P k) := by
  induction P generalizing n with
  | nil => simp [labelTable, lookupLabel, labelIdx]
  | cons y ys ih =>
    cases y with
    | label l' =>
      simp only [labelTable, lookupLabel, labelIdx]
      by_cases e : l' = l
      · simp [e, tpos2]
      · simp only [e, if_false, ih, Option.map_map]
        congr 1; funext k
        simp [tpos2_cons_succ, len2]
    | instr mn a o =>
      simp only [labelTable, labelIdx, ih, Option.map_map]
      congr 1; funext k
      simp [tpos2_cons_succ, len2]; omega

/-- **label resolution is exact**: the operand `l` is patched with the number of real commands in
front of the first definition of exactly the name `l` (string equality; names differing in case, prefixes,
suffixes play no role), and left alone when there is none -/
theorem patchOp_label_exact (P : List PCmd) (l : String) :
    (∀ k, (P[k]? = some (.label l) ∧ ∀ j, j < k → P[j]? ≠ some (.label l)) →
      patchOp (labelTable P 0) (.lab l) = .lit (tpos2 P k : Nat)) ∧
    (PCmd.label l ∉ P → patchOp (labelTable P 0) (.lab l) = .lab l) := by
  constructor
  · intro k hk
    have := labelIdx_some_iff.2 hk
    simp [patchOp, lookup_labelTable, this]
  · intro h
    simp [patchOp, lookup_labelTable, labelIdx_none_iff.2 h]

theorem evalOp_patchOp {tbl : List (String × Nat)} {ρ : Regs} {role : Role} {o : POperand} {v : Val}
    (h : evalOp ρ role o = some v) : evalOp ρ role (patchOp tbl o) = some v := by
  cases o with
  | lab l =>
    simp only [patchOp]
    cases lookupLabel tbl l with
    | none => exact h
    | some n => cases role <;> simp only [evalOp] at h ⊢ <;> first | exact h | cases h
  | _ => exact h

theorem evalOps_patchOp {tbl : List (String × Nat)} {ρ : Regs} {rs : List Role} {ops : List POperand}
    {vals : List Val} (h : evalOps ρ rs ops = some vals) :
    evalOps ρ rs (ops.map (patchOp tbl)) = some vals := by
  induction ops generalizing rs vals with
  | nil => exact h
  | cons o os ih =>
    cases rs with
    | nil => cases h
    | cons r rs' =>
      obtain ⟨v, vs, e1, e2, rfl⟩ := evalOps_cons_some h
      simp only [List.map_cons, evalOps, evalOp_patchOp e1, ih e2]

theorem dstOf_patchOp (tbl : List (String × Nat)) (rs : List Role) (ops : List POperand) :
    dstOf rs (ops.map (patchOp tbl)) = dstOf rs ops := by
  refine dstOf_map (fun o r => ?_) rs ops
  cases o with
  | lab l => simp only [patchOp]; cases lookupLabel tbl l <;> simp
  | _ => rfl

theorem tgtOf_patchOp (tbl : List (String × Nat)) (rs : List Role) (ops : List POperand) :
    tgtOf rs (ops.map (patchOp tbl)) = (tgtOf rs ops).map (patchOp tbl) :=
  tgtOf_map _ rs ops

theorem allOps_patchOp (tbl : List (String × Nat)) (args : List Int) (ops : List POperand) :
    allOps args (ops.map (patchOp tbl)) = (allOps args ops).map (patchOp tbl) := by
  simp only [allOps, List.map_append, List.map_map]
  rfl

theorem assignBranchLabels_ok {P1 P2 : List PCmd} (h : assignBranchLabels P1 = .ok P2) :
    P2 = P1.filterMap (patchCmd (labelTable P1 0)) := by
  simp only [assignBranchLabels] at h
  split at h
  · cases h
  · simp only [Except.ok.injEq] at h; exact h.symm

theorem sim2_instr {P1 P2 : List PCmd} (h2 : assignBranchLabels P1 = .ok P2) {i : Nat} {mn : String}
    {args : List Int} {ops : List POperand} (hg : P1[i]? = some (.instr mn args ops)) {ρ : Regs} {rs : List Role}
    {vals : List Val} (he : evalOps ρ rs (allOps args ops) = some vals) :
    P2[tpos2 P1 i]? = some (.instr mn args (ops.map (patchOp (labelTable P1 0)))) ∧
      evalOps ρ rs (allOps args (ops.map (patchOp (labelTable P1 0)))) = some vals :=
  ⟨assignBranchLabels_ok h2 ▸ filterMap_patch_get hg, allOps_patchOp _ _ _ ▸ evalOps_patchOp he⟩

/-- `_assign_branch_labels`, command by command: a label disappears, an instruction stays with its label
operands patched; a taken branch lands on the command that followed its label -/
theorem localSim_assignLabels {M : Type} {mc : Machine M} {P1 P2 : List PCmd} (hlt : LabelTargets mc P1) (h2 : assignBranchLabels P1 = .ok P2) :
    LocalSim mc Eq P1 P2 (tpos2 P1) where
  mem h := h ▸ rfl
  wb _ _ _ h := h ▸ rfl
  label _ t hg := by rw [tpos2_succ hg]; exact .refl _
  instr hg hr he e := by
    subst e
    obtain ⟨hg2, he2⟩ := sim2_instr h2 hg he
    refine ⟨_, _, _, _, .refl _, rfl, Nat.le_refl _, (tpos2_succ hg).symm, hg2, he2,
      by rw [allOps_patchOp, dstOf_patchOp], fun n hn => ?_⟩
    rcases jumpTarget_some hn with ⟨l, k, htg, hk, rfl⟩ | ⟨v, htg⟩
    · have hlk : lookupLabel (labelTable P1 0) l = some (tpos2 P1 k) := by
        rw [lookup_labelTable, hk]; simp
      simp [jumpTarget, allOps_patchOp, tgtOf_patchOp, htg, patchOp, hlk, tpos2_succ (labelIdx_spec hk), len2]
    · exact absurd htg (hlt _ _ _ _ v (List.mem_of_getElem? hg) hr)

theorem labelTargets_rcAll {M : Type} {mc : Machine M} (hs : SetOk mc) {c : RcCfg} {P P1 : List PCmd}
    (hna : NoArgs P) (hlt : LabelTargets mc P) (h1 : rcAll c P = .ok P1) : LabelTargets mc P1 := by
  induction P generalizing P1 with
  | nil =>
    cases h1
    intro mn args ops rs v hm; cases hm
  | cons y ys ih =>
    obtain ⟨cy, R, hc, h2, rfl⟩ := rcAll_cons h1
    have hR := ih (fun mn a o hm => hna mn a o (List.mem_cons_of_mem _ hm))
      (fun mn a o rs v hm => hlt mn a o rs v (List.mem_cons_of_mem _ hm)) h2
    intro mn args ops rs v hm hr
    rcases List.mem_append.1 hm with hm | hm
    · cases y with
      | label l =>
        cases hc
        simp at hm
      | instr mn' a' o' =>
        obtain ⟨sets, ops', tmp', hro, rfl⟩ := rcCmd_instr_spec hc
        have ha' : a' = [] := hna mn' a' o' (by simp)
        subst ha'
        simp only [List.mem_append, List.mem_map, List.mem_singleton] at hm
        rcases hm with ⟨rv, _, hrv⟩ | hm
        · simp only [setCmd, PCmd.instr.injEq] at hrv
          obtain ⟨rfl, rfl, rfl⟩ := hrv
          rw [hs.roles_set] at hr
          cases hr
          simp [allOps, tgtOf]
        · cases hm
          intro htg
          simp only [allOps, List.map_nil, List.nil_append] at htg
          have := tgtOf_patched_lit (rcOps_spec hro).2.1 htg
          exact hlt mn [] o' rs v (by simp) hr (by simpa [allOps] using this)
    · exact hR mn args ops rs v hm hr

theorem noArgs_makeArgs (P : List PCmd) : NoArgs (makeArgsOperands P) := by
  intro mn args ops hm
  simp only [makeArgsOperands, List.mem_map] at hm
  obtain ⟨c, _, hc⟩ := hm
  cases c with
  | label l => simp [makeArgsCmd] at hc
  | instr mn' a' o' => simp only [makeArgsCmd, PCmd.instr.injEq] at hc; exact hc.2.1.symm

theorem labelTargets_makeArgs {M : Type} {mc : Machine M} {P : List PCmd} (h : LabelTargets mc P) :
    LabelTargets mc (makeArgsOperands P) := by
  intro mn args ops rs v hm hr
  simp only [makeArgsOperands, List.mem_map] at hm
  obtain ⟨c, hcm, hc⟩ := hm
  cases c with
  | label l => simp [makeArgsCmd] at hc
  | instr mn' a' o' =>
    simp only [makeArgsCmd, PCmd.instr.injEq] at hc
    obtain ⟨rfl, rfl, rfl⟩ := hc
    have := h mn' a' o' rs v hcm hr
    simpa [allOps] using this

theorem labelIdx_makeArgs (P : List PCmd) (l : String) : labelIdx (makeArgsOperands P) l = labelIdx P l := by
  induction P with
  | nil => rfl
  | cons y ys ih =>
    cases y with
    | label l' => simp only [makeArgsOperands, List.map_cons, makeArgsCmd, labelIdx] at ih ⊢; rw [ih]
    | instr mn a o => simp only [makeArgsOperands, List.map_cons, makeArgsCmd, labelIdx] at ih ⊢; rw [ih]

/-- `instr(args) ops` means `instr args ops`: merging the brackets does not change a step -/
theorem step_makeArgs {M : Type} (mc : Machine M) (P : List PCmd) (s : State M) (pc : Nat) :
    step mc (makeArgsOperands P) s pc = step mc P s pc := by
  unfold step
  simp only [makeArgsOperands, List.getElem?_map]
  cases hg : P[pc]? with
  | none => rfl
  | some c =>
    cases c with
    | label l => rfl
    | instr mn a o =>
      have e : allOps [] (allOps a o) = allOps a o := by simp [allOps]
      have j : ∀ rs, jumpTarget (List.map makeArgsCmd P) rs (allOps a o) = jumpTarget P rs (allOps a o) := by
        intro rs
        have := labelIdx_makeArgs P
        simp only [makeArgsOperands] at this
        simp only [jumpTarget, this]
      simp only [Option.map_some, makeArgsCmd, e, j]

end NQ.Asm
