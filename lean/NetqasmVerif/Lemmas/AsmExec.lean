/-
C03 ↔ C04: the executor model `Model/Exec.lean` (`Exec.stepLoc`, simulation mode) as an instance of
the parametric machine of `Model/Asm.lean`.

* `XMem` is an `Exec.Loc` without its register file; `conc` puts the two halves together
  (the refinement map: `Asm.State XMem → Exec.Loc`, registers restricted to the 4 × 16 file).
* `xExec` is the instruction semantics of `Exec.stepLoc` written on *evaluated* operands; it is
  not trusted: `stepCorr_classical` proves, instruction by instruction, that a step of `xMachine`
  (of any machine that has its instructions, `Classical`) on the read-back of an `Exec` program IS
  the `Exec.stepLoc` step.
* The proof has one part that does not depend on the instruction (`stepCorr_of_resCorr`: `step` reads
  operands, writes the destination and moves the pc the same way for every role list) and one lemma
  per shape of `xExec` result (`resCorr_*`), shared by the instructions of that shape.
-/
import NetqasmVerif.Model.Exec
import NetqasmVerif.Lemmas.AsmBuild
namespace NQ.Asm
open NQ

structure XMem where
  arrays : Int → Option (List Exec.Val)
  shmRegs : Exec.XReg → Exec.Val
  shmArrs : Int → Option Exec.ShmArr
  unit : List (Option Nat)
  used : List Nat
  oracle : List Int
  trace : List Exec.Ev

def ofX (x : Exec.XReg) : Reg := ⟨x.bank.val, (x.idx.val : Int)⟩

def toX? (r : Reg) : Option Exec.XReg :=
  if h : r.bank < 4 then
    (if h2 : 0 ≤ r.idx ∧ r.idx < 16 then some ⟨⟨r.bank, h⟩, ⟨r.idx.toNat, by omega⟩⟩ else none)
  else none

/-- the 4 × 16 register file seen by the executor -/
def absRegs (ρ : Regs) : Exec.XReg → Exec.Val := fun x => ρ (ofX x)

def conc (s : State XMem) : Exec.Loc :=
  ⟨⟨absRegs s.regs, s.mem.arrays, s.mem.shmRegs, s.mem.shmArrs, s.mem.unit⟩, s.mem.used, s.mem.oracle,
    s.mem.trace⟩

theorem ofX_inj {x y : Exec.XReg} (h : ofX x = ofX y) : x = y := by
  obtain ⟨⟨b, hb⟩, ⟨i, hi⟩⟩ := x
  obtain ⟨⟨b', hb'⟩, ⟨i', hi'⟩⟩ := y
  simp only [ofX, Reg.mk.injEq] at h
  obtain ⟨h1, h2⟩ := h
  have : i = i' := by omega
  subst h1; subst this; rfl

theorem toX_ofX (x : Exec.XReg) : toX? (ofX x) = some x := by
  obtain ⟨⟨b, hb⟩, ⟨i, hi⟩⟩ := x
  have h2 : (0 : Int) ≤ (i : Int) ∧ (i : Int) < 16 := by omega
  simp [toX?, ofX, hb, h2]

theorem absRegs_upd (ρ : Regs) (x : Exec.XReg) (v : Option Int) :
    absRegs (upd ρ (ofX x) v) = Exec.upd (absRegs ρ) x v := by
  funext y
  simp only [absRegs, upd, Exec.upd]
  by_cases h : y = x
  · simp [h]
  · have : ofX y ≠ ofX x := fun e => h (ofX_inj e)
    simp [h, this]

/-! ### fault kinds as numbers (the machine's faults are `Nat`) -/

def faultCode : Exec.Fault → Nat
  | .undefReg => 1 | .undefEntry => 2 | .badModulus => 3 | .doubleAlloc => 4 | .notAlloc => 5
  | .alreadyReg => 6 | .index => 7 | .noArray => 8 | .unitIndex => 9 | .outsideUnit => 10
  | .assertion => 11 | .typeError => 12 | .overflow => 13 | .noApp => 14 | .usedKey => 15 | .fetch => 16

theorem faultCode_eq (f : Exec.Fault) : faultCode f = f.ctorIdx + 1 := by cases f <;> rfl

theorem faultCode_inj {f g : Exec.Fault} (h : faultCode f = faultCode g) : f = g := by
  have := congrArg Exec.Fault.ofNat (Nat.succ.inj (faultCode_eq f ▸ faultCode_eq g ▸ h))
  rwa [Exec.Fault.ofNat_ctorIdx, Exec.Fault.ofNat_ctorIdx] at this

def xf {M : Type} (f : Exec.Fault) : Res M := .fault (faultCode f)

def xArith (x y : Option Int) (m : XMem) (f : Int → Int → Int) : Res XMem :=
  match x, y with
  | some a, some b => .ok (some (f a b)) m false
  | _, _ => xf .assertion

def xArithm (x y md : Option Int) (m : XMem) (f : Int → Int → Int) : Res XMem :=
  match md with
  | some mv =>
    if mv < 1 then xf .badModulus
    else match x, y with
      | some a, some b => .ok (some (f a b % mv)) m false
      | _, _ => xf .assertion
  | none => xf .assertion

def xLoad (a : Int) (i : Option Int) (m : XMem) : Res XMem :=
  match i with
  | none => xf .undefReg
  | some k =>
    match m.arrays a with
    | none => xf .undefEntry
    | some arr =>
      match Exec.pyIdx arr.length k with
      | none => xf .index
      | some p =>
        match arr[p]?.join with
        | none => xf .undefEntry
        | some v => .ok (some v) m false

def xStore (val : Option Int) (a : Int) (i : Option Int) (m : XMem) : Res XMem :=
  match val with
  | none => xf .undefReg
  | some v =>
    match i with
    | none => xf .undefReg
    | some k =>
      match m.arrays a with
      | none => xf .noArray
      | some arr =>
        match Exec.pyIdx arr.length k with
        | none => xf .index
        | some p => .ok none { m with arrays := Exec.upd m.arrays a (some (arr.set p (some v))) } false

def xUndef (a : Int) (i : Option Int) (m : XMem) : Res XMem :=
  match i with
  | none => xf .undefReg
  | some k =>
    match m.arrays a with
    | none => xf .noArray
    | some arr =>
      match Exec.pyIdx arr.length k with
      | none => xf .index
      | some p => .ok none { m with arrays := Exec.upd m.arrays a (some (arr.set p none)) } false

def xFreeze (m : XMem) (a : Int) : Option Exec.ShmArr :=
  match m.shmArrs a with
  | some .live => some (.frozen ((m.arrays a).getD []))
  | o => o

def xArray (n : Option Int) (a : Int) (m : XMem) : Res XMem :=
  match n with
  | none => xf .assertion
  | some k =>
    .ok none { m with arrays := Exec.upd m.arrays a (some (List.replicate k.toNat none)),
                      shmArrs := Exec.upd m.shmArrs a (xFreeze m a) } false

def xBrCmp (x y : Option Int) (m : XMem) (c : Int → Int → Bool) : Res XMem :=
  match x, y with
  | some u, some v => .ok none m (c u v)
  | _, _ => xf .typeError

def xRetReg (r : Reg) (v : Option Int) (m : XMem) : Res XMem :=
  match v with
  | none => xf .undefReg
  | some w =>
    match toX? r with
    | some x => .ok none { m with shmRegs := Exec.upd m.shmRegs x (some w) } false
    | none => xf .fetch

def xRetArr (a : Int) (m : XMem) : Res XMem :=
  match m.arrays a with
  | none => xf .noArray
  | some _ => .ok none { m with shmArrs := Exec.upd m.shmArrs a (some .live) } false

def xQalloc (q : Option Int) (m : XMem) : Res XMem :=
  match q with
  | none => xf .undefReg
  | some v =>
    if v ≥ m.unit.length then xf .outsideUnit
    else match Exec.pyIdx m.unit.length v with
      | none => xf .unitIndex
      | some p =>
        match m.unit[p]?.join with
        | some _ => xf .doubleAlloc
        | none =>
          .ok none { m with unit := m.unit.set p (some (Exec.firstUnused m.used)),
                            used := Exec.sadd (Exec.firstUnused m.used) m.used } false

def xQfree (q : Option Int) (m : XMem) : Res XMem :=
  match q with
  | none => xf .assertion
  | some v =>
    match Exec.pyIdx m.unit.length v with
    | none => xf .unitIndex
    | some p =>
      match m.unit[p]?.join with
      | none => xf .notAlloc
      | some ph =>
        if ph ∈ m.used then .ok none { m with unit := m.unit.set p none, used := Exec.srem ph m.used } false
        else xf .usedKey

def xExec (mn : String) (vals : List Val) (m : XMem) : Res XMem :=
  if mn = "set" then (match vals with | [.dst, .imm v] => .ok (some v) m false | _ => xf .fetch)
  else if mn = "lea" then (match vals with | [.dst, .addr a] => .ok (some a) m false | _ => xf .fetch)
  else if mn = "load" then (match vals with | [.dst, .entry a i] => xLoad a i m | _ => xf .fetch)
  else if mn = "store" then (match vals with | [.use v, .entry a i] => xStore v a i m | _ => xf .fetch)
  else if mn = "undef" then (match vals with | [.entry a i] => xUndef a i m | _ => xf .fetch)
  else if mn = "array" then (match vals with | [.use n, .addr a] => xArray n a m | _ => xf .fetch)
  else if mn = "add" then (match vals with | [.dst, .use x, .use y] => xArith x y m (· + ·) | _ => xf .fetch)
  else if mn = "sub" then (match vals with | [.dst, .use x, .use y] => xArith x y m (· - ·) | _ => xf .fetch)
  else if mn = "addm" then
    (match vals with | [.dst, .use x, .use y, .use d] => xArithm x y d m (· + ·) | _ => xf .fetch)
  else if mn = "subm" then
    (match vals with | [.dst, .use x, .use y, .use d] => xArithm x y d m (· - ·) | _ => xf .fetch)
  else if mn = "jmp" then (match vals with | [.tgt] => .ok none m true | _ => xf .fetch)
  else if mn = "bez" then (match vals with | [.use x, .tgt] => .ok none m (x == some 0) | _ => xf .fetch)
  else if mn = "bnz" then (match vals with | [.use x, .tgt] => .ok none m (x != some 0) | _ => xf .fetch)
  else if mn = "beq" then (match vals with | [.use x, .use y, .tgt] => .ok none m (x == y) | _ => xf .fetch)
  else if mn = "bne" then (match vals with | [.use x, .use y, .tgt] => .ok none m (x != y) | _ => xf .fetch)
  else if mn = "blt" then
    (match vals with | [.use x, .use y, .tgt] => xBrCmp x y m (fun u v => decide (u < v)) | _ => xf .fetch)
  else if mn = "bge" then
    (match vals with | [.use x, .use y, .tgt] => xBrCmp x y m (fun u v => decide (u ≥ v)) | _ => xf .fetch)
  else if mn = "ret_reg" then (match vals with | [.named r v] => xRetReg r v m | _ => xf .fetch)
  else if mn = "ret_arr" then (match vals with | [.addr a] => xRetArr a m | _ => xf .fetch)
  else if mn = "qalloc" then (match vals with | [.use q] => xQalloc q m | _ => xf .fetch)
  else if mn = "qfree" then (match vals with | [.use q] => xQfree q m | _ => xf .fetch)
  else xf .fetch

def xMachine : Machine XMem := ⟨stdRoles, xExec⟩

/-! ### `xExec` on each mnemonic

(`unfold`, then the string comparisons: `simp only [xExec]` would generate the equation lemmas of
the 21 matchers of `xExec` in every proof again.) -/

theorem xExec_set (v : Int) (m : XMem) : xExec "set" [.dst, .imm v] m = .ok (some v) m false := by
  unfold xExec; simp only [String.reduceEq, reduceIte]

theorem xExec_lea (a : Int) (m : XMem) : xExec "lea" [.dst, .addr a] m = .ok (some a) m false := by
  unfold xExec; simp only [String.reduceEq, reduceIte]

theorem xExec_load (a : Int) (i : Option Int) (m : XMem) : xExec "load" [.dst, .entry a i] m = xLoad a i m := by
  unfold xExec; simp only [String.reduceEq, reduceIte]

theorem xExec_store (v : Option Int) (a : Int) (i : Option Int) (m : XMem) :
    xExec "store" [.use v, .entry a i] m = xStore v a i m := by
  unfold xExec; simp only [String.reduceEq, reduceIte]

theorem xExec_undef (a : Int) (i : Option Int) (m : XMem) : xExec "undef" [.entry a i] m = xUndef a i m := by
  unfold xExec; simp only [String.reduceEq, reduceIte]

theorem xExec_array (n : Option Int) (a : Int) (m : XMem) : xExec "array" [.use n, .addr a] m = xArray n a m := by
  unfold xExec; simp only [String.reduceEq, reduceIte]

theorem xExec_add (x y : Option Int) (m : XMem) : xExec "add" [.dst, .use x, .use y] m = xArith x y m (· + ·) := by
  unfold xExec; simp only [String.reduceEq, reduceIte]

theorem xExec_sub (x y : Option Int) (m : XMem) : xExec "sub" [.dst, .use x, .use y] m = xArith x y m (· - ·) := by
  unfold xExec; simp only [String.reduceEq, reduceIte]

theorem xExec_addm (x y d : Option Int) (m : XMem) :
    xExec "addm" [.dst, .use x, .use y, .use d] m = xArithm x y d m (· + ·) := by
  unfold xExec; simp only [String.reduceEq, reduceIte]

theorem xExec_subm (x y d : Option Int) (m : XMem) :
    xExec "subm" [.dst, .use x, .use y, .use d] m = xArithm x y d m (· - ·) := by
  unfold xExec; simp only [String.reduceEq, reduceIte]

theorem xExec_jmp (m : XMem) : xExec "jmp" [.tgt] m = .ok none m true := by
  unfold xExec; simp only [String.reduceEq, reduceIte]

theorem xExec_bez (x : Option Int) (m : XMem) : xExec "bez" [.use x, .tgt] m = .ok none m (x == some 0) := by
  unfold xExec; simp only [String.reduceEq, reduceIte]

theorem xExec_bnz (x : Option Int) (m : XMem) : xExec "bnz" [.use x, .tgt] m = .ok none m (x != some 0) := by
  unfold xExec; simp only [String.reduceEq, reduceIte]

theorem xExec_beq (x y : Option Int) (m : XMem) : xExec "beq" [.use x, .use y, .tgt] m = .ok none m (x == y) := by
  unfold xExec; simp only [String.reduceEq, reduceIte]

theorem xExec_bne (x y : Option Int) (m : XMem) : xExec "bne" [.use x, .use y, .tgt] m = .ok none m (x != y) := by
  unfold xExec; simp only [String.reduceEq, reduceIte]

theorem xExec_blt (x y : Option Int) (m : XMem) :
    xExec "blt" [.use x, .use y, .tgt] m = xBrCmp x y m (fun u v => decide (u < v)) := by
  unfold xExec; simp only [String.reduceEq, reduceIte]

theorem xExec_bge (x y : Option Int) (m : XMem) :
    xExec "bge" [.use x, .use y, .tgt] m = xBrCmp x y m (fun u v => decide (u ≥ v)) := by
  unfold xExec; simp only [String.reduceEq, reduceIte]

theorem xExec_retReg (r : Reg) (v : Option Int) (m : XMem) : xExec "ret_reg" [.named r v] m = xRetReg r v m := by
  unfold xExec; simp only [String.reduceEq, reduceIte]

theorem xExec_retArr (a : Int) (m : XMem) : xExec "ret_arr" [.addr a] m = xRetArr a m := by
  unfold xExec; simp only [String.reduceEq, reduceIte]

theorem xExec_qalloc (q : Option Int) (m : XMem) : xExec "qalloc" [.use q] m = xQalloc q m := by
  unfold xExec; simp only [String.reduceEq, reduceIte]

theorem xExec_qfree (q : Option Int) (m : XMem) : xExec "qfree" [.use q] m = xQfree q m := by
  unfold xExec; simp only [String.reduceEq, reduceIte]

def rX (x : Exec.XReg) : POperand := .reg (ofX x)
def eX (a : Int) (i : Exec.XReg) : POperand := .entry a (.reg (ofX i))

/-- instructions outside the scope of C03 (quantum gates, measurement) read back as a command
without roles: the machine is stuck on them, so no claim is made -/
def ofExec : Exec.Instr → PCmd
  | .set r v => .instr "set" [] [rX r, .lit v]
  | .load r a i => .instr "load" [] [rX r, eX a i]
  | .store r a i => .instr "store" [] [rX r, eX a i]
  | .lea r a => .instr "lea" [] [rX r, .addr a]
  | .undef a i => .instr "undef" [] [eX a i]
  | .array n a => .instr "array" [] [rX n, .addr a]
  | .add d x y => .instr "add" [] [rX d, rX x, rX y]
  | .sub d x y => .instr "sub" [] [rX d, rX x, rX y]
  | .addm d x y m => .instr "addm" [] [rX d, rX x, rX y, rX m]
  | .subm d x y m => .instr "subm" [] [rX d, rX x, rX y, rX m]
  | .bez r t => .instr "bez" [] [rX r, .lit t]
  | .bnz r t => .instr "bnz" [] [rX r, .lit t]
  | .beq x y t => .instr "beq" [] [rX x, rX y, .lit t]
  | .bne x y t => .instr "bne" [] [rX x, rX y, .lit t]
  | .blt x y t => .instr "blt" [] [rX x, rX y, .lit t]
  | .bge x y t => .instr "bge" [] [rX x, rX y, .lit t]
  | .jmp t => .instr "jmp" [] [.lit t]
  | .retReg r => .instr "ret_reg" [] [rX r]
  | .retArr a => .instr "ret_arr" [] [.addr a]
  | .qalloc r => .instr "qalloc" [] [rX r]
  | .qfree r => .instr "qfree" [] [rX r]
  | _ => .instr "" [] []

/-- multi-step execution of the executor model itself (`Exec.stepLoc`, simulation mode) -/
inductive XSteps (a : Nat) (X : List Exec.Instr) : Exec.Loc × Int → Exec.Loc × Int → Prop
  | refl (c : Exec.Loc × Int) : XSteps a X c c
  | step {l l' : Exec.Loc} {k : Nat} {pc' : Int} {x : Exec.Instr} {c : Exec.Loc × Int} :
      X[k]? = some x → Exec.stepLoc false a x l (k : Int) = .ok l' pc' → XSteps a X (l', pc') c →
      XSteps a X (l, (k : Int)) c

theorem XSteps.trans {a : Nat} {X : List Exec.Instr} {c1 c2 c3 : Exec.Loc × Int}
    (h1 : XSteps a X c1 c2) (h2 : XSteps a X c2 c3) : XSteps a X c1 c3 := by
  induction h1 with
  | refl _ => exact h2
  | step hx hs _ ih => exact .step hx hs (ih h2)

def lresKind : Exec.LRes → Option Nat
  | .fault _ g => some (faultCode g)
  | .ok _ _ => none

/-- what is proved for each instruction `x` at position `k` of a read-back program, on a machine
over `XMem` (`xMachine` here, `qMachine` in `Lemmas/AsmExecQ.lean`) -/
def StepCorr (mc : Machine XMem) (a : Nat) (x : Exec.Instr) (Q : List PCmd) (t : State XMem) (k : Nat) : Prop :=
  (∀ t' pc', step mc Q t k = .next t' pc' →
      Exec.stepLoc false a x (conc t) (k : Int) = .ok (conc t') (pc' : Int)) ∧
  (∀ f, step mc Q t k = .fault f → lresKind (Exec.stepLoc false a x (conc t) (k : Int)) = some f)

theorem absRegs_apply (ρ : Regs) (x : Exec.XReg) : absRegs ρ x = ρ (ofX x) := rfl

macro "xprelude" hg:ident t:ident rl:term "," vs:term : tactic =>
  `(tactic| (
    simp only [ofExec] at $hg:ident
    have hs := step_instr (mc := xMachine) (s := $t) $hg (roles_x _ $rl (by decide)) (vals := $vs) rfl
    simp only [xMachine, xExec, allOps, List.map_nil, List.nil_append] at hs
    simp at hs
    change step xMachine _ _ _ = _ at hs
    unfold StepCorr
    rw [hs]))

/-- `L`, the executor's result at `pc = k`, is what `step` makes of the result `r` of `exec` for a
command with destination `d` and jump target `jt`: a fault of the same kind, or `out` written to `d`
and execution going on at `jt` if `r` jumps, at `k + 1` otherwise. -/
def ResCorr (t : State XMem) (k : Nat) (d : Option Reg) (jt : Option Nat) (r : Res XMem) (L : Exec.LRes) : Prop :=
  match r with
  | .fault f => lresKind L = some f
  | .ok out m j => ∀ pc' : Nat, (if j then jt else some (k + 1)) = some pc' →
      L = .ok (conc ⟨writeBack t.regs out d, m⟩) pc'

/-- `step` reads the operands by `evalOps`, writes the destination by `writeBack` and moves the pc by
`jumpTarget`, whatever the instruction: what is left to compare is `exec` with `Exec.stepLoc`. -/
theorem stepCorr_of_resCorr {mc : Machine XMem} {a : Nat} {x : Exec.Instr} {Q : List PCmd} {t : State XMem}
    {k : Nat} {mn : String} {ops : List POperand} {rs : List Role} {vals : List Val} {r : Res XMem}
    (hg : Q[k]? = some (.instr mn [] ops)) (hr : mc.roles mn = some rs)
    (he : evalOps t.regs rs ops = some vals) (hx : mc.exec mn vals t.mem = r)
    (h : ResCorr t k (dstOf rs ops) (jumpTarget Q rs ops) r (Exec.stepLoc false a x (conc t) k)) :
    StepCorr mc a x Q t k := by
  unfold StepCorr
  rw [step_instr hg hr he, show allOps [] ops = ops from rfl, hx]
  cases r with
  | fault f => exact ⟨fun _ _ e => (nomatch e), fun f' e => by cases e; exact h⟩
  | ok out m j =>
    cases j with
    | false => exact ⟨fun t' pc' e => by cases e; exact h _ rfl, fun _ e => nomatch e⟩
    | true =>
      simp only [if_true]
      cases hn : jumpTarget Q rs ops with
      | none => exact ⟨fun _ _ e => (nomatch e), fun _ e => nomatch e⟩
      | some n => exact ⟨fun t' pc' e => by cases e; exact h _ hn, fun _ e => nomatch e⟩

/-- `mc` has the classical instructions of `xMachine`: the same roles and the same `exec` wherever `stdRoles`
is defined, and no instruction without a name (`ofExec` reads what is outside the scope of C03 as such a
command).  `qMachine` of `Lemmas/AsmExecQ.lean`, which adds `meas` and the gates, is one. -/
structure Classical (mc : Machine XMem) : Prop where
  roles : ∀ {mn rs}, stdRoles mn = some rs → mc.roles mn = some rs
  exec : ∀ {mn rs}, stdRoles mn = some rs → mc.exec mn = xExec mn
  noname : mc.roles "" = none

theorem classical_x : Classical xMachine := ⟨id, fun _ => rfl, by decide +kernel⟩

theorem Classical.stuck {mc : Machine XMem} (hmc : Classical mc) {Q : List PCmd} {t : State XMem} {k : Nat}
    {args : List Int} {ops : List POperand} (hg : Q[k]? = some (.instr "" args ops)) : step mc Q t k = .stuck := by
  simp only [step, hg, hmc.noname]

/-- `stepCorr_of_resCorr` for a classical mnemonic of a machine that has them -/
theorem stepCorr_c {mc : Machine XMem} (hmc : Classical mc) {a : Nat} {x : Exec.Instr} {Q : List PCmd}
    {t : State XMem} {k : Nat} {mn : String} {ops : List POperand} {rs : List Role} {vals : List Val} {r : Res XMem}
    (hg : Q[k]? = some (.instr mn [] ops)) (hr : stdRoles mn = some rs)
    (he : evalOps t.regs rs ops = some vals) (hx : xExec mn vals t.mem = r)
    (h : ResCorr t k (dstOf rs ops) (jumpTarget Q rs ops) r (Exec.stepLoc false a x (conc t) k)) :
    StepCorr mc a x Q t k :=
  stepCorr_of_resCorr hg (hmc.roles hr) he (by rw [hmc.exec hr]; exact hx) h

section
variable (a : Nat) (t : State XMem) (k : Nat) (jt : Option Nat)

theorem conc_regs (x : Exec.XReg) : (conc t).ap.regs x = t.regs (ofX x) := rfl
theorem conc_arrays : (conc t).ap.arrays = t.mem.arrays := rfl
theorem conc_shmArrs : (conc t).ap.shmArrs = t.mem.shmArrs := rfl
theorem conc_unit : (conc t).ap.unit = t.mem.unit := rfl
theorem conc_used : (conc t).used = t.mem.used := rfl

variable {t k jt}

theorem resCorr_fault {d : Option Reg} {l : Exec.Loc} {g : Exec.Fault} : ResCorr t k d jt (xf g) (.fault l g) := rfl

theorem resCorr_next {d : Option Reg} {out : Option Int} {m : XMem} :
    ResCorr t k d jt (.ok out m false) (.ok (conc ⟨writeBack t.regs out d, m⟩) (k + 1)) := by
  intro pc' e; cases e; rfl

variable (t k jt)

theorem resCorr_wr (r : Exec.XReg) (v : Int) :
    ResCorr t k (some (ofX r)) jt (.ok (some v) t.mem false) (Exec.wr false (conc t) k r v) := by
  have : Exec.wr false (conc t) k r v = .ok (conc ⟨writeBack t.regs (some v) (some (ofX r)), t.mem⟩) (k + 1) := by
    simp [Exec.wr, Exec.fits, Exec.App.setReg, conc, writeBack, absRegs_upd]
  rw [this]; exact resCorr_next

theorem resCorr_arith (d : Exec.XReg) (x y : Option Int) (f : Int → Int → Int) :
    ResCorr t k (some (ofX d)) jt (xArith x y t.mem f) (Exec.arith false (conc t) k d x y f) := by
  cases x with
  | none => exact resCorr_fault
  | some u =>
    cases y with
    | none => exact resCorr_fault
    | some v => exact resCorr_wr t k jt d (f u v)

theorem resCorr_arithm (d : Exec.XReg) (x y md : Option Int) (f : Int → Int → Int) :
    ResCorr t k (some (ofX d)) jt (xArithm x y md t.mem f) (Exec.arithm false (conc t) k d x y md f) := by
  cases md with
  | none => exact resCorr_fault
  | some mv =>
    unfold xArithm Exec.arithm
    by_cases h : mv < 1
    · simp only [h, if_true]; exact resCorr_fault
    · simp only [h, if_false]; exact resCorr_arith t k jt d x y (fun u v => f u v % mv)

/-- a branch to the literal `tg`: the machine's target `tg.toNat` exists exactly when `0 ≤ tg` -/
theorem resCorr_br (c : Bool) (tg : Int) :
    ResCorr t k none (if 0 ≤ tg then some tg.toNat else none) (.ok none t.mem c) (Exec.br (conc t) k c tg) := by
  intro pc' e
  cases c with
  | false => cases e; rfl
  | true =>
    rw [if_pos rfl] at e
    split at e
    · cases e; rw [Int.toNat_of_nonneg ‹0 ≤ tg›]; rfl
    · cases e

theorem resCorr_brCmp (x y : Option Int) (c : Int → Int → Bool) (tg : Int) :
    ResCorr t k none (if 0 ≤ tg then some tg.toNat else none) (xBrCmp x y t.mem c)
      (match x, y with
        | some u, some v => Exec.br (conc t) k (c u v) tg
        | _, _ => .fault (conc t) .typeError) := by
  cases x with
  | none => exact resCorr_fault
  | some u =>
    cases y with
    | none => exact resCorr_fault
    | some v => exact resCorr_br t k (c u v) tg

/-! The instructions on arrays, shared memory and the unit module: `xLoad` … `xQfree` branch as
`Exec.stepLoc` does (whose width checks are off in simulation mode), with the same fault or the same
update at each leaf.  (`unfold`, not `simp only [Exec.stepLoc]`: the latter first generates the 26
equation lemmas of `Exec.stepLoc`, in every proof again.) -/

theorem resCorr_load (d i : Exec.XReg) (ad : Int) :
    ResCorr t k (some (ofX d)) jt (xLoad ad (t.regs (ofX i)) t.mem)
      (Exec.stepLoc false a (.load d ad i) (conc t) k) := by
  unfold Exec.stepLoc xLoad
  simp only [conc_regs, conc_arrays]
  cases t.regs (ofX i) with
  | none => exact resCorr_fault
  | some kk =>
    dsimp only
    cases t.mem.arrays ad with
    | none => exact resCorr_fault
    | some arr =>
      dsimp only
      cases Exec.pyIdx arr.length kk with
      | none => exact resCorr_fault
      | some p =>
        dsimp only
        cases arr[p]?.join with
        | none => exact resCorr_fault
        | some v => exact resCorr_wr t k jt d v

theorem resCorr_store (r i : Exec.XReg) (ad : Int) :
    ResCorr t k none jt (xStore (t.regs (ofX r)) ad (t.regs (ofX i)) t.mem)
      (Exec.stepLoc false a (.store r ad i) (conc t) k) := by
  unfold Exec.stepLoc xStore
  simp only [conc_regs, conc_arrays]
  cases t.regs (ofX r) with
  | none => exact resCorr_fault
  | some v =>
    dsimp only
    cases t.regs (ofX i) with
    | none => exact resCorr_fault
    | some kk =>
      dsimp only
      cases t.mem.arrays ad with
      | none => exact resCorr_fault
      | some arr =>
        dsimp only
        cases Exec.pyIdx arr.length kk with
        | none => exact resCorr_fault
        | some p => exact resCorr_next

theorem resCorr_undef (i : Exec.XReg) (ad : Int) :
    ResCorr t k none jt (xUndef ad (t.regs (ofX i)) t.mem) (Exec.stepLoc false a (.undef ad i) (conc t) k) := by
  unfold Exec.stepLoc xUndef
  simp only [conc_regs, conc_arrays]
  cases t.regs (ofX i) with
  | none => exact resCorr_fault
  | some kk =>
    dsimp only
    cases t.mem.arrays ad with
    | none => exact resCorr_fault
    | some arr =>
      dsimp only
      cases Exec.pyIdx arr.length kk with
      | none => exact resCorr_fault
      | some p => exact resCorr_next

theorem xFreeze_eq (ad : Int) : Exec.freeze (conc t).ap ad = xFreeze t.mem ad := by
  simp only [Exec.freeze, xFreeze, conc_shmArrs]
  cases t.mem.shmArrs ad with
  | none => rfl
  | some v => cases v <;> rfl

theorem resCorr_array (n : Exec.XReg) (ad : Int) :
    ResCorr t k none jt (xArray (t.regs (ofX n)) ad t.mem) (Exec.stepLoc false a (.array n ad) (conc t) k) := by
  unfold Exec.stepLoc xArray
  simp only [xFreeze_eq, conc_regs]
  cases t.regs (ofX n) with
  | none => exact resCorr_fault
  | some kk => exact resCorr_next

theorem resCorr_retReg (r : Exec.XReg) :
    ResCorr t k none jt (xRetReg (ofX r) (t.regs (ofX r)) t.mem) (Exec.stepLoc false a (.retReg r) (conc t) k) := by
  unfold Exec.stepLoc xRetReg
  simp only [toX_ofX, conc_regs]
  cases t.regs (ofX r) with
  | none => exact resCorr_fault
  | some v => exact resCorr_next

theorem resCorr_retArr (ad : Int) :
    ResCorr t k none jt (xRetArr ad t.mem) (Exec.stepLoc false a (.retArr ad) (conc t) k) := by
  unfold Exec.stepLoc xRetArr
  simp only [conc_arrays]
  cases t.mem.arrays ad with
  | none => exact resCorr_fault
  | some arr => exact resCorr_next

theorem resCorr_qalloc (r : Exec.XReg) :
    ResCorr t k none jt (xQalloc (t.regs (ofX r)) t.mem) (Exec.stepLoc false a (.qalloc r) (conc t) k) := by
  unfold Exec.stepLoc xQalloc
  simp only [conc_regs, conc_unit]
  cases t.regs (ofX r) with
  | none => exact resCorr_fault
  | some v =>
    dsimp only
    by_cases h : v ≥ (t.mem.unit.length : Int)
    · simp only [h, if_true]; exact resCorr_fault
    · simp only [h, if_false]
      cases Exec.pyIdx t.mem.unit.length v with
      | none => exact resCorr_fault
      | some p =>
        dsimp only
        cases t.mem.unit[p]?.join with
        | some ph => exact resCorr_fault
        | none => exact resCorr_next

theorem resCorr_qfree (r : Exec.XReg) :
    ResCorr t k none jt (xQfree (t.regs (ofX r)) t.mem) (Exec.stepLoc false a (.qfree r) (conc t) k) := by
  unfold Exec.stepLoc xQfree
  simp only [conc_regs, conc_unit, conc_used]
  cases t.regs (ofX r) with
  | none => exact resCorr_fault
  | some v =>
    dsimp only
    cases Exec.pyIdx t.mem.unit.length v with
    | none => exact resCorr_fault
    | some p =>
      dsimp only
      cases t.mem.unit[p]?.join with
      | none => exact resCorr_fault
      | some ph =>
        dsimp only
        by_cases h : ph ∈ t.mem.used
        · simp only [h, if_true]; exact resCorr_next
        · simp only [h, if_false]; exact resCorr_fault

end

theorem stepCorr_stuck {mc : Machine XMem} {a : Nat} {x : Exec.Instr} {Q : List PCmd} {t : State XMem} {k : Nat}
    (h : step mc Q t k = .stuck) : StepCorr mc a x Q t k := by
  unfold StepCorr; rw [h]; exact ⟨fun _ _ e => (nomatch e), fun _ e => nomatch e⟩

/-- the correspondence for the command `ofExec x` at any position of any program: the roles of the
mnemonic (a look-up in `stdRoleTable`), the operands as `evalOps` reads them, `xExec` on them, and the
comparison of the result with the `Exec.stepLoc` case of `x` -/
theorem stepCorr_classical {mc : Machine XMem} (hmc : Classical mc) (a : Nat) (x : Exec.Instr) (Q : List PCmd)
    (t : State XMem) (k : Nat) (hg : Q[k]? = some (ofExec x)) : StepCorr mc a x Q t k := by
  cases x with
  | set r v =>
    exact stepCorr_c hmc hg (rs := [.dst, .imm]) (by decide +kernel) rfl (xExec_set v _) (resCorr_wr t k _ r v)
  | lea r ad =>
    exact stepCorr_c hmc hg (rs := [.dst, .addr]) (by decide +kernel) rfl (xExec_lea ad _) (resCorr_wr t k _ r ad)
  | load r ad i =>
    exact stepCorr_c hmc hg (rs := [.dst, .entry]) (by decide +kernel) rfl (xExec_load ..)
      (resCorr_load a t k _ r i ad)
  | store r ad i =>
    exact stepCorr_c hmc hg (rs := [.use, .entry]) (by decide +kernel) rfl (xExec_store ..)
      (resCorr_store a t k _ r i ad)
  | undef ad i =>
    exact stepCorr_c hmc hg (rs := [.entry]) (by decide +kernel) rfl (xExec_undef ..) (resCorr_undef a t k _ i ad)
  | array n ad =>
    exact stepCorr_c hmc hg (rs := [.use, .addr]) (by decide +kernel) rfl (xExec_array ..)
      (resCorr_array a t k _ n ad)
  | add d x y =>
    exact stepCorr_c hmc hg (rs := [.dst, .use, .use]) (by decide +kernel) rfl (xExec_add ..)
      (resCorr_arith t k _ d _ _ _)
  | sub d x y =>
    exact stepCorr_c hmc hg (rs := [.dst, .use, .use]) (by decide +kernel) rfl (xExec_sub ..)
      (resCorr_arith t k _ d _ _ _)
  | addm d x y m =>
    exact stepCorr_c hmc hg (rs := [.dst, .use, .use, .use]) (by decide +kernel) rfl (xExec_addm ..)
      (resCorr_arithm t k _ d _ _ _ _)
  | subm d x y m =>
    exact stepCorr_c hmc hg (rs := [.dst, .use, .use, .use]) (by decide +kernel) rfl (xExec_subm ..)
      (resCorr_arithm t k _ d _ _ _ _)
  | bez r tg =>
    exact stepCorr_c hmc hg (rs := [.use, .tgt]) (by decide +kernel) rfl (xExec_bez ..) (resCorr_br t k _ tg)
  | bnz r tg =>
    exact stepCorr_c hmc hg (rs := [.use, .tgt]) (by decide +kernel) rfl (xExec_bnz ..) (resCorr_br t k _ tg)
  | beq x y tg =>
    exact stepCorr_c hmc hg (rs := [.use, .use, .tgt]) (by decide +kernel) rfl (xExec_beq ..)
      (resCorr_br t k _ tg)
  | bne x y tg =>
    exact stepCorr_c hmc hg (rs := [.use, .use, .tgt]) (by decide +kernel) rfl (xExec_bne ..)
      (resCorr_br t k _ tg)
  | blt x y tg =>
    exact stepCorr_c hmc hg (rs := [.use, .use, .tgt]) (by decide +kernel) rfl (xExec_blt ..)
      (resCorr_brCmp t k _ _ _ tg)
  | bge x y tg =>
    exact stepCorr_c hmc hg (rs := [.use, .use, .tgt]) (by decide +kernel) rfl (xExec_bge ..)
      (resCorr_brCmp t k _ _ _ tg)
  | jmp tg =>
    exact stepCorr_c hmc hg (rs := [.tgt]) (by decide +kernel) rfl (xExec_jmp _) (resCorr_br t k true tg)
  | retReg r =>
    exact stepCorr_c hmc hg (rs := [.named]) (by decide +kernel) rfl (xExec_retReg ..) (resCorr_retReg a t k _ r)
  | retArr ad =>
    exact stepCorr_c hmc hg (rs := [.addr]) (by decide +kernel) rfl (xExec_retArr ..) (resCorr_retArr a t k _ ad)
  | qalloc r =>
    exact stepCorr_c hmc hg (rs := [.use]) (by decide +kernel) rfl (xExec_qalloc ..) (resCorr_qalloc a t k _ r)
  | qfree r =>
    exact stepCorr_c hmc hg (rs := [.use]) (by decide +kernel) rfl (xExec_qfree ..) (resCorr_qfree a t k _ r)
  | _ => exact stepCorr_stuck (hmc.stuck hg)

/-- from the correspondence per command to programs read back by `f` (`ofExec` here, `ofExecQ` in
`Lemmas/AsmExecQ.lean`) -/
theorem step_corr_of {mc : Machine XMem} {a : Nat} {f : Exec.Instr → PCmd}
    (h : ∀ x Q t k, Q[k]? = some (f x) → StepCorr mc a x Q t k) (X : List Exec.Instr) (t : State XMem) (k : Nat) :
    (∀ t' pc', step mc (X.map f) t k = .next t' pc' →
      ∃ x, X[k]? = some x ∧ Exec.stepLoc false a x (conc t) (k : Int) = .ok (conc t') (pc' : Int)) ∧
    (∀ g, step mc (X.map f) t k = .fault g →
      ∃ x, X[k]? = some x ∧ lresKind (Exec.stepLoc false a x (conc t) (k : Int)) = some g) := by
  cases hx : X[k]? with
  | none =>
    have : (X.map f)[k]? = none := by simp [hx]
    constructor <;> intros <;> simp_all [step]
  | some x =>
    have key := h x (X.map f) t k (by simp [hx])
    exact ⟨fun t' pc' h => ⟨x, rfl, key.1 t' pc' h⟩, fun g h => ⟨x, rfl, key.2 g h⟩⟩

theorem xsteps_of_steps_of {mc : Machine XMem} {a : Nat} {f : Exec.Instr → PCmd}
    (h : ∀ x Q t k, Q[k]? = some (f x) → StepCorr mc a x Q t k) (X : List Exec.Instr) {c c' : State XMem × Nat}
    (hs : Steps mc (X.map f) c c') : XSteps a X (conc c.1, (c.2 : Int)) (conc c'.1, (c'.2 : Int)) := by
  induction hs with
  | refl c => exact .refl _
  | step hs _ ih =>
    obtain ⟨x, hx, hl⟩ := (step_corr_of h X _ _).1 _ _ hs
    exact .step hx hl ih

/-- **`Exec.stepLoc` is an instance of the machine.**  On the read-back `X.map ofExec` of any
executor program `X`, a successful machine step is the executor's step on the concretised state,
and a machine fault is an executor fault of the same kind. -/
theorem step_corr (a : Nat) (X : List Exec.Instr) (t : State XMem) (k : Nat) :
    (∀ t' pc', step xMachine (X.map ofExec) t k = .next t' pc' →
      ∃ x, X[k]? = some x ∧ Exec.stepLoc false a x (conc t) (k : Int) = .ok (conc t') (pc' : Int)) ∧
    (∀ f, step xMachine (X.map ofExec) t k = .fault f →
      ∃ x, X[k]? = some x ∧ lresKind (Exec.stepLoc false a x (conc t) (k : Int)) = some f) :=
  step_corr_of (stepCorr_classical classical_x a) X t k

theorem xsteps_of_steps (a : Nat) (X : List Exec.Instr) {c c' : State XMem × Nat}
    (h : Steps xMachine (X.map ofExec) c c') : XSteps a X (conc c.1, (c.2 : Int)) (conc c'.1, (c'.2 : Int)) :=
  xsteps_of_steps_of (stepCorr_classical classical_x a) X h

end NQ.Asm
