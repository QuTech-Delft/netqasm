/-
Well-formedness of what the builder emits and of the memory manager it runs on: register operands inside the
4 × 16 register file, label kinds inside the five prefixes, branch targets where the assembler expects them
(`cmdOK`, `AllOK`), classical code (`NoQ`, `Plain`), closed blocks of quantum instructions (`qscan`, `QClosed`,
`CodeOK`), and the invariant `MemOK` of the manager with its preservation by the primitives.
-/
import NetqasmVerif.Lemmas.SdkInv
import NetqasmVerif.Lemmas.SdkSem
set_option linter.unusedVariables false
namespace NQ.Sdk

def regOK (r : Reg) : Bool := decide (r.bank < 4) && decide (r.idx < 16)

def opOK : POp → Bool
  | .reg r => regOK r
  | .entryR _ r => regOK r
  | .lab l => decide (l.kind < 5)
  | _ => true

@[simp] theorem opOK_reg (r : Reg) : opOK (.reg r) = regOK r := rfl
@[simp] theorem opOK_entryR (a : Nat) (r : Reg) : opOK (.entryR a r) = regOK r := rfl
@[simp] theorem opOK_lab (l : Lbl) : opOK (.lab l) = decide (l.kind < 5) := rfl
@[simp] theorem opOK_lit (v : Int) : opOK (.lit v) = true := rfl
@[simp] theorem opOK_addr (a : Nat) : opOK (.addr a) = true := rfl
@[simp] theorem opOK_entryL (a i : Nat) : opOK (.entryL a i) = true := rfl

def labAt (n : Nat) (ops : List POp) : Bool :=
  match ops[n]? with
  | some (.lab _) => true
  | _ => false

/-- the branch instructions carry their target, a label, where the assembler expects it -/
def shapeOK (mn : Mn) (ops : List POp) : Bool :=
  match mn with
  | .jmp => labAt 0 ops
  | .bez | .bnz => labAt 1 ops
  | .beq | .bne | .blt | .bge => labAt 2 ops
  | _ => true

def cmdOK : PCmd → Bool
  | .label l => decide (l.kind < 5)
  | .instr mn ops => ops.all opOK && shapeOK mn ops

def isQ : Mn → Bool
  | .qalloc | .init | .meas | .qfree | .gate _ => true
  | _ => false

def isBranch : Mn → Bool
  | .jmp | .bez | .bnz | .beq | .bne | .blt | .bge => true
  | _ => false

def isQCmd : PCmd → Bool
  | .label _ => false
  | .instr mn _ => isQ mn

def AllOK (cs : List PCmd) : Prop := ∀ c ∈ cs, cmdOK c = true
def NoQ (cs : List PCmd) : Prop := ∀ c ∈ cs, isQCmd c = false

theorem AllOK.nil : AllOK [] := by intro c hc; cases hc
theorem NoQ.nil : NoQ [] := by intro c hc; cases hc

@[simp] theorem allOK_cons {c : PCmd} {cs : List PCmd} : AllOK (c :: cs) ↔ cmdOK c = true ∧ AllOK cs :=
  List.forall_mem_cons
@[simp] theorem allOK_append {a b : List PCmd} : AllOK (a ++ b) ↔ AllOK a ∧ AllOK b := List.forall_mem_append
@[simp] theorem noQ_cons {c : PCmd} {cs : List PCmd} : NoQ (c :: cs) ↔ isQCmd c = false ∧ NoQ cs :=
  List.forall_mem_cons
@[simp] theorem noQ_append {a b : List PCmd} : NoQ (a ++ b) ↔ NoQ a ∧ NoQ b := List.forall_mem_append

theorem AllOK.append {a b : List PCmd} (ha : AllOK a) (hb : AllOK b) : AllOK (a ++ b) := allOK_append.2 ⟨ha, hb⟩

theorem NoQ.append {a b : List PCmd} (ha : NoQ a) (hb : NoQ b) : NoQ (a ++ b) := noQ_append.2 ⟨ha, hb⟩

theorem AllOK.single {c : PCmd} (h : cmdOK c = true) : AllOK [c] := allOK_cons.2 ⟨h, AllOK.nil⟩

theorem NoQ.single {c : PCmd} (h : isQCmd c = false) : NoQ [c] := noQ_cons.2 ⟨h, NoQ.nil⟩

/-- well-formed classical code: what the helpers of the builder emit around the quantum blocks -/
def Plain (cs : List PCmd) : Prop := AllOK cs ∧ NoQ cs

theorem Plain.nil : Plain [] := ⟨AllOK.nil, NoQ.nil⟩
theorem Plain.append {a b : List PCmd} (ha : Plain a) (hb : Plain b) : Plain (a ++ b) :=
  ⟨ha.1.append hb.1, ha.2.append hb.2⟩
@[simp] theorem plain_cons {c : PCmd} {cs : List PCmd} :
    Plain (c :: cs) ↔ (cmdOK c = true ∧ isQCmd c = false) ∧ Plain cs := by
  simp only [Plain, allOK_cons, noQ_cons]; exact and_and_and_comm
@[simp] theorem plain_nil : Plain [] ↔ True := iff_true_intro Plain.nil

theorem regOK_R {t : Nat} (h : t < 16) : regOK (R t) = true := by simp [regOK, R, h]
theorem regOK_M {t : Nat} (h : t < 16) : regOK (M t) = true := by simp [regOK, M, h]
theorem regOK_Q0 : regOK Q0 = true := by decide

/-! ## the closed blocks of quantum instructions: an abstract scan

State of the scan: (`al`: the qubit with virtual id 0 is allocated, `q0`: register `Q0` holds 0).
The scan fails (`none`) where the executor could refuse the instruction.  A label, where a jump may land,
and a branch require the qubit free and forget what `Q0` holds. -/

def qscan : Bool × Bool → List PCmd → Option (Bool × Bool)
  | st, [] => some st
  | (al, q0), .label _ :: cs => if al then none else qscan (false, false) cs
  | (al, q0), .instr mn ops :: cs =>
    match mn with
    | .set => qscan (al, decide (ops = [.reg Q0, .lit 0])) cs
    | .qalloc => if !al && q0 && decide (ops = [.reg Q0]) then qscan (true, true) cs else none
    | .init => if q0 && decide (ops = [.reg Q0]) then qscan (al, true) cs else none
    | .gate _ => if q0 && decide (ops = [.reg Q0]) then qscan (al, true) cs else none
    | .meas =>
      match ops with
      | [.reg q, .reg r] => if q0 && decide (q = Q0) && decide (r.bank = 3) then qscan (al, true) cs else none
      | _ => none
    | .qfree => if al && q0 && decide (ops = [.reg Q0]) then qscan (false, true) cs else none
    | mn => if isBranch mn && al then none else qscan (al, false) cs

def QClosed (cs : List PCmd) : Prop := ∀ q, ∃ q', qscan (false, q) cs = some (false, q')

theorem qscan_append : ∀ (a b : List PCmd) (st : Bool × Bool),
    qscan st (a ++ b) = (qscan st a).bind (fun st' => qscan st' b) := by
  intro a b st
  fun_induction qscan st a <;> simp [qscan, *]

theorem QClosed.nil : QClosed [] := fun q => ⟨q, rfl⟩

theorem QClosed.append {a b : List PCmd} (ha : QClosed a) (hb : QClosed b) : QClosed (a ++ b) := by
  intro q
  obtain ⟨q1, h1⟩ := ha q
  obtain ⟨q2, h2⟩ := hb q1
  exact ⟨q2, by rw [qscan_append, h1]; exact h2⟩

theorem qscan_noQ (st : Bool × Bool) (cs : List PCmd) (h : NoQ cs) (hst : st.1 = false) :
    ∃ q', qscan st cs = some (false, q') := by
  fun_induction qscan st cs
  case case1 st => exact ⟨st.2, by rw [← hst]⟩
  -- the arms of the quantum instructions contradict `NoQ`; in the others the qubit stays free
  all_goals
    obtain ⟨hc, hcs⟩ := noQ_cons.1 h
    simp [isQCmd, isQ] at hc
  all_goals simp_all

theorem QClosed.of_noQ {cs : List PCmd} (h : NoQ cs) : QClosed cs := fun q => qscan_noQ (false, q) cs h rfl

structure MemOK (m : Mem) : Prop where
  act : m.active.length = 16
  mu : m.measUsed.length = 16
  lbl : m.lbl.length = 5
  hnd : ∀ x ∈ m.handles, regOK x.1 = true
  rret : ∀ r ∈ m.regsToReturn, regOK r = true

theorem memOK_init : MemOK Mem.init :=
  ⟨by simp [Mem.init], by simp [Mem.init], rfl, by simp [Mem.init], by simp [Mem.init]⟩

theorem MemOK.of_same {m m' : Mem} (ok : MemOK m) (h : SameBut m m') (hl : m'.active.length = m.active.length) :
    MemOK m' :=
  ⟨by rw [hl]; exact ok.act, by rw [h.meas]; exact ok.mu, by rw [h.lbl]; exact ok.lbl,
   by rw [h.handles]; exact ok.hnd, by rw [h.rret]; exact ok.rret⟩

theorem MemOK.of_sameL {m m' : Mem} (ok : MemOK m) (h : SameButL m m') (hl : m'.active.length = m.active.length)
    (hb : m'.lbl.length = 5) : MemOK m' :=
  ⟨by rw [hl]; exact ok.act, by rw [h.meas]; exact ok.mu, hb,
   by rw [h.handles]; exact ok.hnd, by rw [h.rret]; exact ok.rret⟩

theorem MemOK.newLabel {m : Mem} (ok : MemOK m) (k : Nat) : MemOK (newLabel m k).1 :=
  ok.of_sameL (newLabel_sameL m k) rfl (by simp [Sdk.newLabel, ok.lbl])

theorem MemOK.bind {m : Mem} (ok : MemOK m) {r : Reg} (hr : regOK r = true) (b : Bool) : MemOK (bindHandle m r b) :=
  ⟨ok.act, ok.mu, ok.lbl, by
    intro x hx
    simp only [bindHandle, List.mem_append, List.mem_singleton] at hx
    rcases hx with hx | hx
    · exact ok.hnd x hx
    · subst hx; exact hr, ok.rret⟩

theorem release_len {m m' : Mem} {i : Nat} (h : release m i = .ok m') : m'.active.length = m.active.length := by
  rw [(release_spec h).2.1]; simp

theorem takeAt_len {m m' : Mem} {rg : Option Nat} {i : Nat} (h : takeAt m rg = .ok (m', i)) :
    m'.active.length = m.active.length ∧ i < m.active.length := by
  have := takeAt_spec h
  exact ⟨by rw [this.2.1]; simp, getD_true_false_lt this.1⟩

theorem MemOK.activate {m m' : Mem} {i : Nat} (ok : MemOK m) (h : activate m i = .ok m') : MemOK m' :=
  ok.of_same (activate_same h) (by rw [(activate_spec h).2.1]; simp)
theorem MemOK.release {m m' : Mem} {i : Nat} (ok : MemOK m) (h : release m i = .ok m') : MemOK m' :=
  ok.of_same (release_same h) (release_len h)
theorem MemOK.releaseOpt {m m' : Mem} {t : Option Nat} (ok : MemOK m) (h : releaseOpt m t = .ok m') : MemOK m' := by
  cases t with
  | none => cases h; exact ok
  | some t => exact ok.release h
theorem MemOK.takeAt {m m' : Mem} {rg : Option Nat} {i : Nat} (ok : MemOK m) (h : takeAt m rg = .ok (m', i)) :
    MemOK m' ∧ i < 16 :=
  ⟨ok.of_same (takeAt_same h) (takeAt_len h).1, by have := (takeAt_len h).2; rw [ok.act] at this; exact this⟩
theorem MemOK.takeReg {m m' : Mem} {i : Nat} (ok : MemOK m) (h : takeReg m = .ok (m', i)) :
    MemOK m' ∧ i < 16 :=
  ok.takeAt (rg := none) h

theorem MemOK.handle {m : Mem} (ok : MemOK m) {h : Nat} {r : Reg} {b : Bool} (hh : handle m h = .ok (r, b)) :
    regOK r = true := ok.hnd _ (List.mem_of_getElem? (handle_get hh))

theorem plain_access (st : Bool) {r : Reg} (hr : regOK r = true) {e : POp} (he : opOK e = true) :
    Plain [.instr (accessMn st) [.reg r, e]] := by
  cases st <;> simp [cmdOK, accessMn, hr, he, shapeOK, isQCmd, isQ]

theorem getInactive_lt {m : Mem} (ok : MemOK m) {t : Nat} (h : getInactive m = .ok t) : t < 16 := by
  have := getD_true_false_lt (getInactive_spec h); rw [ok.act] at this; exact this

theorem addressEntry_ok {m : Mem} {f : Fut} {e : POp} (ok : MemOK m) (h : addressEntry m f = .ok e) :
    opOK e = true := by
  cases f with
  | lit a i => simp [addressEntry] at h; subst h; rfl
  | reg a hh =>
    simp only [addressEntry] at h
    split at h
    · cases h
    · rename_i ir b hir
      cases h
      exact ok.handle hir
  | fut a f => simp [addressEntry] at h

theorem MemOK.of_took {m m1 : Mem} {t : Option Nat} (ok : MemOK m) (hs : SameBut m m1) (ht : Took m m1 t) :
    MemOK m1 :=
  ok.of_same hs (by
    cases t with
    | none => simp only [Took] at ht; rw [ht]
    | some t => simp only [Took] at ht; rw [ht.2]; simp)

theorem plain_addInstr {r : Reg} (hr : regOK r = true) {o : POp} (ho : opOK o = true) (md : Option Int) :
    Plain [addInstr r o md] := by
  cases md <;> simp [addInstr, cmdOK, hr, ho, shapeOK, isQCmd, isQ]

theorem negBranch_shape (c : Cond) (oa ob : POp) (l : Lbl) :
    shapeOK (negBranch c) (if c.unary then [oa, .lab l] else [oa, ob, .lab l]) = true ∧ isQ (negBranch c) = false := by
  cases c <;> simp [Cond.unary, negBranch, shapeOK, labAt, isQ]

structure CodeOK (cs : List PCmd) : Prop where
  all : AllOK cs
  closed : QClosed cs

theorem CodeOK.nil : CodeOK [] := ⟨AllOK.nil, QClosed.nil⟩
theorem CodeOK.append {a b : List PCmd} (ha : CodeOK a) (hb : CodeOK b) : CodeOK (a ++ b) :=
  ⟨ha.all.append hb.all, ha.closed.append hb.closed⟩
theorem Plain.code {cs : List PCmd} (h : Plain cs) : CodeOK cs := ⟨h.1, QClosed.of_noQ h.2⟩

theorem plain_loopEntry {r : Reg} (hr : regOK r = true) (v w : Int) {le lx : Lbl} (hx : lx.kind < 5) (he : le.kind < 5) :
    Plain [.instr .set [.reg r, .lit v], .label le, .instr .beq [.reg r, .lit w, .lab lx]] := by
  simp [cmdOK, isQCmd, isQ, hr, shapeOK, labAt, hx, he]

theorem plain_loopExit {r : Reg} (hr : regOK r = true) (v : Int) {le lx : Lbl} (hx : lx.kind < 5) (he : le.kind < 5) :
    Plain [.instr .add [.reg r, .reg r, .lit v], .instr .jmp [.lab le], .label lx] := by
  simp [cmdOK, isQCmd, isQ, hr, shapeOK, labAt, hx, he]

/-- if a property `C` of code holds of classical code (`hpl`) and is preserved by `++` (`happ`), the counted
loop around a body with `C` has `C` -/
theorem buildLoop_ok {C : List PCmd → Prop} (hpl : ∀ cs, Plain cs → C cs) (happ : ∀ a b, C a → C b → C (a ++ b))
    (m : Mem) (s e d : Int) {r : Reg} (hr : regOK r = true) {body : List PCmd} (hb : C body) :
    C (buildLoop m s e d r body).2 := by
  by_cases h0 : body = []
  · subst h0; exact hpl _ Plain.nil
  · rw [buildLoop_shape _ _ _ _ _ _ h0]
    exact happ _ _ (happ _ _ (hpl _ (plain_loopEntry hr s e (by decide : 2 < 5) (by decide : 1 < 5))) hb)
      (hpl _ (plain_loopExit hr d (by decide : 2 < 5) (by decide : 1 < 5)))

theorem MemOK.buildLoop {m : Mem} (ok : MemOK m) (s e d : Int) (r : Reg) (body : List PCmd) :
    MemOK (buildLoop m s e d r body).1 :=
  ok.of_sameL (buildLoop_sameL m s e d r body) (by rw [buildLoop_active])
    (by unfold Sdk.buildLoop; split <;> simp [Sdk.newLabel, ok.lbl])

theorem gateCmds_ok : ∀ gs, AllOK (gateCmds gs)
  | [] => AllOK.nil
  | g :: gs => by simp [gateCmds, cmdOK, regOK_Q0, shapeOK, gateCmds_ok gs]

theorem gateCmds_scan : ∀ gs (al q : Bool), qscan (al, q) (gateCmds gs ++ [.instr .set [.reg Q0, .lit 0]]) = some (al, true)
  | [], al, q => by simp [gateCmds, qscan]
  | g :: gs, al, q => by
    simp only [gateCmds, List.cons_append, List.nil_append, qscan]
    simp only [decide_true, Bool.true_and, if_true]
    exact gateCmds_scan gs al true

/-- the head allocates, the gates keep `(true, true)`, the tail frees -/
theorem measHead_closed (gs : List Nat) (k : Nat) : QClosed (measHead gs k) := by
  intro q
  refine ⟨true, ?_⟩
  unfold measHead
  rw [List.append_assoc, qscan_append]
  have h1 : qscan (false, q) [PCmd.instr .set [.reg Q0, .lit 0], .instr .qalloc [.reg Q0], .instr .init [.reg Q0]]
      = some (true, true) := by simp [qscan]
  rw [h1]
  show qscan (true, true) (gateCmds gs ++ ([.instr .set [.reg Q0, .lit 0]] ++
    [.instr .meas [.reg Q0, .reg (M k)], .instr .qfree [.reg Q0]])) = _
  rw [← List.append_assoc, qscan_append, gateCmds_scan gs true true]
  simp [qscan, M]

theorem measHead_ok (gs : List Nat) {k : Nat} (hk : k < 16) : CodeOK (measHead gs k) :=
  ⟨by simp [measHead, cmdOK, regOK_Q0, regOK_M hk, shapeOK, gateCmds_ok gs, AllOK.nil], measHead_closed gs k⟩

theorem MemOK.withArr {m : Mem} (ok : MemOK m) (l : List Nat) (d : List ArrDecl) :
    MemOK ({ m with arrLens := l, arraysToReturn := d } : Mem) := ⟨ok.act, ok.mu, ok.lbl, ok.hnd, ok.rret⟩

theorem MemOK.withRet {m : Mem} (ok : MemOK m) {r : Reg} (hr : regOK r = true) :
    MemOK ({ m with regsToReturn := m.regsToReturn ++ [r] } : Mem) :=
  ⟨ok.act, ok.mu, ok.lbl, ok.hnd, by
    intro x hx
    simp only [List.mem_append, List.mem_singleton] at hx
    rcases hx with hx | rfl
    · exact ok.rret x hx
    · exact hr⟩

theorem MemOK.firstUnusedMeas {m m' : Mem} {k : Nat} (ok : MemOK m) (h : firstUnusedMeas m = .ok (m', k)) :
    MemOK m' ∧ k < 16 := by
  have hk : k < 16 := by
    have := getD_true_false_lt (firstUnusedMeas_spec h).1
    rw [ok.mu] at this; exact this
  obtain ⟨_, rfl⟩ := firstUnusedMeas_spec h
  exact ⟨⟨ok.act, by simp [ok.mu], ok.lbl, ok.hnd, ok.rret⟩, hk⟩

theorem MemOK.clearMeas {m : Mem} (ok : MemOK m) (k : Nat) :
    MemOK ({ m with measUsed := m.measUsed.set k false } : Mem) :=
  ⟨ok.act, by simp [ok.mu], ok.lbl, ok.hnd, ok.rret⟩

theorem storeInits_ok (a : Nat) : ∀ (vs : List (Option Int)) (i : Nat), Plain (storeInits a i vs)
  | [], i => Plain.nil
  | none :: vs, i => storeInits_ok a vs (i + 1)
  | some v :: vs, i => by simp [storeInits, cmdOK, isQCmd, isQ, shapeOK, storeInits_ok a vs (i + 1)]

end NQ.Sdk
