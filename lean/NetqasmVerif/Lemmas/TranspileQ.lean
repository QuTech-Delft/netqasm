/-
C08 × C07: a concrete quantum semantics for gate instructions ("apply the operator the mnemonic
denotes to the named qubits", as an abstract action `QAction` whose only assumed facts, `QLawful`,
are the standard lifting of exact operator identities, angle equality, and that a circuit whose
operator satisfies C07's `isTransfer` is the state transfer of `mov`), the role reading of the
expansion templates of Gen/NvExpand, and the tie of those templates to the sequences of
Gen/NvDecomp about which C07 proves the operator identities.
-/
import NetqasmVerif.Lemmas.TranspileSim
import NetqasmVerif.Model.NvDecomp
import NetqasmVerif.Gen.NvDecomp
namespace NQ.Tr
open NQ NQ.NV

def gnameOf (cls : String) : Option GName :=
  if cls == "vanilla.GateXInstruction" then some .x
  else if cls == "vanilla.GateYInstruction" then some .y
  else if cls == "vanilla.GateZInstruction" then some .z
  else if cls == "vanilla.GateHInstruction" then some .h
  else if cls == "vanilla.GateKInstruction" then some .k
  else if cls == "vanilla.GateSInstruction" then some .s
  else if cls == "vanilla.GateTInstruction" then some .t
  else if cls == "vanilla.RotXInstruction" || cls == "nv.RotXInstruction" then some .rotX
  else if cls == "vanilla.RotYInstruction" || cls == "nv.RotYInstruction" then some .rotY
  else if cls == "vanilla.RotZInstruction" || cls == "nv.RotZInstruction" then some .rotZ
  else if cls == "nv.ControlledRotXInstruction" then some .crotX
  else if cls == "nv.ControlledRotYInstruction" then some .crotY
  else if cls == "vanilla.CnotInstruction" then some .cnot
  else if cls == "vanilla.CphaseInstruction" then some .cphase
  else none

def movCls : String := "vanilla.MovInstruction"

def natOf (v : Int) : Option Nat := if 0 ≤ v then some v.toNat else none

def readQ (regs : Reg → Option Int) (r : Reg) : Option Nat := (regs r).bind natOf

/-- operand shape of a gate: 1 = fixed one-qubit, 2 = one-qubit rotation, 3 = fixed two-qubit,
4 = controlled rotation -/
def gkind : GName → Nat
  | .x | .y | .z | .h | .k | .s | .t => 1
  | .rotX | .rotY | .rotZ => 2
  | .cnot | .cphase => 3
  | .crotX | .crotY => 4

def giOf (regs : Reg → Option Int) (i : Instr) : Option GI :=
  match gnameOf i.cls, i.ops with
  | some g, [.reg r] =>
    if gkind g = 1 then (readQ regs r).map fun q => ⟨g, [q], 0, 0⟩ else none
  | some g, [.reg r, .imm n, .imm d] =>
    if gkind g = 2 then
      match readQ regs r, natOf n, natOf d with
      | some q, some n, some d => some ⟨g, [q], n, d⟩
      | _, _, _ => none
    else none
  | some g, [.reg r0, .reg r1] =>
    if gkind g = 3 then
      match readQ regs r0, readQ regs r1 with
      | some a, some b => if a = b then none else some ⟨g, [a, b], 0, 0⟩
      | _, _ => none
    else none
  | some g, [.reg r0, .reg r1, .imm n, .imm d] =>
    if gkind g = 4 then
      match readQ regs r0, readQ regs r1, natOf n, natOf d with
      | some a, some b, some n, some d => if a = b then none else some ⟨g, [a, b], n, d⟩
      | _, _, _, _ => none
    else none
  | _, _ => none

/-- the quantum part of the machine: gate instructions act on a state space `Q` (states up to
global phase) -/
structure QAction (Q : Type) where
  act : GI → Q → Q
  /-- `transfer φ src tgt q`: the state transfer of the MOV specification, a PARTIAL operation:
  defined when `src ≠ tgt` and `tgt` is in |0⟩ in `q` (freshly initialised; it may not be entangled
  with anything); then `tgt` carries what `src` carried — entanglement with the rest included — and
  `src` is left in the (normalised) one-qubit state `φ` -/
  transfer : Cyc × Cyc → Nat → Nat → Q → Option Q

def QAction.run {Q : Type} (A : QAction Q) : List GI → Q → Q
  | [], q => q
  | g :: gs, q => A.run gs (A.act g q)

def ren (ρ : Nat → Nat) (g : GI) : GI := { g with qs := g.qs.map ρ }

/-- `(φ₀, φ₁)`: what the operator `U` leaves on the source when it moves `ψ` onto a |0⟩ target
(the `phi0`, `phi1` of C07's `isTransfer`) -/
def phiOf (src tgt : Nat) (U : Mat) : Cyc × Cyc :=
  let idx (s t : Nat) : Nat := s * 2 ^ (1 - src) + t * 2 ^ (1 - tgt)
  let u0 := U.getD (idx 0 0) []
  (u0.getD (idx 0 0) 0, u0.getD (idx 1 0) 0)

/-- the NV move circuit of Gen/NvDecomp for a direction (`true`: electron → carbon) -/
def movRep (ec : Bool) : Option (List GI) :=
  (Gen.nvMov.find? (fun e => if ec then e.1 == 0 else e.2.1 == 0)).map (·.2.2)

/-- roles (source, target) of a direction: role 0 = electron, role 1 = carbon -/
def movDir (ec : Bool) : Nat × Nat := if ec then (0, 1) else (1, 0)

/-- the state in which the device's move leaves its SOURCE qubit (the MOV specification fixes the
target only; the source is to be freed) -/
def movPhi (ec : Bool) : Cyc × Cyc :=
  match (movRep ec).bind (circuit 2) with
  | some U => phiOf (movDir ec).1 (movDir ec).2 U
  | none => (0, 0)

/-- The only facts about the quantum action that are used (standard mathematics, not re-proved):
* `lift`: two gate lists on `n` roles whose exact operators are both a non-zero scalar multiple of
  one operator `T` act identically on any register when the roles are mapped injectively to
  qubits (operator identities tensor with the identity; a scalar is a global phase);
* `angle`: a rotation depends on `(n, d)` only through the angle `n·π/2^d`;
* `transferLaw`: see the field. -/
structure QLawful {Q : Type} (A : QAction Q) : Prop where
  lift : ∀ (n : Nat) (a b : List GI) (T : Mat) (ρ : Nat → Nat) (q : Q),
    (∀ i j, i < n → j < n → ρ i = ρ j → i = j) →
    equivUpToScalar? (circuit n a) (some T) = true → equivUpToScalar? (circuit n b) (some T) = true →
    A.run (a.map (ren ρ)) q = A.run (b.map (ren ρ)) q
  angle : ∀ (g : GName) (x n d n' d' : Nat) (q : Q), GName.isRot g = true → n' * 2 ^ d = n * 2 ^ d' →
    A.act ⟨g, [x], n', d'⟩ q = A.act ⟨g, [x], n, d⟩ q
  /-- a two-qubit circuit whose exact operator satisfies C07's `isTransfer` (`U(ψ ⊗ |0⟩) = φ ⊗ ψ` on
  two basis columns, hence for every ψ and — by linearity — for a source entangled with anything)
  IS the transfer leaving `φ`, wherever the transfer is defined -/
  transferLaw : ∀ (a : List GI) (U : Mat) (s t : Nat) (ρ : Nat → Nat) (q q' : Q),
    (∀ i j, i < 2 → j < 2 → ρ i = ρ j → i = j) → circuit 2 a = some U → isTransfer s t U = true →
    A.transfer (phiOf s t U) (ρ s) (ρ t) q = some q' → A.run (a.map (ren ρ)) q = q'

/-- vanilla `mov src tgt`: the state transfer of the property statement, onto a target that is in
|0⟩ (undefined otherwise), between the electron (id 0) and a carbon; the source is left in the state
the device's move leaves it in. Registers are untouched. -/
def movExec {C Q : Type} (A : QAction Q) (i : Instr) (s : St (C × Q)) : Option (St (C × Q)) :=
  match i.ops with
  | [.reg r0, .reg r1] =>
    match readQ s.regs r0, readQ s.regs r1 with
    | some a, some b =>
      if a = b then none
      else if a = 0 then (A.transfer (movPhi true) a b s.mem.2).map fun q' => ⟨s.regs, (s.mem.1, q')⟩
      else if b = 0 then (A.transfer (movPhi false) a b s.mem.2).map fun q' => ⟨s.regs, (s.mem.1, q')⟩
      else none
    | _, _ => none
  | _ => none

/-- **The concrete semantics**: classical instructions as `Mc` says; a gate instruction (vanilla
or NV) applies its operator to the qubits its registers name (fault if a register is undefined,
negative, or both name the same qubit) and touches nothing else; `mov` is the partial state transfer
`movExec` (NOT the SWAP its `to_matrix()` publishes: the property asks for "the same state transfer
onto a freshly initialised target"). -/
def MQ {C Q : Type} (A : QAction Q) (Mc : Sem (C × Q)) : Sem (C × Q) where
  exec i s :=
    if i.cls == movCls then movExec A i s
    else match gnameOf i.cls with
      | some _ => (giOf s.regs i).map fun gi => ⟨s.regs, (s.mem.1, A.act gi s.mem.2)⟩
      | none => Mc.exec i s
  cond := Mc.cond

/-- a template instruction as a gate over ROLES (`rm` maps the register operands `a`, `b`, `s`
to roles); only literal angles -/
def tGI (rm : TOp → Option Nat) (t : TInstr) : Option GI :=
  match gnameOf t.cls, t.ops with
  | some g, [r, .lit n, .lit d] =>
    if gkind g = 2 then
      match rm r, natOf n, natOf d with
      | some q, some n, some d => some ⟨g, [q], n, d⟩
      | _, _, _ => none
    else none
  | some g, [r0, r1, .lit n, .lit d] =>
    if gkind g = 4 then
      match rm r0, rm r1, natOf n, natOf d with
      | some a, some b, some n, some d => if a = b then none else some ⟨g, [a, b], n, d⟩
      | _, _, _, _ => none
    else none
  | _, _ => none

def isDebugCls (c : String) : Bool := debugPrefix.isPrefixOf c

/-- role reading of a template body: debug markers dropped; `none` if some instruction is not a
literal-angle NV gate over mapped registers -/
def roleSeq (rm : TOp → Option Nat) : List TInstr → Option (List GI)
  | [] => some []
  | t :: ts =>
    if isDebugCls t.cls then roleSeq rm ts
    else match tGI rm t, roleSeq rm ts with
      | some g, some gs => some (g :: gs)
      | _, _ => none

def rmEC : TOp → Option Nat
  | .a => some 0 | .b => some 1 | _ => none
def rmCE : TOp → Option Nat
  | .a => some 1 | .b => some 0 | _ => none
def rmCC : TOp → Option Nat
  | .s => some 0 | .a => some 1 | .b => some 2 | _ => none
def rm1 : TOp → Option Nat
  | .a => some 0 | _ => none

def setS0 : TInstr := ⟨"core.SetInstruction", [.s, .lit 0]⟩

/-- tie, two-qubit: the template under `key` (minus the leading `set s 0` for carbon–carbon), read
over roles, IS the representative sequence of Gen/NvDecomp for that gate and placement -/
def twoTie (cfg : Cfg) (key : String) (g : GName) (p : Placement) (rm : TOp → Option Nat) : Bool :=
  match expOf cfg key with
  | none => false
  | some body =>
    match p with
    | .cc => (body.head? == some setS0) && (roleSeq rm body.tail).isSome
              && (roleSeq rm body.tail == repOf Gen.nvTwo g p)
    | _ => (roleSeq rm body).isSome && (roleSeq rm body == repOf Gen.nvTwo g p)

/-- tie, fixed single-qubit gates: the template under `key` (the class name, with `@hw` appended in
hardware mode), read on role 0, is a sequence of Gen/NvDecomp for that gate -/
def singleTie (cfg : Cfg) (key : String) (g : GName) : Bool :=
  match expOf cfg key with
  | none => false
  | some body => match roleSeq rm1 body with
    | some seq => Gen.nvSingle.any (fun e => e.1 == g && e.2.2 == seq)
    | none => false

/-- rotation templates: one NV rotation of the same axis on `a`, angle copied (simulation) or
hardware-normalised -/
def rotTie (cfg : Cfg) (cls : String) (g : GName) : Bool :=
  (match expOf cfg cls with
    | some [⟨c, [.a, .inp 1, .inp 2]⟩] => gnameOf c == some g && !isDebugCls c
    | _ => false) &&
  (match expOf cfg (cls ++ "@hw") with
    | some [⟨c, [.a, .hwNum, .lit 4]⟩] => gnameOf c == some g && !isDebugCls c
    | _ => false)

def fixedSingles : List (String × GName) :=
  [("vanilla.GateXInstruction", .x), ("vanilla.GateYInstruction", .y), ("vanilla.GateZInstruction", .z),
   ("vanilla.GateHInstruction", .h), ("vanilla.GateKInstruction", .k), ("vanilla.GateSInstruction", .s),
   ("vanilla.GateTInstruction", .t)]
def rotSingles : List (String × GName) :=
  [("vanilla.RotXInstruction", .rotX), ("vanilla.RotYInstruction", .rotY), ("vanilla.RotZInstruction", .rotZ)]

/-- tie, MOV: the template under `key`, read over roles, is the Gen/NvDecomp move circuit of that
direction -/
def movTie (cfg : Cfg) (key : String) (ec : Bool) (rm : TOp → Option Nat) : Bool :=
  match expOf cfg key with
  | none => false
  | some body => (roleSeq rm body).isSome && (roleSeq rm body == movRep ec)

def AllTies (cfg : Cfg) : Bool :=
  fixedSingles.all (fun e => singleTie cfg e.1 e.2 && singleTie cfg (e.1 ++ "@hw") e.2)
  && rotSingles.all (fun e => rotTie cfg e.1 e.2)
  && twoTie cfg ("cnot_ec" ++ sfx cfg) .cnot .ec rmEC
  && twoTie cfg ("cnot_ce" ++ sfx cfg) .cnot .ce rmCE
  && twoTie cfg ("cnot_cc" ++ sfx cfg) .cnot .cc rmCC
  && twoTie cfg ("cphase_ec" ++ sfx cfg) .cphase .ec rmEC
  && twoTie cfg ("cphase_ec" ++ sfx cfg) .cphase .ce rmEC
  && twoTie cfg ("cphase_cc" ++ sfx cfg) .cphase .cc rmCC
  && movTie cfg ("mov_ec" ++ sfx cfg) true rmEC
  && movTie cfg ("mov_ce" ++ sfx cfg) false rmCE

/-- class facts used to recognise instructions: gate classes of the table are exactly the classes
`gnameOf`/`movCls` know, with the tags the dispatch uses; `set` is the one `isSet` class -/
def ClsTie (cfg : Cfg) : Bool :=
  cfg.infos.all (fun r =>
    (!r.isSet || r.cls == "core.SetInstruction")
    && (!(r.gate1 || r.gate2) || (r.cls == movCls) || (gnameOf r.cls).isSome)
    && ((r.gate1 || r.gate2 || r.cls == movCls) || (gnameOf r.cls).isNone)
    && (!r.gate1 || fixedSingles.any (fun e => e.1 == r.cls) || rotSingles.any (fun e => e.1 == r.cls))
    && (!r.gate2 || (r.tag == "cnot" && gnameOf r.cls == some .cnot)
                 || (r.tag == "cphase" && gnameOf r.cls == some .cphase)
                 || (r.tag == "mov" && r.cls == movCls)))
  && (match infoOf cfg "core.SetInstruction" with | some r => r.isSet | none => false)

/-- the vanilla gates themselves, as one-instruction circuits, are (up to a scalar) the targets
C07 compares against; each target is proportional to itself (it is non-zero) -/
theorem targets_self :
    ([GName.x, .y, .z, .h, .k, .s, .t].all fun g =>
      equivUpToScalar? (circuit 1 [⟨g, [0], 0, 0⟩]) ((target1 g).map (embed1 1 0))) = true ∧
    ([GName.cnot, .cphase].all fun g => [(Placement.ec), .ce, .cc].all fun p =>
      equivUpToScalar? (circuit p.nq [⟨g, [p.roles.1, p.roles.2], 0, 0⟩]) (target2 g p)) = true := by
  decide +kernel

theorem gnameOf_facts :
    (fixedSingles.all fun e => gnameOf e.1 == some e.2 && gkind e.2 == 1) = true ∧
    (rotSingles.all fun e => gnameOf e.1 == some e.2 && gkind e.2 == 2) = true ∧
    gnameOf movCls = none ∧ gnameOf "core.SetInstruction" = none := by decide +kernel

end NQ.Tr
