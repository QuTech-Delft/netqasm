/-
The notions in which the static effect of building is stated: `SameButL` (a helper leaves everything but the
register flags and the label counters alone), the register discipline of EPR operations (`EprInv`,
`emitEprH_inv`), and `Stat`: how the handle / array tables grow (by `hCount` / `aCount` / `declsOf` of
Model/SdkHost.lean) and when an operation emits nothing (`emits`).  `BodyOK` is the class of operations the
correctness theorem allows inside bodies.
-/
import NetqasmVerif.Lemmas.Sdk
import NetqasmVerif.Model.SdkHost
namespace NQ.Sdk

/-- the registers an EPR operation holds, on top of the pool `base` it started from -/
structure EprInv (base : List Bool) (held : List Nat) (m : Mem) : Prop where
  act : ∀ i, m.active.getD i false = true ↔ (base.getD i false = true ∨ i ∈ held)
  len : m.active.length = base.length
  disj : ∀ i ∈ held, base.getD i false = false
  nodup : held.Nodup

theorem emitEprH_inv {base : List Bool} : ∀ (evs : List EprEv) (m : Mem) (held : List Nat) (m' : Mem) (held' : List Nat),
    EprInv base held m → emitEprH m held evs = .ok (m', held') →
    EprInv base held' m' ∧ heldLen held.length evs = some held'.length ∧ SameBut m m'
  | [], m, held, m', held', hinv, h => by
    simp [emitEprH] at h; obtain ⟨rfl, rfl⟩ := h; exact ⟨hinv, rfl, .refl _⟩
  | .take :: es, m, held, m', held', hinv, h => by
    simp only [emitEprH] at h
    split at h
    · cases h
    · rename_i m1 i h1
      have s1 := takeReg_spec h1
      have hil := getD_true_false_lt s1.1
      have hif := getD_false_of_true_false s1.1
      have hnb : base.getD i false = false := by
        cases hb : base.getD i false with
        | false => rfl
        | true => have := (hinv.act i).mpr (Or.inl hb); rw [hif] at this; cases this
      have hnh : i ∉ held := by
        intro hm; have := (hinv.act i).mpr (Or.inr hm); rw [hif] at this; cases this
      have hinv1 : EprInv base (held ++ [i]) m1 := by
        refine ⟨?_, by rw [s1.2.1]; simpa using hinv.len, ?_, ?_⟩
        · intro j
          rw [s1.2.1, getD_set_true_iff hil, hinv.act j]
          simp only [List.mem_append, List.mem_singleton]
          constructor
          · rintro (h | h | h)
            · exact Or.inr (Or.inr h)
            · exact Or.inl h
            · exact Or.inr (Or.inl h)
          · rintro (h | h | h)
            · exact Or.inr (Or.inl h)
            · exact Or.inr (Or.inr h)
            · exact Or.inl h
        · intro j hj
          simp only [List.mem_append, List.mem_singleton] at hj
          rcases hj with hj | rfl
          · exact hinv.disj j hj
          · exact hnb
        · rw [List.nodup_append]
          refine ⟨hinv.nodup, by simp, ?_⟩
          intro a ha b hb e
          simp at hb; subst hb; subst e; exact hnh ha
      have := emitEprH_inv es m1 (held ++ [i]) m' held' hinv1 h
      exact ⟨this.1, by simpa [heldLen] using this.2.1, (takeReg_same h1).trans this.2.2⟩
  | .rel p :: es, m, held, m', held', hinv, h => by
    simp only [emitEprH] at h
    split at h
    · cases h
    · rename_i i hp
      split at h
      · cases h
      · rename_i m1 h1
        have r1 := release_spec h1
        have hmem : i ∈ held := List.mem_of_getElem? hp
        have hpl : p < held.length := by
          by_cases hpl : p < held.length
          · exact hpl
          · simp [List.getElem?_eq_none (Nat.le_of_not_lt hpl)] at hp
        have hinv1 : EprInv base (held.erase i) m1 := by
          refine ⟨?_, by rw [r1.2.1]; simpa using hinv.len, ?_, hinv.nodup.erase i⟩
          · intro j
            rw [r1.2.1, getD_set_false_iff, hinv.act j, hinv.nodup.mem_erase_iff]
            constructor
            · rintro ⟨hne, h | h⟩
              · exact Or.inl h
              · exact Or.inr ⟨hne, h⟩
            · rintro (hbj | ⟨hne, hjh⟩)
              · refine ⟨?_, Or.inl hbj⟩
                intro e
                rw [e, hinv.disj i hmem] at hbj; cases hbj
              · exact ⟨hne, Or.inr hjh⟩
          · intro j hj
            exact hinv.disj j (List.mem_of_mem_erase hj)
        have := emitEprH_inv es m1 (held.erase i) m' held' hinv1 h
        refine ⟨this.1, ?_, (release_same h1).trans this.2.2⟩
        have hlen : (held.erase i).length = held.length - 1 := List.length_erase_of_mem hmem
        simp only [heldLen, hpl, if_true]
        rw [← hlen]; exact this.2.1

theorem eprInv_base (m : Mem) : EprInv m.active [] m :=
  ⟨fun i => (by simp), rfl, fun i hi => (by cases hi), List.nodup_nil⟩

theorem eprInv_nil_eq {base : List Bool} {m : Mem} (h : EprInv base [] m) : m.active = base := by
  apply List.ext_getElem h.len
  intro j h1 h2
  have := h.act j
  simp only [List.not_mem_nil, or_false] at this
  simp only [List.getD, List.getElem?_eq_getElem h1, List.getElem?_eq_getElem h2, Option.getD_some] at this
  cases ha : m.active[j] <;> cases hb : base[j] <;> simp_all

theorem emitEprH_balanced {m m' : Mem} {held' : List Nat} {evs : List EprEv}
    (hb : heldLen 0 evs = some 0) (h : emitEprH m [] evs = .ok (m', held')) : m'.active = m.active := by
  obtain ⟨hinv, hl, _⟩ := emitEprH_inv evs m [] m' held' (eprInv_base m) h
  simp only [List.length_nil] at hl
  rw [hb] at hl
  have : held' = [] := by
    cases held' with
    | nil => rfl
    | cons x xs => simp at hl
  subst this
  exact eprInv_nil_eq hinv

/-- everything but the register flags and the label counters is unchanged -/
structure SameButL (m m' : Mem) : Prop where
  meas : m'.measUsed = m.measUsed
  rret : m'.regsToReturn = m.regsToReturn
  aret : m'.arraysToReturn = m.arraysToReturn
  lens : m'.arrLens = m.arrLens
  handles : m'.handles = m.handles

theorem SameBut.toL {m m' : Mem} (h : SameBut m m') : SameButL m m' :=
  ⟨h.meas, h.rret, h.aret, h.lens, h.handles⟩

theorem SameButL.refl (m : Mem) : SameButL m m := ⟨rfl, rfl, rfl, rfl, rfl⟩

theorem SameButL.trans {a b c : Mem} (h1 : SameButL a b) (h2 : SameButL b c) : SameButL a c :=
  ⟨h2.meas.trans h1.meas, h2.rret.trans h1.rret, h2.aret.trans h1.aret, h2.lens.trans h1.lens,
   h2.handles.trans h1.handles⟩

theorem newLabel_sameL (m : Mem) (k : Nat) : SameButL m (newLabel m k).1 := ⟨rfl, rfl, rfl, rfl, rfl⟩

theorem buildLoop_sameL (m : Mem) (s e d : Int) (r : Reg) (body : List PCmd) :
    SameButL m (buildLoop m s e d r body).1 := by
  unfold buildLoop
  split
  · exact .refl _
  · exact ⟨rfl, rfl, rfl, rfl, rfl⟩

/-- operations allowed inside bodies by the correctness theorem: no creation of a persistent register
handle (`new_register`, `measure(store_array=False)`) — those are top-level statements (`TopOK`,
Lemmas/SdkSimTop.lean) — and no EPR operation, which the direct semantics does not cover -/
def BodyOK : Host → Prop
  | .skip => True
  | .seq a b => BodyOK a ∧ BodyOK b
  | .newArray _ _ => True
  | .newReg _ => False
  | .qop _ t => t ≠ .newReg
  | .addF _ _ _ => True
  | .addR _ _ _ => True
  | .ifc _ _ _ _ body => BodyOK body
  | .loop _ _ _ _ body => BodyOK body
  | .loopBody _ _ _ _ body => BodyOK body
  | .foreach _ _ body => BodyOK body
  | .loopUntil _ body _ _ cl => BodyOK body ∧ BodyOK cl
  | .tryUntil _ body => BodyOK body
  | .epr _ => False

theorem BodyOK.completed : ∀ {op : Host}, BodyOK op → Completed op
  | .skip, _ => trivial
  | .seq _ _, h => ⟨BodyOK.completed h.1, BodyOK.completed h.2⟩
  | .newArray _ _, _ => trivial
  | .newReg _, h => h.elim
  | .qop _ _, _ => trivial
  | .addF _ _ _, _ => trivial
  | .addR _ _ _, _ => trivial
  | .ifc _ _ _ _ body, h => BodyOK.completed (op := body) h
  | .loop _ _ _ _ body, h => BodyOK.completed (op := body) h
  | .loopBody _ _ _ _ body, h => BodyOK.completed (op := body) h
  | .foreach _ _ body, h => BodyOK.completed (op := body) h
  | .loopUntil _ _ _ _ _, h => ⟨BodyOK.completed h.1, BodyOK.completed h.2⟩
  | .tryUntil _ body, h => BodyOK.completed (op := body) h
  | .epr _, h => h.elim

structure Stat (m m' : Mem) (op : Host) (cs : List PCmd) : Prop where
  handles : ∃ t, m'.handles = m.handles ++ t ∧ t.length = hCount op
  lens : ∃ t, m'.arrLens = m.arrLens ++ t ∧ t.length = aCount op
  aret : m'.arraysToReturn = m.arraysToReturn ++ declsOf m.arrLens.length op
  empty : cs = [] ↔ emits op = false
  body : BodyOK op → m'.measUsed = m.measUsed ∧ m'.regsToReturn = m.regsToReturn

theorem declsOf_addr : ∀ (op : Host) (na : Nat), (declsOf na op).map (·.addr) = List.range' na (aCount op)
  | .skip, _ => rfl
  | .seq a b, na => by
    simp [declsOf, aCount, declsOf_addr a, declsOf_addr b, List.range'_append_1]
  | .newArray _ _, _ => rfl
  | .newReg _, _ => rfl
  | .qop _ t, _ => by cases t <;> rfl
  | .addF _ _ _, _ => rfl
  | .addR _ _ _, _ => rfl
  | .ifc _ _ _ _ body, na => by simp [declsOf, aCount, declsOf_addr body]
  | .loop _ _ _ _ body, na => by simp [declsOf, aCount, declsOf_addr body]
  | .loopBody _ _ _ _ body, na => by simp [declsOf, aCount, declsOf_addr body]
  | .foreach _ _ body, na => by simp [declsOf, aCount, declsOf_addr body]
  | .loopUntil _ body _ _ cl, na => by
    cases he : emits body <;>
      simp [declsOf, aCount, he, declsOf_addr body, declsOf_addr cl, List.range'_append_1]
  | .tryUntil _ body, na => by simp [declsOf, aCount, declsOf_addr body]
  | .epr _, _ => rfl

theorem declsOf_length (op : Host) (na : Nat) : (declsOf na op).length = aCount op := by
  simpa using congrArg List.length (declsOf_addr op na)

/-- `Stat` from the exact growth of the array-length table, which is its `lens` field and more -/
theorem Stat.of_lens {m m' : Mem} {op : Host} {cs : List PCmd}
    (hl : m'.arrLens = m.arrLens ++ (declsOf m.arrLens.length op).map (·.len))
    (hh : ∃ t, m'.handles = m.handles ++ t ∧ t.length = hCount op)
    (ha : m'.arraysToReturn = m.arraysToReturn ++ declsOf m.arrLens.length op)
    (he : cs = [] ↔ emits op = false)
    (hb : BodyOK op → m'.measUsed = m.measUsed ∧ m'.regsToReturn = m.regsToReturn) :
    Stat m m' op cs ∧ m'.arrLens = m.arrLens ++ (declsOf m.arrLens.length op).map (·.len) :=
  ⟨⟨hh, ⟨_, hl, by simp [declsOf_length]⟩, ha, he, hb⟩, hl⟩

theorem Stat.of_same {m m' : Mem} {op : Host} {cs : List PCmd} (h : SameButL m m')
    (hh : hCount op = 0) (hd : ∀ n, declsOf n op = []) (he : cs = [] ↔ emits op = false) :
    Stat m m' op cs ∧ m'.arrLens = m.arrLens ++ (declsOf m.arrLens.length op).map (·.len) :=
  Stat.of_lens (by simp [h.lens, hd]) ⟨[], by simp [h.handles], by simp [hh]⟩ (by simp [h.aret, hd]) he
    fun _ => ⟨h.meas, h.rret⟩

theorem buildLoop_nil (m : Mem) (s e d : Int) (r : Reg) (body : List PCmd) :
    (buildLoop m s e d r body).2 = [] ↔ body = [] := by
  unfold buildLoop
  cases body with
  | nil => simp
  | cons c cs => simp

end NQ.Sdk
