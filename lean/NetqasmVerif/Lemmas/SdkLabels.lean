/-
Freshness of the labels generated by the builder model (`Fresh` and its rules): every label command carries a
number taken from the label counters, which only grow — so the label commands of a subroutine are pairwise
distinct and `findLabel` resolves each to its own position. That `emit` builds fresh code is `emit_fresh`
(Lemmas/SdkSpec.lean).
-/
import NetqasmVerif.Lemmas.SdkInv
namespace NQ.Sdk

def labelsIn : List PCmd → List Lbl
  | [] => []
  | .label l :: cs => l :: labelsIn cs
  | .instr _ _ :: cs => labelsIn cs

theorem labelsIn_append (a b : List PCmd) : labelsIn (a ++ b) = labelsIn a ++ labelsIn b := by
  induction a with
  | nil => rfl
  | cons c cs ih => cases c <;> simp [labelsIn, ih]

def lblCnt (m : Mem) (k : Nat) : Nat := m.lbl.getD k 0

/-- the label commands of `cs` were generated between `m` and `m'`. `len` is a field because `newLabel`
counts with `List.set`, which is silent out of range: without the five counters no label would be new. -/
structure Fresh (m m' : Mem) (cs : List PCmd) : Prop where
  len : m'.lbl.length = 5
  mono : ∀ k, lblCnt m k ≤ lblCnt m' k
  range : ∀ l ∈ labelsIn cs, l.kind < 5 ∧ lblCnt m l.kind ≤ l.n ∧ l.n < lblCnt m' l.kind
  nodup : (labelsIn cs).Nodup

theorem Fresh.nolabel {m m' : Mem} {cs : List PCmd} (hl : m.lbl.length = 5) (h : m'.lbl = m.lbl)
    (hn : labelsIn cs = []) : Fresh m m' cs :=
  ⟨by rw [h]; exact hl, fun k => by simp [lblCnt, h], by simp [hn], by simp [hn]⟩

theorem Fresh.seq {m m1 m2 : Mem} {a b : List PCmd} (ha : Fresh m m1 a) (hb : Fresh m1 m2 b) :
    Fresh m m2 (a ++ b) := by
  refine ⟨hb.len, fun k => Nat.le_trans (ha.mono k) (hb.mono k), ?_, ?_⟩
  · intro l hl
    rw [labelsIn_append, List.mem_append] at hl
    cases hl with
    | inl h =>
      have := ha.range l h
      exact ⟨this.1, this.2.1, Nat.lt_of_lt_of_le this.2.2 (hb.mono _)⟩
    | inr h =>
      have := hb.range l h
      exact ⟨this.1, Nat.le_trans (ha.mono _) this.2.1, this.2.2⟩
  · rw [labelsIn_append, List.nodup_append]
    refine ⟨ha.nodup, hb.nodup, ?_⟩
    intro x hx y hy hxy
    subst hxy
    have h1 := ha.range x hx
    have h2 := hb.range x hy
    omega

theorem Fresh.perm {m m' : Mem} {cs cs' : List PCmd} (h : Fresh m m' cs)
    (hp : (labelsIn cs').Perm (labelsIn cs)) : Fresh m m' cs' :=
  ⟨h.len, h.mono, fun l hl => h.range l (hp.mem_iff.mp hl), hp.nodup_iff.mpr h.nodup⟩

theorem Fresh.congr {m m' m'' : Mem} {cs cs' : List PCmd} (h : Fresh m m' cs) (hl : m''.lbl = m'.lbl)
    (hc : labelsIn cs' = labelsIn cs) : Fresh m m'' cs' :=
  ⟨by rw [hl]; exact h.len, fun k => by simpa [lblCnt, hl] using h.mono k,
   fun l hm => by simpa [lblCnt, hl] using h.range l (by rwa [hc] at hm), by rw [hc]; exact h.nodup⟩

theorem Fresh.congr_left {m0 m m' : Mem} {cs : List PCmd} (h : Fresh m m' cs) (hl : m0.lbl = m.lbl) :
    Fresh m0 m' cs :=
  ⟨h.len, fun k => by simpa [lblCnt, hl] using h.mono k,
   fun l hm => by simpa [lblCnt, hl] using h.range l hm, h.nodup⟩

theorem Fresh.lenL {m m' : Mem} {cs : List PCmd} (h : Fresh m m' cs) : m'.lbl.length = 5 := h.len

theorem lblCnt_newLabel_self (m : Mem) (k : Nat) (hl : m.lbl.length = 5) (hk : k < 5) :
    lblCnt (newLabel m k).1 k = lblCnt m k + 1 := by
  simp [lblCnt, newLabel, List.getD, hl, hk]

theorem lblCnt_newLabel_ne (m : Mem) (k j : Nat) (h : k ≠ j) :
    lblCnt (newLabel m k).1 j = lblCnt m j := by
  simp [lblCnt, newLabel, List.getD, h]

theorem Fresh.label (m : Mem) (k : Nat) (hl : m.lbl.length = 5) (hk : k < 5) :
    Fresh m (newLabel m k).1 [.label (newLabel m k).2] := by
  refine ⟨by simp [newLabel, hl], ?_, ?_, by simp [labelsIn]⟩
  · intro j
    by_cases h : k = j
    · subst h; rw [lblCnt_newLabel_self m k hl hk]; omega
    · rw [lblCnt_newLabel_ne m k j h]; exact Nat.le_refl _
  · intro l hl'
    simp [labelsIn] at hl'
    subst hl'
    have : (newLabel m k).2 = ⟨k, lblCnt m k⟩ := rfl
    rw [this]
    simp only
    rw [lblCnt_newLabel_self m k hl hk]
    exact ⟨hk, Nat.le_refl _, Nat.lt_succ_self _⟩

theorem storeInits_nolab (a : Nat) : ∀ (vs : List (Option Int)) (i : Nat), labelsIn (storeInits a i vs) = []
  | [], _ => rfl
  | none :: vs, i => by simp [storeInits, storeInits_nolab a vs]
  | some v :: vs, i => by simp [storeInits, labelsIn, storeInits_nolab a vs]

theorem gateCmds_nolab : ∀ gs, labelsIn (gateCmds gs) = []
  | [] => rfl
  | _ :: gs => gateCmds_nolab gs

theorem measHead_nolab (g : List Nat) (k : Nat) : labelsIn (measHead g k) = [] := by
  simp only [measHead, labelsIn_append, gateCmds_nolab]; rfl

theorem buildLoop_fresh {m0 m : Mem} (s e d : Int) (r : Reg) {body : List PCmd} (hb : Fresh m0 m body) :
    Fresh m0 (buildLoop m s e d r body).1 (buildLoop m s e d r body).2 := by
  unfold buildLoop
  split
  · rename_i he
    have : body = [] := by cases body <;> simp_all
    subst this; exact hb
  · have f1 := Fresh.label m 1 hb.len (by omega)
    have f2 := Fresh.label (newLabel m 1).1 2 f1.len (by omega)
    have f := (hb.seq f1).seq f2
    refine f.perm ?_
    simp only [labelsIn_append, labelsIn, List.nil_append, List.cons_append]
    have : ((newLabel m 1).2 :: (labelsIn body ++ [(newLabel (newLabel m 1).1 2).2])).Perm
        ((labelsIn body ++ [(newLabel m 1).2]) ++ [(newLabel (newLabel m 1).1 2).2]) := by
      have h1 : ([(newLabel m 1).2] ++ labelsIn body).Perm (labelsIn body ++ [(newLabel m 1).2]) :=
        List.perm_append_comm
      exact (List.Perm.append_right [(newLabel (newLabel m 1).1 2).2] h1)
    simpa using this

theorem mem_labelsIn : ∀ (p : List PCmd) (k : Nat) (l : Lbl), p[k]? = some (.label l) → l ∈ labelsIn p
  | [], _, _, h => by simp at h
  | c :: cs, 0, l, h => by
    obtain rfl : c = .label l := by simpa using h
    exact List.mem_cons_self ..
  | c :: cs, k + 1, l, h => by
    have := mem_labelsIn cs k l (by simpa using h)
    cases c
    · exact List.mem_cons_of_mem _ this
    · exact this

theorem findLabel_of_nodup : ∀ (p : List PCmd) (k : Nat) (l : Lbl), (labelsIn p).Nodup →
    p[k]? = some (.label l) → findLabel p l = some k
  | [], k, l, _, h => by simp at h
  | .instr mn ops :: rest, 0, l, _, h => by simp at h
  | .instr mn ops :: rest, k + 1, l, hn, h => by
    simp only [findLabel]
    rw [findLabel_of_nodup rest k l hn (by simpa using h)]
    rfl
  | .label l' :: rest, 0, l, _, h => by
    obtain rfl : l' = l := by simpa using h
    simp [findLabel]
  | .label l' :: rest, k + 1, l, hn, h => by
    have h' : rest[k]? = some (.label l) := by simpa using h
    obtain ⟨hnot, hn'⟩ := List.nodup_cons.mp hn
    -- `l` labels a later command, so it is not the label `l'` at the head
    have hne : l' ≠ l := fun e => hnot (e ▸ mem_labelsIn rest k l h')
    simp only [findLabel, if_neg hne]
    rw [findLabel_of_nodup rest k l hn' h']
    rfl

end NQ.Sdk
