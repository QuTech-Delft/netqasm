/-
C03 text level, operands: the character-level operand parser of C17 (`Text.parseOperand`, the
model of `_parse_operand` / `parse_address` / `_parse_value`) reads back every operand form of a
SOURCE (proto) program — in particular integer literals inside brackets (`@a[5]`, `@a[R1:3]`),
which printed assembled instructions never contain.  The bracket forms with either kind of value are
read back in `Lemmas/TextOperand.lean` (`parseAddress_entry_val`, `parseAddress_slice_val`).
-/
import NetqasmVerif.Lemmas.TextOperand
import NetqasmVerif.Model.Asm
namespace NQ.Text
open NQ

variable {S : Syms}

def valOfRI : Asm.RI → PVal
  | .reg r => .reg r
  | .lit v => .int v

def tokOfP : Asm.POperand → POp
  | .reg r => .reg r
  | .lit v => .lit v
  | .lab l => .label l.toList
  | .tmpl n => .tmpl n.toList
  | .addr a => .addr a
  | .entry a i => .entry a (valOfRI i)
  | .slice a s e => .slice a (valOfRI s) (valOfRI e)

/-- how a source operand is written (`str` of the proto operand) -/
def showPOp (S : Syms) : Asm.POperand → List Char
  | .reg r => showReg S r
  | .lit v => showInt v
  | .lab l => l.toList
  | .tmpl n => '{' :: n.toList ++ ['}']
  | .addr a => S.addrStart :: showInt a
  | .entry a i => showEntry S a (valOfRI i)
  | .slice a s e => showSlice S a (valOfRI s) (valOfRI e)

/-- operands whose text form is covered: registers of an existing bank, and label names that are
variable names but neither numbers nor register names (a label called `R1` IS read as a register) -/
def pOpOk (S : Syms) : Asm.POperand → Prop
  | .reg r => r.bank < S.banks.length
  | .lit _ => True
  | .lab l => parseConst l.toList = none ∧ parseRegister S l.toList = none ∧ isVarName l.toList = true ∧
      l.toList ≠ [] ∧ l.toList.head? ≠ some S.addrStart
  | .tmpl _ => False
  | .addr _ => True
  | .entry _ i => valOk S (valOfRI i)
  | .slice _ s e => valOk S (valOfRI s) ∧ valOk S (valOfRI e)

theorem parseOperand_showPOp (hS : SOk S) (o : Asm.POperand) (ho : pOpOk S o) :
    parseOperand S (showPOp S o) = .ok (tokOfP o) := by
  cases o with
  | reg r =>
    have hb : r.bank < S.banks.length := ho
    exact parseOperand_show hS (.reg r) (by simp [banksOk, hb])
  | lit v => exact parseOperand_show hS (.imm v) (by simp [banksOk])
  | addr a => exact parseOperand_show hS (.addr a) (by simp [banksOk])
  | tmpl n => exact absurd ho (by simp [pOpOk])
  | lab l =>
    obtain ⟨h1, h2, h3, h4, h5⟩ := ho
    simp only [parseOperand, showPOp, tokOfP, beq_iff_eq]
    rw [if_neg h5]
    simp [parseTopVal, h1, h2, h3, h4]
  | entry a i =>
    have : (showPOp S (.entry a i)).head? = some S.addrStart := by simp [showPOp, showEntry]
    simp only [parseOperand, this, beq_self_eq_true, if_true, tokOfP]
    exact parseAddress_entry_val hS a _ ho
  | slice a s e =>
    have : (showPOp S (.slice a s e)).head? = some S.addrStart := by simp [showPOp, showSlice]
    simp only [parseOperand, this, beq_self_eq_true, if_true, tokOfP]
    exact parseAddress_slice_val hS a _ _ ho.1 ho.2

end NQ.Text
