/-
Generic lemmas of the Pauli-conjugation calculus used by C20 (`parity_meas` for every number of
qubits): pull-back through the basis-change layer and through the CNOT fan-in; the shape of `bases`
in the three branches of `parityMeas`; and, for the allocation state along a trace (`runLive`),
which qubits the gates of the two layers touch.
-/
import NetqasmVerif.Model.Toolbox
namespace NQ.TB
open NQ

theorem getD_mid {α} (front : List α) (p : α) (back : List α) (d : α) :
    (front ++ p :: back).getD front.length d = p := by simp

theorem set_mid {α} (front : List α) (p p' : α) (back : List α) :
    (front ++ p :: back).set front.length p' = front ++ p' :: back := by simp

theorem pullback_append (l1 l2 : List GI) (O : PStr) :
    pullback (l1 ++ l2) O = (pullback l2 O).bind (pullback l1) := by
  induction l1 with
  | nil => simp [pullback]
  | cons g l1 ih =>
    simp only [List.cons_append, pullback, ih]
    cases pullback l2 O <;> simp

/-- conjugation by the flip gate of basis `b` on a single Pauli -/
def flip1 (b p : P1) : Bool × P1 :=
  match b with
  | .X => (conj1 .h p).getD (false, p)
  | .Y => (conj1 .k p).getD (false, p)
  | _ => (false, p)

/-- the letters of a Pauli string after conjugation by the basis-change layer of `bs` -/
def flipPs : List P1 → List P1 → List P1
  | b :: bs, p :: ps => (flip1 b p).2 :: flipPs bs ps
  | _, ps => ps

/-- the sign it picks up (`true`: minus) -/
def flipSign : List P1 → List P1 → Bool
  | b :: bs, p :: ps => xor (flip1 b p).1 (flipSign bs ps)
  | _, _ => false

theorem pullback_flipGate (b p : P1) (s : Bool) (front back : List P1) :
    pullback (flipGate b front.length) ⟨s, front ++ p :: back⟩ =
      some ⟨xor s (flip1 b p).1, front ++ (flip1 b p).2 :: back⟩ := by
  have hlt : front.length < (front ++ p :: back).length := by simp
  cases b <;> cases p <;>
    simp only [flipGate, pullback, conjGate, hlt, getD_mid, set_mid, conj1, flip1, Option.bind_some, if_true,
      Option.getD_some, Bool.xor_false, Bool.xor_true]

theorem pullback_basisChange (bs : List P1) :
    ∀ (front back : List P1) (s : Bool), bs.length ≤ back.length →
      pullback (basisChangeFrom front.length bs) ⟨s, front ++ back⟩ =
        some ⟨xor s (flipSign bs back), front ++ flipPs bs back⟩ := by
  induction bs with
  | nil => intro front back s _; simp [basisChangeFrom, pullback, flipSign, flipPs]
  | cons b bs ih =>
    intro front back s hlen
    cases back with
    | nil => simp at hlen
    | cons p back' =>
      simp only [List.length_cons, Nat.add_le_add_iff_right] at hlen
      have h1 := ih (front ++ [p]) back' s hlen
      simp only [List.append_assoc, List.singleton_append, List.length_append, List.length_singleton] at h1
      simp only [basisChangeFrom, pullback_append, h1, Option.bind_some, pullback_flipGate, flipSign, flipPs,
        Bool.xor_assoc, Bool.xor_comm (flipSign bs back')]

theorem pullback_basisChange_zero (bs ps : List P1) (s : Bool) (h : bs.length ≤ ps.length) :
    pullback (basisChangeFrom 0 bs) ⟨s, ps⟩ = some ⟨xor s (flipSign bs ps), flipPs bs ps⟩ :=
  pullback_basisChange bs [] ps s h

/-- what the CNOT fan-in makes of `Z` on the ancilla, on the data qubits (`pullback_cnots`) -/
def supp (bs : List P1) : List P1 := bs.map fun b => if b = .I then .I else .Z

theorem conjGate_cnot (front mid back : List P1) (pc pt : P1) (s : Bool) :
    conjGate ⟨.cnot, [front.length, front.length + 1 + mid.length], 0, 0⟩
        ⟨s, front ++ pc :: (mid ++ pt :: back)⟩ =
      some ⟨xor s (conjCnot pc pt).1,
        front ++ (conjCnot pc pt).2.1 :: (mid ++ (conjCnot pc pt).2.2 :: back)⟩ := by
  have e (x y : P1) : front ++ x :: (mid ++ y :: back) = (front ++ x :: mid) ++ y :: back := by simp
  have hl (x : P1) : front.length + 1 + mid.length = (front ++ x :: mid).length := by simp; omega
  have hlen : (front ++ pc :: (mid ++ pt :: back)).length = front.length + 1 + mid.length + 1 + back.length := by
    simp; omega
  simp only [conjGate, hlen]
  rw [if_pos ⟨by omega, by omega, by omega⟩, getD_mid, set_mid, e, hl pc, getD_mid, e,
    show (front ++ pc :: mid).length = (front ++ (conjCnot pc pt).2.1 :: mid).length by simp, set_mid, e]

theorem pullback_cnots (bs : List P1) : ∀ (front : List P1) (s : Bool) (anc : Nat),
    anc = front.length + bs.length →
      pullback (cnotsFrom front.length anc bs) ⟨s, front ++ (List.replicate bs.length .I ++ [.Z])⟩ =
        some ⟨s, front ++ (supp bs ++ [.Z])⟩ := by
  induction bs with
  | nil => intro _ _ _ _; rfl
  | cons b bs ih =>
    intro front s anc hanc
    have h1 := ih (front ++ [.I]) s anc (by simp [hanc]; omega)
    simp only [List.append_assoc, List.singleton_append, List.length_append, List.length_singleton] at h1
    simp only [cnotsFrom, pullback_append, List.length_cons, List.replicate_succ, List.cons_append, h1,
      Option.bind_some]
    rw [show supp (b :: bs) = (if b = .I then P1.I else .Z) :: supp bs from rfl]
    by_cases hb : b = .I
    · simp only [hb, if_true, pullback, List.cons_append]
    · simp only [hb, if_false, pullback, Option.bind_some, List.cons_append]
      rw [show anc = front.length + 1 + (supp bs).length by simp [supp, hanc]; omega]
      rw [conjGate_cnot front (supp bs) [] .I .Z s, show conjCnot .I .Z = (false, .Z, .Z) from rfl,
        Bool.xor_false]

theorem flip1_supp (b : P1) : flip1 b (if b = .I then .I else .Z) = (false, b) := by
  cases b <;> rfl

theorem flip_supp (bs extra : List P1) :
    flipPs bs (supp bs ++ extra) = bs ++ extra ∧ flipSign bs (supp bs ++ extra) = false := by
  induction bs with
  | nil => exact ⟨rfl, rfl⟩
  | cons b bs ih =>
    simp only [supp] at ih
    simp only [supp, List.map_cons, List.cons_append, flipPs, flipSign, flip1_supp, ih, Bool.xor_false,
      and_self]

theorem flip1_flip1 (b p : P1) : flip1 b (flip1 b p).2 = ((flip1 b p).1, p) := by
  cases b <;> cases p <;> rfl

theorem flip_flip (bs ps : List P1) :
    flipPs bs (flipPs bs ps) = ps ∧ flipSign bs (flipPs bs ps) = flipSign bs ps := by
  induction bs generalizing ps with
  | nil => exact ⟨rfl, rfl⟩
  | cons b bs ih =>
    cases ps with
    | nil => exact ⟨rfl, rfl⟩
    | cons p ps => simp only [flipPs, flipSign, flip1_flip1, ih ps, and_self]

theorem flipPs_length (bs ps : List P1) : (flipPs bs ps).length = ps.length := by
  induction bs generalizing ps with
  | nil => simp [flipPs]
  | cons b bs ih =>
    cases ps with
    | nil => simp [flipPs]
    | cons p ps => simp [flipPs, ih]

theorem nonId_nil (bs : List P1) : ∀ k, nonIdFrom k bs = [] → bs = List.replicate bs.length .I := by
  induction bs with
  | nil => intro k _; rfl
  | cons b bs ih =>
    intro k h
    unfold nonIdFrom at h
    by_cases hb : b = .I
    · simp only [hb, if_true] at h
      rw [List.length_cons, List.replicate_succ, ← ih (k + 1) h, hb]
    · simp [hb] at h

theorem nonId_single (bs : List P1) : ∀ k q, nonIdFrom k bs = [q] →
    ∃ i m b, q = k + i ∧ b ≠ P1.I ∧ bs = List.replicate i .I ++ b :: List.replicate m .I := by
  induction bs with
  | nil => intro k q h; simp [nonIdFrom] at h
  | cons b bs ih =>
    intro k q h
    unfold nonIdFrom at h
    by_cases hb : b = .I
    · simp only [hb, if_true] at h
      obtain ⟨i, m, b', hq, hb', hbs⟩ := ih (k + 1) q h
      refine ⟨i + 1, m, b', by omega, hb', ?_⟩
      rw [hb, hbs, List.replicate_succ, List.cons_append]
    · simp only [hb, if_false, List.cons.injEq] at h
      refine ⟨0, bs.length, b, by omega, hb, ?_⟩
      simp only [List.replicate_zero, List.nil_append]
      rw [← nonId_nil bs (k + 1) h.2]

theorem nonId_single_zero (bs : List P1) (q : Nat) (h : nonIdFrom 0 bs = [q]) :
    ∃ m b, b ≠ P1.I ∧ bs = List.replicate q .I ++ b :: List.replicate m .I ∧ bs.getD q .I = b := by
  obtain ⟨i, m, b, hq, hb, hbs⟩ := nonId_single bs 0 q h
  obtain rfl : q = i := by omega
  refine ⟨m, b, hb, hbs, ?_⟩
  have := getD_mid (List.replicate q P1.I) b (List.replicate m .I) P1.I
  rwa [List.length_replicate, ← hbs] at this

theorem basisChange_replicate_I (m k : Nat) : basisChangeFrom k (List.replicate m .I) = [] := by
  induction m generalizing k with
  | zero => rfl
  | succ m ih => simp [List.replicate_succ, basisChangeFrom, flipGate, ih]

theorem basisChange_single (i m : Nat) (b : P1) (k : Nat) :
    basisChangeFrom k (List.replicate i .I ++ b :: List.replicate m .I) = flipGate b (k + i) := by
  induction i generalizing k with
  | zero => simp [basisChangeFrom, basisChange_replicate_I]
  | succ i ih =>
    simp only [List.replicate_succ, List.cons_append, basisChangeFrom, flipGate, List.nil_append]
    rw [ih (k + 1)]
    congr 1
    omega

theorem runLive_append (l1 l2 : List TEv) (live : List Nat) :
    runLive live (l1 ++ l2) = (runLive live l1).bind fun l => runLive l l2 := by
  induction l1 generalizing live with
  | nil => simp [runLive]
  | cons e l1 ih =>
    simp only [List.cons_append, runLive]
    cases evLive live e <;> simp [ih]

theorem runLive_gates (gs : List GI) (live : List Nat)
    (h : ∀ g ∈ gs, ∀ q ∈ g.qs, q ∈ live) : runLive live (gs.map TEv.gate) = some live := by
  induction gs with
  | nil => rfl
  | cons g gs ih =>
    have hg : (g.qs.all fun q => live.contains q) = true := by
      rw [List.all_eq_true]; intro q hq; simpa using h g (by simp) q hq
    simp only [List.map_cons, runLive, evLive, hg, if_true, Option.bind_some]
    exact ih (fun g' hg' => h g' (by simp [hg']))

theorem flipGate_qs (b : P1) (k : Nat) : ∀ g ∈ flipGate b k, g.qs = [k] := by
  cases b <;> simp [flipGate]

theorem basisChange_qs (bs : List P1) : ∀ k, ∀ g ∈ basisChangeFrom k bs,
    ∃ q, g.qs = [q] ∧ k ≤ q ∧ q < k + bs.length := by
  induction bs with
  | nil => intro k g hg; simp [basisChangeFrom] at hg
  | cons b bs ih =>
    intro k g hg
    simp only [basisChangeFrom, List.mem_append] at hg
    rcases hg with hg | hg
    · exact ⟨k, flipGate_qs b k g hg, Nat.le_refl _, by simp⟩
    · obtain ⟨q, h1, h2, h3⟩ := ih (k + 1) g hg
      exact ⟨q, h1, by omega, by simp; omega⟩

theorem mem_cnotsFrom (bs : List P1) : ∀ k anc, ∀ g ∈ cnotsFrom k anc bs,
    ∃ c, g = ⟨.cnot, [c, anc], 0, 0⟩ ∧ k ≤ c ∧ c < k + bs.length := by
  induction bs with
  | nil => intro k anc g hg; simp [cnotsFrom] at hg
  | cons b bs ih =>
    intro k anc g hg
    simp only [cnotsFrom, List.mem_append] at hg
    rcases hg with hg | hg
    · by_cases hb : b = .I
      · simp [hb] at hg
      · simp only [hb, if_false, List.mem_singleton] at hg
        exact ⟨k, hg, Nat.le_refl _, by simp⟩
    · obtain ⟨c, h1, h2, h3⟩ := ih (k + 1) anc g hg
      exact ⟨c, h1, by omega, by simp; omega⟩

end NQ.TB
