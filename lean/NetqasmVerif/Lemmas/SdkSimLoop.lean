/-
Compiler correctness of the SDK builder model (C05), part 3: the loop shapes against the iteration
functions of `HostSem` (`iterLoop`, `iterUntil`), for an arbitrary invariant.
-/
import NetqasmVerif.Lemmas.SdkSimLeaf
namespace NQ.Sdk

theorem loopAt_of_placed {p : List PCmd} {n : Nat} {r : Reg} {start stop stp : Int} {le lx : Lbl}
    {body : List PCmd} (h : Placed p n (loopCode r start stop stp le lx body)) :
    LoopAt p n body.length r start stop stp le lx ∧ Placed p (n + 3) body := by
  unfold loopCode at h
  have hA := h.left.left
  have hC := h.right.at (k := n + 3 + body.length) (by simp only [List.length_append, List.length_cons, List.length_nil]; omega)
  exact ⟨⟨hA.get (k := 0) rfl rfl, hA.get (k := 1) rfl rfl, hA.get (k := 2) rfl rfl,
    hC.get (k := 0) rfl rfl, hC.get (k := 1) rfl (by omega), hC.get (k := 2) rfl (by omega),
    hA.lab (k := 1) rfl rfl, hC.lab (k := 2) rfl (by omega)⟩, h.left.right⟩

theorem untilAt_of_placed {p : List PCmd} {n : Nat} {r : Reg} {N : Int} {o : POp} {ev : Int} {le lx : Lbl}
    {body ld cl : List PCmd}
    (h : Placed p n (loopUntilEntry r N le lx ++ body ++ (ld ++ [.instr .blt [o, .lit (ev + 1), .lab lx]])
      ++ cl ++ loopUntilExit r le lx)) :
    UntilAt p n body.length ld.length cl.length r N o ev le lx ∧ Placed p (n + 3) body ∧
      Placed p (n + 3 + body.length) ld ∧ Placed p (n + 4 + body.length + ld.length) cl := by
  have hE := h.left.left.left.left
  have hK := h.left.left.right.at (k := n + 3 + body.length) (by simp only [loopUntilEntry, List.length_append, List.length_cons, List.length_nil]; omega)
  have hC := h.left.right.at (k := n + 4 + body.length + ld.length) (by simp only [loopUntilEntry, List.length_append, List.length_cons, List.length_nil]; omega)
  have hX := h.right.at (k := n + 4 + body.length + ld.length + cl.length) (by simp only [loopUntilEntry, List.length_append, List.length_cons, List.length_nil]; omega)
  unfold loopUntilEntry at hE
  unfold loopUntilExit at hX
  exact ⟨⟨hE.get (k := 0) rfl rfl, hE.get (k := 1) rfl rfl, hE.get (k := 2) rfl rfl,
    hK.right.get (k := 0) rfl rfl, hX.get (k := 0) rfl rfl, hX.get (k := 1) rfl (by omega),
    hX.get (k := 2) rfl (by omega), hE.lab (k := 1) rfl rfl, hX.lab (k := 2) rfl (by omega)⟩,
    h.left.left.left.right, hK.left, hC⟩

/-- the counted loop emitted by `_build_cmds_loop`, from its head (behind `steps_loop_entry`), against `iterLoop`;
the loop handle is live at the exit -/
theorem loop_sim {p : List PCmd} {n lb : Nat} {r : Reg} {start stop stp : Int} {le lx : Lbl}
    (Lp : LoopAt p n lb r start stop stp le lx) (Inv : HSt → St → Prop) (h : Nat)
    (bodyH : HSt → Option HSt)
    (hreg : ∀ hs ts v, Inv hs ts → hs.hregs h = some v → ts.regs r = some v)
    (hbody : ∀ hs ts hs1, Inv hs ts → bodyH hs = some hs1 → ∃ ts1, Runs p (n + 3) lb ts ts1 ∧ Inv hs1 ts1)
    (hupd : ∀ hs ts x v, Inv hs ts → hs.hregs h = some x → Inv (hs.setH h v) (ts.setReg r v)) :
    ∀ (k : Nat) (hs : HSt) (ts : St) (hs' : HSt), Inv hs ts → iterLoop bodyH h stop stp k hs = some hs' →
      ∃ ts', Steps p (ts, n + 2) (ts', n + (lb + 6)) ∧ Inv hs' ts' ∧ ∃ v, hs'.hregs h = some v := by
  rw [show n + (lb + 6) = n + 5 + lb + 1 by omega]
  intro k
  induction k with
  | zero => intro hs ts hs' _ hi; simp [iterLoop] at hi
  | succ k ih =>
    intro hs ts hs' hinv hi
    dsimp only [iterLoop] at hi
    split at hi
    · cases hi
    · rename_i i hhi
      have hr := hreg hs ts i hinv hhi
      have s1 := step_beq_lit ts Lp.h2 hr Lp.flx
      by_cases hstop : i = stop
      · rw [if_pos hstop] at s1 hi
        cases hi
        exact ⟨ts, Steps.one s1, hinv, i, hhi⟩
      · rw [if_neg hstop] at s1 hi
        split at hi
        · cases hi
        · rename_i hs1 hb
          split at hi
          · cases hi
          · rename_i i1 hi1
            obtain ⟨ts1, hrun, hinv1⟩ := hbody hs ts hs1 hinv hb
            have s2 := step_incr ts1 Lp.h3 (hreg hs1 ts1 i1 hinv1 hi1)
            rw [show n + 3 + lb + 1 = n + 4 + lb by omega] at s2
            have s3 := step_jmp (ts1.setReg r (i1 + stp)) Lp.h4 Lp.fle
            obtain ⟨ts', hst, hinv'⟩ := ih _ _ hs' (hupd hs1 ts1 i1 (i1 + stp) hinv1 hi1) hi
            exact ⟨ts', Steps.next s1 (Steps.trans hrun (Steps.next s2 (Steps.next s3 hst))), hinv'⟩

/-- `loop_until` from its head (behind `steps_loop_entry`), against `iterUntil`; the loop handle is live at the exit -/
theorem until_sim {p : List PCmd} {n lb lk lc : Nat} {r : Reg} {N : Int} {o : POp} {ev : Int} {le lx : Lbl}
    (U : UntilAt p n lb lk lc r N o ev le lx) (Inv : HSt → St → Prop) (h : Nat)
    (bodyH cleanH : HSt → Option HSt) (ef : Val)
    (hreg : ∀ hs ts v, Inv hs ts → hs.hregs h = some v → ts.regs r = some v)
    (hbody : ∀ hs ts hs1, Inv hs ts → bodyH hs = some hs1 → ∃ ts1, Runs p (n + 3) lb ts ts1 ∧ Inv hs1 ts1)
    (hbrk : ∀ hs ts v, Inv hs ts → evalVal hs ef = some v →
      ∃ ts1, Runs p (n + 3 + lb) lk ts ts1 ∧ Inv hs ts1 ∧ opVal ts1 o = some v)
    (hclean : ∀ hs ts hs1, Inv hs ts → cleanH hs = some hs1 →
      ∃ ts1, Runs p (n + 4 + lb + lk) lc ts ts1 ∧ Inv hs1 ts1)
    (hupd : ∀ hs ts x v, Inv hs ts → hs.hregs h = some x → Inv (hs.setH h v) (ts.setReg r v)) :
    ∀ (k : Nat) (hs : HSt) (ts : St) (hs' : HSt), Inv hs ts →
      iterUntil bodyH cleanH ef ev h N k hs = some hs' →
      ∃ ts', Steps p (ts, n + 2) (ts', n + (lb + lk + lc + 7)) ∧ Inv hs' ts' ∧ ∃ v, hs'.hregs h = some v := by
  rw [show n + (lb + lk + lc + 7) = n + 7 + lb + lk + lc by omega]
  intro k
  induction k with
  | zero => intro hs ts hs' _ hi; simp [iterUntil] at hi
  | succ k ih =>
    intro hs ts hs' hinv hi
    dsimp only [iterUntil] at hi
    split at hi
    · cases hi
    · rename_i i hhi
      have hr := hreg hs ts i hinv hhi
      by_cases hmax : i = N
      · rw [if_pos hmax] at hi
        cases hi
        exact ⟨ts, until_max U ts (hmax ▸ hr), hinv, i, hhi⟩
      · rw [if_neg hmax] at hi
        split at hi
        · cases hi
        · rename_i hs1 hb
          obtain ⟨ts1, hrun1, hinv1⟩ := hbody hs ts hs1 hinv hb
          split at hi
          case h_1 => cases hi
          rename_i w hw
          split at hi
          · cases hi
          · rename_i v hv
            obtain ⟨ts2, hrun2, hinv2, hop⟩ := hbrk hs1 ts1 v hinv1 hv
            by_cases hle : v ≤ ev
            · rw [if_pos hle] at hi
              cases hi
              exact ⟨ts2, until_exit U ts ts1 ts2 i v hr hmax hrun1 hrun2 hop hle, hinv2, w, hw⟩
            · rw [if_neg hle] at hi
              split at hi
              · cases hi
              · rename_i hs2 hc
                split at hi
                · cases hi
                · rename_i i2 hi2
                  obtain ⟨ts3, hrun3, hinv3⟩ := hclean hs1 ts2 hs2 hinv2 hc
                  obtain ⟨ts', hst, hinv'⟩ := ih _ _ hs' (hupd hs2 ts3 i2 (i2 + 1) hinv3 hi2) hi
                  exact ⟨ts', Steps.trans (until_continue U ts ts1 ts2 ts3 i v hr hmax hrun1 hrun2 hop hle hrun3
                    (hreg hs2 ts3 i2 hinv3 hi2)) hst, hinv'⟩

end NQ.Sdk
