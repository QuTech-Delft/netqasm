/-
The controller side of C09 (model `Model/QubitMgr.lean`: `step`, `run` on the list of allocated
virtual ids).  The table of equations of `step`/`need`, and what an event list does to the unit
module, stated once as `Takes m es A B`: from any unit module whose ids are the set `A` the events
run without fault and end in one whose ids are the set `B`.  `Takes` facts compose (`append`, loops
over pairs, the retry loop); every event-list builder of the model has its rule here.  (Last, one
equation of the SDK side's `apply`; see there why.)
-/
import NetqasmVerif.Model.QubitMgr
namespace NQ.QM

theorem run_append (m : Nat) (a : List Ev) (u : List Nat) (b : List Ev) :
    run m u (a ++ b) = match run m u a with
      | .ok u' => run m u' b
      | .error f => .error f := by
  induction a generalizing u with
  | nil => rfl
  | cons e es ih =>
    simp only [List.cons_append, run]
    cases step m u e with
    | ok u' => exact ih u'
    | error f => rfl

theorem step_alloc {m : Nat} {u : List Nat} {v : Nat} (h1 : v < m) (h2 : v ∉ u) :
    step m u (.alloc v) = .ok (v :: u) := (if_neg (Nat.not_le_of_lt h1)).trans (if_neg h2)

theorem step_deliver {m : Nat} {u : List Nat} {v : Nat} (h1 : v < m) (h2 : v ∉ u) :
    step m u (.deliver v) = .ok (v :: u) := (if_neg h2).trans (if_neg (Nat.not_le_of_lt h1))

theorem need_none {m : Nat} {u : List Nat} {v : Nat} (h1 : v < m) (h2 : v ∈ u) : need m u v = none :=
  (if_neg (Nat.not_le_of_lt h1)).trans (if_pos h2)

theorem step_use {m : Nat} {u : List Nat} {v : Nat} (h1 : v < m) (h2 : v ∈ u) :
    step m u (.use v) = .ok u := by
  simp only [step, need_none h1 h2]

theorem step_use2 {m : Nat} {u : List Nat} {a b : Nat} (h1 : a < m) (h2 : a ∈ u) (h3 : b < m) (h4 : b ∈ u) :
    step m u (.use2 a b) = .ok u := by
  simp only [step, need_none h1 h2, need_none h3 h4]

theorem step_free {m : Nat} {u : List Nat} {v : Nat} (h1 : v < m) (h2 : v ∈ u) :
    step m u (.free v) = .ok (u.filter (· != v)) := by
  simp only [step, need_none h1 h2]

theorem step_alloc_range {m : Nat} {u : List Nat} {v : Nat} (h : m ≤ v) :
    step m u (.alloc v) = .error .range := if_pos h

theorem step_alloc_double {m : Nat} {u : List Nat} {v : Nat} (h1 : v < m) (h2 : v ∈ u) :
    step m u (.alloc v) = .error .double := (if_neg (Nat.not_le_of_lt h1)).trans (if_pos h2)

theorem step_deliver_blocked {m : Nat} {u : List Nat} {v : Nat} (h : v ∈ u) :
    step m u (.deliver v) = .error .blocked := if_pos h

theorem step_deliver_range {m : Nat} {u : List Nat} {v : Nat} (h1 : v ∉ u) (h2 : m ≤ v) :
    step m u (.deliver v) = .error .range := (if_neg h1).trans (if_pos h2)

theorem need_range {m : Nat} {u : List Nat} {v : Nat} (h : m ≤ v) : need m u v = some .range :=
  if_pos h

theorem need_notAlloc {m : Nat} {u : List Nat} {v : Nat} (h1 : v < m) (h2 : v ∉ u) :
    need m u v = some .notAlloc := (if_neg (Nat.not_le_of_lt h1)).trans (if_neg h2)

theorem need_eq_none {m : Nat} {u : List Nat} {v : Nat} (h : need m u v = none) : v < m ∧ v ∈ u := by
  by_cases hv : m ≤ v
  · rw [need_range hv] at h; cases h
  · by_cases hm : v ∈ u
    · exact ⟨Nat.lt_of_not_le hv, hm⟩
    · rw [need_notAlloc (Nat.lt_of_not_le hv) hm] at h; cases h

theorem step_free_error {m : Nat} {u : List Nat} {v : Nat} {f : Fault} (h : need m u v = some f) :
    step m u (.free v) = .error f := by
  simp only [step, h]

theorem step_use_error {m : Nat} {u : List Nat} {v : Nat} {f : Fault} (h : need m u v = some f) :
    step m u (.use v) = .error f := by
  simp only [step, h]

theorem step_use2_error {m : Nat} {u : List Nat} {a b : Nat} {f : Fault}
    (h : need m u a = some f ∨ (need m u a = none ∧ need m u b = some f)) :
    step m u (.use2 a b) = .error f := by
  rcases h with h | ⟨h1, h2⟩
  · simp only [step, h]
  · simp only [step, h1, h2]

theorem step_alloc_inv {m : Nat} {u u' : List Nat} {v : Nat} (h : step m u (.alloc v) = .ok u') :
    v < m ∧ v ∉ u ∧ u' = v :: u := by
  by_cases hv : m ≤ v
  · rw [step_alloc_range hv] at h; cases h
  · by_cases hm : v ∈ u
    · rw [step_alloc_double (Nat.lt_of_not_le hv) hm] at h; cases h
    · rw [step_alloc (Nat.lt_of_not_le hv) hm] at h; cases h; exact ⟨Nat.lt_of_not_le hv, hm, rfl⟩

theorem step_free_inv {m : Nat} {u u' : List Nat} {v : Nat} (h : step m u (.free v) = .ok u') :
    v < m ∧ v ∈ u ∧ u' = u.filter (· != v) := by
  cases hn : need m u v with
  | some f => rw [step_free_error hn] at h; cases h
  | none =>
    obtain ⟨h1, h2⟩ := need_eq_none hn
    rw [step_free h1 h2] at h; cases h; exact ⟨h1, h2, rfl⟩

theorem step_use_inv {m : Nat} {u u' : List Nat} {v : Nat} (h : step m u (.use v) = .ok u') :
    v < m ∧ v ∈ u ∧ u' = u := by
  cases hn : need m u v with
  | some f => rw [step_use_error hn] at h; cases h
  | none =>
    obtain ⟨h1, h2⟩ := need_eq_none hn
    rw [step_use h1 h2] at h; cases h; exact ⟨h1, h2, rfl⟩

def Takes (m : Nat) (es : List Ev) (A B : Nat → Prop) : Prop :=
  ∀ u, (∀ v, v ∈ u ↔ A v) → ∃ u', run m u es = .ok u' ∧ ∀ v, v ∈ u' ↔ B v

theorem Takes.nil {m : Nat} {A : Nat → Prop} : Takes m [] A A := fun u h => ⟨u, rfl, h⟩

theorem Takes.append {m : Nat} {a b : List Ev} {A B C : Nat → Prop} (h1 : Takes m a A B)
    (h2 : Takes m b B C) : Takes m (a ++ b) A C := fun u hu =>
  let ⟨u1, r1, m1⟩ := h1 u hu
  let ⟨u2, r2, m2⟩ := h2 u1 m1
  ⟨u2, by rw [run_append, r1]; exact r2, m2⟩

theorem Takes.cons {m : Nat} {e : Ev} {es : List Ev} {A B C : Nat → Prop} (h1 : Takes m [e] A B)
    (h2 : Takes m es B C) : Takes m (e :: es) A C := h1.append h2

theorem Takes.mono {m : Nat} {es : List Ev} {A B A' B' : Nat → Prop} (h : Takes m es A B)
    (hA : ∀ v, A' v ↔ A v) (hB : ∀ v, B v ↔ B' v) : Takes m es A' B' := fun u hu =>
  let ⟨u', r, hm⟩ := h u (fun v => (hu v).trans (hA v))
  ⟨u', r, fun v => (hm v).trans (hB v)⟩

theorem Takes.post {m : Nat} {es : List Ev} {A B B' : Nat → Prop} (h : Takes m es A B)
    (hB : ∀ v, B v ↔ B' v) : Takes m es A B' := h.mono (fun _ => Iff.rfl) hB

theorem takes_alloc {m v : Nat} {A : Nat → Prop} (h1 : v < m) (h2 : ¬ A v) :
    Takes m [.alloc v] A (fun w => A w ∨ w = v) := fun u hu =>
  ⟨v :: u, by simp only [run, step_alloc h1 (fun h => h2 ((hu v).mp h))],
    fun w => by rw [List.mem_cons, hu w, Or.comm]⟩

theorem takes_deliver {m v : Nat} {A : Nat → Prop} (h1 : v < m) (h2 : ¬ A v) :
    Takes m [.deliver v] A (fun w => A w ∨ w = v) := fun u hu =>
  ⟨v :: u, by simp only [run, step_deliver h1 (fun h => h2 ((hu v).mp h))],
    fun w => by rw [List.mem_cons, hu w, Or.comm]⟩

theorem takes_use {m v : Nat} {A : Nat → Prop} (h1 : v < m) (h2 : A v) : Takes m [.use v] A A :=
  fun u hu => ⟨u, by simp only [run, step_use h1 ((hu v).mpr h2)], hu⟩

theorem takes_use2 {m a b : Nat} {A : Nat → Prop} (h1 : a < m) (h2 : A a) (h3 : b < m) (h4 : A b) :
    Takes m [.use2 a b] A A :=
  fun u hu => ⟨u, by simp only [run, step_use2 h1 ((hu a).mpr h2) h3 ((hu b).mpr h4)], hu⟩

theorem takes_free {m v : Nat} {A : Nat → Prop} (h1 : v < m) (h2 : A v) :
    Takes m [.free v] A (fun w => A w ∧ w ≠ v) := fun u hu =>
  ⟨u.filter (· != v), by simp only [run, step_free h1 ((hu v).mpr h2)],
    fun w => by simp only [List.mem_filter, bne_iff_ne, ne_eq, hu w]⟩

theorem takes_uses {m d : Nat} {A : Nat → Prop} (h1 : d < m) (h2 : A d) (g : Nat) :
    Takes m (List.replicate g (.use d)) A A := by
  induction g with
  | zero => exact Takes.nil
  | succ g ih => exact (takes_use h1 h2).cons ih

theorem Takes.flatMap_same {m : Nat} {f : Nat → List Ev} {A : Nat → Prop} {ids : List Nat}
    (h : ∀ d ∈ ids, Takes m (f d) A A) : Takes m (ids.flatMap f) A A := by
  induction ids with
  | nil => exact Takes.nil
  | cons d t ih =>
    rw [List.flatMap_cons]
    exact (h d List.mem_cons_self).append (ih fun d' hd' => h d' (List.mem_cons_of_mem _ hd'))

theorem Takes.flatMap_add {m : Nat} {f : Nat → List Ev} {ids : List Nat} (hn : ids.Nodup)
    (h : ∀ d ∈ ids, ∀ A : Nat → Prop, ¬ A d → Takes m (f d) A (fun w => A w ∨ w = d))
    {A : Nat → Prop} (hA : ∀ d ∈ ids, ¬ A d) :
    Takes m (ids.flatMap f) A (fun w => A w ∨ w ∈ ids) := by
  induction ids generalizing A with
  | nil => exact Takes.nil.post (fun v => by simp)
  | cons d t ih =>
    rw [List.nodup_cons] at hn
    rw [List.flatMap_cons]
    refine ((h d List.mem_cons_self A (hA d List.mem_cons_self)).append
      (ih hn.2 (fun d' hd' => h d' (List.mem_cons_of_mem _ hd')) (A := fun w => A w ∨ w = d) ?_)).post ?_
    · rintro d' hd' (hh | hh)
      · exact hA d' (List.mem_cons_of_mem _ hd') hh
      · exact hn.1 (hh ▸ hd')
    · intro v; simp only [List.mem_cons, or_assoc]

theorem takes_delivers {m : Nat} {ids : List Nat} (hn : ids.Nodup) (hb : ∀ d ∈ ids, d < m)
    {A : Nat → Prop} (hA : ∀ d ∈ ids, ¬ A d) :
    Takes m (ids.map .deliver) A (fun w => A w ∨ w ∈ ids) := by
  rw [List.map_eq_flatMap]
  exact Takes.flatMap_add hn (fun d hd _ h => takes_deliver (hb d hd) h) hA

theorem takes_frees {m : Nat} {ids : List Nat} (hn : ids.Nodup) (hb : ∀ d ∈ ids, d < m)
    {A : Nat → Prop} (hA : ∀ d ∈ ids, ¬ A d) :
    Takes m (ids.map .free) (fun w => A w ∨ w ∈ ids) A := by
  induction ids with
  | nil => exact Takes.nil.mono (fun w => or_iff_left List.not_mem_nil) fun _ => Iff.rfl
  | cons d t ih =>
    rw [List.nodup_cons] at hn
    rw [List.map_cons]
    refine ((takes_free (hb d List.mem_cons_self) (Or.inr List.mem_cons_self)).post fun w => ?_).cons
      (ih hn.2 (fun d' hd' => hb d' (List.mem_cons_of_mem _ hd'))
        fun d' hd' => hA d' (List.mem_cons_of_mem _ hd'))
    rw [List.mem_cons]
    exact ⟨fun ⟨h, hne⟩ => h.imp_right fun h => h.resolve_left hne,
      fun h => ⟨h.imp_right Or.inr, fun e => h.elim (fun ha => hA d List.mem_cons_self (e ▸ ha))
        fun ht => hn.1 (e ▸ ht)⟩⟩

/-- a retry loop that ends with a successful attempt: `fails` attempts with their clean-up, then one more -/
theorem retryEvs_success {attempt cleanup : List Ev} {fails tries : Nat} (h : fails < tries) :
    retryEvs attempt cleanup fails tries =
      (List.replicate fails (attempt ++ cleanup)).flatten ++ attempt := by
  unfold retryEvs
  rw [if_pos h, Nat.min_eq_left (Nat.le_of_lt h)]

theorem Takes.retry {m : Nat} {att cl : List Ev} {P Q : Nat → Prop} (ha : Takes m att P Q)
    (hc : Takes m cl Q P) {fails tries : Nat} (hf : fails < tries) :
    Takes m (retryEvs att cl fails tries) P Q := by
  rw [retryEvs_success hf]
  clear hf
  induction fails with
  | zero => exact ha
  | succ k ih =>
    rw [List.replicate_succ, List.flatten_cons, List.append_assoc, List.append_assoc]
    exact ha.append (hc.append ih)

theorem takes_body_consume {m d : Nat} {A : Nat → Prop} (b : Body) (hc : b.consume.consumes = true)
    (h1 : d < m) (h2 : A d) : Takes m (bodyEvs d b) A (fun w => A w ∧ w ≠ d) := by
  unfold bodyEvs
  refine (takes_uses h1 h2 b.gates).append ?_
  cases hb : b.consume with
  | meas => exact (takes_use h1 h2).cons (takes_free h1 h2)
  | free => exact takes_free h1 h2
  | inplace => rw [hb] at hc; cases hc
  | none => rw [hb] at hc; cases hc

theorem takes_body_keep {m d : Nat} {A : Nat → Prop} (b : Body) (hc : b.consume.consumes = false)
    (h1 : d < m) (h2 : A d) : Takes m (bodyEvs d b) A A := by
  unfold bodyEvs
  refine (takes_uses h1 h2 b.gates).append ?_
  cases hb : b.consume with
  | meas => rw [hb] at hc; cases hc
  | free => rw [hb] at hc; cases hc
  | inplace => exact takes_use h1 h2
  | none => exact Takes.nil

theorem takes_pair_consume {m d : Nat} {A : Nat → Prop} (b : Body) (hc : b.consume.consumes = true)
    (h1 : d < m) (h2 : ¬ A d) : Takes m (.deliver d :: bodyEvs d b) A A :=
  ((takes_deliver h1 h2).cons (takes_body_consume b hc h1 (Or.inr rfl))).post fun _ =>
    ⟨fun ⟨h, hne⟩ => h.resolve_right hne, fun h => ⟨Or.inl h, fun e => h2 (e ▸ h)⟩⟩

theorem takes_pair_keep {m d : Nat} {A : Nat → Prop} (b : Body) (hc : b.consume.consumes = false)
    (h1 : d < m) (h2 : ¬ A d) : Takes m (.deliver d :: bodyEvs d b) A (fun w => A w ∨ w = d) :=
  (takes_deliver h1 h2).cons (takes_body_keep b hc h1 (Or.inr rfl))

/-- a loop over pairs whose body consumes its pair leaves the ids as they were, whatever the unused
ids the pairs are delivered into (one shared id, for instance) -/
theorem takes_pairs_consume {m : Nat} {ids : List Nat} {A : Nat → Prop} (b : Body)
    (hc : b.consume.consumes = true) (hf : ∀ d ∈ ids, ¬ A d ∧ d < m) :
    Takes m (ids.flatMap fun d => .deliver d :: bodyEvs d b) A A :=
  Takes.flatMap_same fun d hd => takes_pair_consume b hc (hf d hd).2 (hf d hd).1

/-- the NV memory ids of a keep request for `k + 1` pairs, in the order they are allocated -/
def down : Nat → List Nat
  | 0 => []
  | k + 1 => (k + 1) :: down k

theorem mem_down {k v : Nat} : v ∈ down k ↔ 1 ≤ v ∧ v ≤ k := by
  induction k with
  | zero => exact ⟨nofun, fun h => absurd (Nat.le_trans h.1 h.2) (Nat.not_succ_le_zero 0)⟩
  | succ k ih =>
    rw [down, List.mem_cons, ih]
    exact ⟨fun h => h.elim (fun e => e.symm ▸ ⟨Nat.succ_pos k, Nat.le_refl _⟩) fun h => ⟨h.1, Nat.le_succ_of_le h.2⟩,
      fun h => (Nat.le_succ_iff.mp h.2).elim (fun h2 => Or.inr ⟨h.1, h2⟩) Or.inl⟩

theorem nodup_down (k : Nat) : (down k).Nodup := by
  induction k with
  | zero => exact List.nodup_nil
  | succ k ih => exact List.nodup_cons.mpr ⟨fun h => Nat.not_succ_le_self k (mem_down.mp h).2, ih⟩

theorem length_down (k : Nat) : (down k).length = k := by
  induction k with
  | zero => rfl
  | succ k ih => rw [down, List.length_cons, ih]

/-- the wait/move loop for `k + 1` pairs: every pair but the last is moved from id 0 to its memory id -/
theorem moveLoop_eq (n k : Nat) :
    moveLoop n (k + 1) = (down k).flatMap (fun j => [.deliver 0, .use2 0 j, .free 0]) ++ [.deliver 0] := by
  induction k with
  | zero => rfl
  | succ k ih => rw [moveLoop, if_neg (Nat.succ_ne_zero k), ih, down, List.flatMap_cons, List.append_assoc]

/-- the allocation of the memory ids `ids` -/
theorem takes_allocs {m : Nat} {ids : List Nat} (hn : ids.Nodup) (hb : ∀ d ∈ ids, d < m)
    {A : Nat → Prop} (hA : ∀ d ∈ ids, ¬ A d) :
    Takes m (ids.flatMap fun k => [.alloc k, .use k]) A (fun w => A w ∨ w ∈ ids) :=
  Takes.flatMap_add hn (fun d hd _ h => (takes_alloc (hb d hd) h).cons (takes_use (hb d hd) (Or.inr rfl))) hA

/-- the wait/move loop from its closed form: each round delivers into the free id 0, moves the pair
to a live memory id and frees id 0 again -/
theorem takes_moveLoop {m n k : Nat} {A : Nat → Prop} (h0 : ¬ A 0) (hm : 0 < m)
    (hj : ∀ j ∈ down k, A j ∧ j < m) : Takes m (moveLoop n (k + 1)) A (fun w => A w ∨ w = 0) := by
  rw [moveLoop_eq]
  exact (Takes.flatMap_same fun j hj' =>
    ((takes_deliver hm h0).cons ((takes_use2 hm (Or.inr rfl) (hj j hj').2 (Or.inl (hj j hj').1)).cons
      (takes_free hm (Or.inr rfl)))).post fun w =>
        ⟨fun ⟨h, hne⟩ => h.resolve_right hne, fun h => ⟨Or.inl h, fun e => h0 (e ▸ h)⟩⟩).append
    (takes_deliver hm h0)

/-- Stated in this module and not next to its users in Lemmas/QubitMgr.lean: Lean derives the equations
of `apply` (a 13-way match) again in every declaration of the first module that unfolds it, and finds
them made once an imported module has. -/
theorem apply_flush (c : Cfg) (st : St) : apply c st .flush = flushSt c st := by simp only [apply]

end NQ.QM
