/-
C14, running out of registers while building: how many registers an operation needs (`need`, Lemmas/Sdk.lean) and
what a failure for lack of an R or an M register tells about the free registers at the start (`Lack`, one
statement per builder function, `emit_lack` for `emit`), hence `emit_noReg` (with `need op` R registers free a
completed operation never lacks one) and `emit_noMeas` (with one M register free, neither does an operation that
keeps no outcome in a register).
-/
import NetqasmVerif.Lemmas.SdkSpec
namespace NQ.Sdk

/-- What a failure of `x` for lack of a register tells: `r` if an R register was wanted, `q` if an M
register. Every builder function gets one such statement; `NoReg` and `NoMeas` are read off it. -/
def Lack {α : Type} (r q : Prop) (x : Except BuildError α) : Prop :=
  ∀ e, x = .error e → (e = .noRegister → r) ∧ (e = .noMeasRegister → q)

section
variable {α β : Type} {r q r' q' : Prop}

theorem Lack.ok (a : α) : Lack r q (.ok a : Except BuildError α) :=
  fun _ h => nomatch h

theorem Lack.err {e : BuildError} (hr : e = .noRegister → r)
    (hq : e = .noMeasRegister → q) : Lack r q (.error e : Except BuildError α) :=
  fun _ h => by cases h; exact ⟨hr, hq⟩

theorem Lack.sub {x : Except BuildError α} {e : BuildError}
    (h : Lack r q x) (he : x = .error e) (hr : r → r') (hq : q → q') :
    Lack r' q' (.error e : Except BuildError β) :=
  .err (fun e1 => hr ((h e he).1 e1)) (fun e2 => hq ((h e he).2 e2))

theorem Lack.subR {x : Except BuildError α} {e : BuildError}
    (h : Lack r q x) (he : x = .error e) (hr : r → r') : Lack r' q (.error e : Except BuildError β) :=
  h.sub he hr id

theorem Lack.mono {x : Except BuildError α} (h : Lack r q x) (hr : r → r')
    (hq : q → q') : Lack r' q' x := fun e he => ⟨fun e1 => hr ((h e he).1 e1), fun e2 => hq ((h e he).2 e2)⟩

theorem Lack.noReg {x : Except BuildError α} (h : Lack r q x) (hr : ¬ r) :
    NoReg x := fun e he hn => hr ((h e he).1 hn)

theorem Lack.noMeas {x : Except BuildError α} (h : Lack r q x) (hq : ¬ q) :
    NoMeas x := fun e he hn => hq ((h e he).2 hn)

theorem getInactive_lack (m : Mem) : Lack (free m.active = 0) q (getInactive m) := by
  intro e h
  unfold getInactive at h
  split at h
  · cases h
  · rename_i hn; cases h; exact ⟨fun _ => free_eq_zero hn, nofun⟩

/-- the other primitives never fail for lack of a register: their failure gives `Lack` with any reasons -/
theorem activate_fails {m : Mem} {i : Nat} {e : BuildError}
    (h : activate m i = .error e) : Lack r q (.error e : Except BuildError α) := by
  unfold activate at h; split at h <;> cases h; exact .err nofun nofun

theorem release_fails {m : Mem} {i : Nat} {e : BuildError}
    (h : release m i = .error e) : Lack r q (.error e : Except BuildError α) := by
  unfold release at h; split at h <;> cases h; exact .err nofun nofun

theorem releaseOpt_fails {m : Mem} {t : Option Nat} {e : BuildError}
    (h : releaseOpt m t = .error e) : Lack r q (.error e : Except BuildError α) := by
  cases t with
  | none => cases h
  | some t => exact release_fails h

theorem handle_fails {m : Mem} {k : Nat} {e : BuildError}
    (h : handle m k = .error e) : Lack r q (.error e : Except BuildError α) := by
  unfold handle at h; split at h <;> cases h; exact .err nofun nofun

theorem arrLen_fails {m : Mem} {a : Nat} {e : BuildError}
    (h : arrLen m a = .error e) : Lack r q (.error e : Except BuildError α) := by
  unfold arrLen at h; split at h <;> cases h; exact .err nofun nofun

theorem firstUnusedMeas_lack (m : Mem) : Lack r (free m.measUsed = 0) (firstUnusedMeas m) := by
  intro e h
  unfold firstUnusedMeas at h
  split at h
  · cases h
  · rename_i hn; cases h; exact ⟨nofun, fun _ => free_eq_zero hn⟩

theorem takeReg_lack (m : Mem) : Lack (free m.active = 0) q (takeReg m) := by
  unfold takeReg
  split
  · rename_i e he; exact (getInactive_lack m).subR he id
  · split
    · rename_i e he; exact activate_fails he
    · exact .ok _

theorem takeAt_lack (m : Mem) (rg : Option Nat) : Lack (free m.active = 0) q (takeAt m rg) := by
  cases rg with
  | none => exact takeReg_lack m
  | some j =>
    simp only [takeAt]
    split
    · rename_i e he; exact activate_fails he
    · exact .ok _

theorem free_after_activate {m m1 : Mem} {i : Nat} (h : activate m i = .ok m1) :
    free m1.active + 1 = free m.active := by
  have := activate_spec h
  rw [this.2.1]; exact free_set_true _ _ this.1

theorem free_after_takeAt {m m1 : Mem} {rg : Option Nat} {i : Nat} (h : takeAt m rg = .ok (m1, i)) :
    free m1.active + 1 = free m.active := free_after_activate (takeAt_activate h)

theorem free_after_take {m m1 : Mem} {i : Nat} (h : takeReg m = .ok (m1, i)) :
    free m1.active + 1 = free m.active := free_after_takeAt (rg := none) h

theorem accessCmds_lack : ∀ (f : Fut) (m : Mem) (st : Bool) (r : Reg),
    Lack (free m.active < f.depth) q (accessCmds m st r f)
  | .lit a i, m, st, r => .ok _
  | .reg a hh, m, st, r => by
    simp only [accessCmds]
    split
    · rename_i e he; exact handle_fails he
    · exact .ok _
  | .fut a f, m, st, r => by
    simp only [accessCmds, Fut.depth]
    split
    · rename_i e he; exact (getInactive_lack m).subR he (by omega)
    · split
      · rename_i e he; exact activate_fails he
      · rename_i m1 h1
        have f1 := free_after_activate h1
        split
        · rename_i e he; exact (accessCmds_lack f m1 false _).subR he (by omega)
        · split
          · rename_i e he; exact release_fails he
          · exact .ok _

theorem addressEntry_fails {α : Type} {r q : Prop} {m : Mem} {f : Fut} {e : BuildError}
    (h : addressEntry m f = .error e) : Lack r q (.error e : Except BuildError α) := by
  cases f with
  | lit a i => cases h
  | reg a hh =>
    simp only [addressEntry] at h
    split at h
    · rename_i e' he; cases h; exact handle_fails he
    · cases h
  | fut a f => cases h; exact .err nofun nofun

theorem condOperand_lack (m : Mem) (v : Val) :
    Lack (free m.active < v.tmp) q (condOperand m v) := by
  cases v with
  | lit x => exact .ok _
  | reg hh =>
    simp only [condOperand]
    split
    · rename_i e he; exact handle_fails he
    · split
      · exact .ok _
      · exact .err nofun nofun
  | fut f =>
    simp only [condOperand, Val.tmp]
    split
    · rename_i e he; exact (takeReg_lack m).subR he (by omega)
    · split
      · rename_i e he; exact addressEntry_fails he
      · exact .ok _

def optCount : Option Nat → Nat
  | none => 0
  | some _ => 1

theorem free_took {m m1 : Mem} {t : Option Nat} (h : Took m m1 t) :
    free m1.active + optCount t = free m.active := by
  cases t with
  | none => rw [(h : m1.active = m.active)]; rfl
  | some t => obtain ⟨h1, h2⟩ := h; rw [h2]; exact free_set_true _ _ h1

theorem condOperand_tmp {m m1 : Mem} {v : Val} {cs : List PCmd} {o : POp} {t : Option Nat}
    (h : condOperand m v = .ok (m1, cs, o, t)) : free m1.active + v.tmp = free m.active := by
  have tk := free_took (condOperand_spec h).1.took
  rcases condOperand_eq_ok h with ⟨_, _, rfl, ⟨_, rfl, _⟩ | ⟨_, _, rfl, _⟩⟩ | ⟨_, _, _, rfl, _, _, _, rfl, _⟩ <;>
    exact tk

theorem branchCmds_lack (m : Mem) (c : Cond) (a b : Val) :
    Lack (free m.active < if c.unary then a.tmp else a.tmp + b.tmp) q (branchCmds m c a b) := by
  unfold branchCmds
  simp only
  split
  · split
    · rename_i e he; exact (condOperand_lack _ _).subR he id
    · split
      · rename_i e he; exact releaseOpt_fails he
      · exact .ok _
  · split
    · rename_i e he
      exact (condOperand_lack _ _).subR he fun (h : free m.active < _) => by omega
    · rename_i m1 ca oa ta h1
      have f1 : free m1.active + a.tmp = free m.active := condOperand_tmp (m := (newLabel m 0).1) h1
      split
      · rename_i e he; exact (condOperand_lack _ _).subR he (by omega)
      · split
        · rename_i e he; exact releaseOpt_fails he
        · split
          · rename_i e he; exact releaseOpt_fails he
          · exact .ok _

theorem buildCondition_lack (m : Mem) (c : Cond) (a b : Val) (body : List PCmd) :
    Lack (free m.active < if c.unary then a.tmp else a.tmp + b.tmp) q (buildCondition m c a b body) := by
  intro e he
  unfold buildCondition at he
  split at he
  · cases he
  · split at he
    · rename_i e' he'; cases he; exact branchCmds_lack m c a b e he'
    · cases he

theorem breakCmds_lack (m : Mem) (ef : Val) (ev : Int) (lx : Lbl) :
    Lack (free m.active < ef.tmp) q (breakCmds m ef ev lx) := by
  unfold breakCmds
  split
  · rename_i e he; exact (condOperand_lack _ _).subR he id
  · split
    · rename_i e he; exact releaseOpt_fails he
    · exact .ok _

theorem addOther_lack (m : Mem) (v : Val) :
    Lack (free m.active < v.addNeed) q (addOther m v) := by
  cases v with
  | lit x => exact .ok _
  | reg hh =>
    simp only [addOther]
    split
    · rename_i e he; exact handle_fails he
    · split
      · exact .err nofun nofun
      · exact .ok _
  | fut g =>
    simp only [addOther, Val.addNeed]
    split
    · rename_i e he; exact (takeReg_lack m).subR he (by omega)
    · rename_i m1 t h1
      have f1 := free_after_take h1
      split
      · rename_i e he; exact (accessCmds_lack _ _ _ _).subR he (by omega)
      · exact .ok _

theorem emitAddF_lack (m : Mem) (f : Fut) (o : Val) (md : Option Int) :
    Lack (free m.active < 1 + max f.depth o.addNeed) q (emitAddF m f o md) := by
  unfold emitAddF
  split
  · rename_i e he; exact (takeReg_lack m).subR he (by omega)
  · rename_i m1 t h1
    have f1 := free_after_take h1
    split
    · rename_i e he; exact (accessCmds_lack _ _ _ _).subR he (by omega)
    · rename_i m2 ld h2
      have a2 : m2.active = m1.active := (accessCmds_spec _ h2).took
      split
      · rename_i e he; exact (accessCmds_lack _ _ _ _).subR he (by rw [a2]; omega)
      · rename_i m3 st h3
        have a3 : m3.active = m2.active := (accessCmds_spec _ h3).took
        split
        · rename_i e he; exact (addOther_lack _ _).subR he (by rw [a3, a2]; omega)
        · split
          · rename_i e he; exact release_fails he
          · split
            · rename_i e he; exact releaseOpt_fails he
            · exact .ok _

theorem emitAddR_lack (m : Mem) (hh : Nat) (o : Val) (md : Option Int) :
    Lack (free m.active < o.addNeed) q (emitAddR m hh o md) := by
  unfold emitAddR
  split
  · rename_i e he; exact handle_fails he
  · split
    · exact .err nofun nofun
    · split
      · rename_i e he; exact (addOther_lack _ _).subR he id
      · split
        · rename_i e he; exact releaseOpt_fails he
        · exact .ok _

theorem emitQop_lack (m : Mem) (g : List Nat) (tgt : MTgt) :
    Lack (free m.active < tgt.need) (free m.measUsed = 0) (emitQop m g tgt) := by
  unfold emitQop
  cases tgt with
  | newFut =>
    simp only
    split
    · rename_i e he; exact (firstUnusedMeas_lack _).sub he id id
    · split
      · rename_i e he; exact (accessCmds_lack _ _ _ _).subR he fun (h : _ < 0) => nomatch h
      · exact .ok _
  | fut f =>
    simp only
    split
    · rename_i e he; exact (firstUnusedMeas_lack _).subR he id
    · rename_i m1 k h1
      split
      · rename_i e he
        exact (accessCmds_lack _ _ _ _).subR he fun h => by rwa [firstUnusedMeas_active h1] at h
      · exact .ok _
  | newReg =>
    simp only
    split
    · rename_i e he; exact (firstUnusedMeas_lack _).subR he id
    · exact .ok _

theorem le_peakEvs : ∀ (n : Nat) (es : List EprEv), n ≤ peakEvs n es
  | n, [] => Nat.le_refl n
  | _, .take :: _ => Nat.le_max_left ..
  | _, .rel _ :: _ => Nat.le_max_left ..

theorem emitEprH_lack : ∀ (evs : List EprEv) (m : Mem) (held : List Nat),
    Lack (held.length + free m.active < peakEvs held.length evs) q (emitEprH m held evs)
  | [], m, held => .ok _
  | .take :: es, m, held => by
    unfold emitEprH peakEvs
    split
    · rename_i e he
      refine (takeReg_lack m).subR he fun h => ?_
      have := le_peakEvs (held.length + 1) es
      omega
    · rename_i m1 i h1
      have f1 := free_after_take h1
      refine (emitEprH_lack es m1 (held ++ [i])).mono (fun h => ?_) id
      rw [List.length_append, List.length_singleton] at h
      omega
  | .rel p :: es, m, held => by
    unfold emitEprH peakEvs
    split
    · exact .err nofun nofun
    · rename_i i hp
      split
      · rename_i e he; exact release_fails he
      · rename_i m1 h1
        have r1 := release_spec h1
        have hmem : i ∈ held := List.mem_of_getElem? hp
        have hlen : (held.erase i).length = held.length - 1 := List.length_erase_of_mem hmem
        have hpos : 0 < held.length := List.length_pos_of_mem hmem
        refine (emitEprH_lack es m1 (held.erase i)).mono (fun h => ?_) id
        rw [hlen, r1.2.1, free_set_false _ _ r1.1] at h
        omega

theorem initArray_lack (m : Mem) (pend : List PCmd) (d : ArrDecl) :
    Lack (free m.active = 0) q (initArray m pend d) := by
  unfold initArray
  simp only
  split
  · exact .ok _
  · split
    · split
      · rename_i e he; exact (getInactive_lack m).subR he id
      · split
        · rename_i e he; exact activate_fails he
        · split
          · rename_i e he; exact release_fails he
          · exact .ok _
    · exact .ok _

theorem initArrays_lack : ∀ (ds : List ArrDecl) (m : Mem) (pend : List PCmd),
    Lack (free m.active = 0) q (initArrays m pend ds)
  | [], m, pend => .ok _
  | d :: ds, m, pend => by
    simp only [initArrays]
    split
    · rename_i e he; exact (initArray_lack _ _ _).subR he id
    · rename_i m1 p1 h1
      rw [← (initArray_spec h1).act]
      exact initArrays_lack ds m1 p1

theorem flush_lack (m : Mem) (pend : List PCmd) : Lack (free m.active = 0) q (flush m pend) := by
  unfold flush
  split
  · rename_i e he; exact (initArrays_lack _ _ _).subR he id
  · simp only
    split <;> exact .ok _

theorem flush_noReg (m : Mem) (pend : List PCmd) (h : 0 < free m.active) : NoReg (flush m pend) :=
  (flush_lack (q := True) m pend).noReg (by omega)

end

/-- shared shape of `loop`, `loopBody`, `foreach`: one register for the loop on top of the body's -/
theorem loopShape_lack {m : Mem} {body : Host} {s e d : Int} {b : Bool} {rg : Option Nat}
    (ih : ∀ m, Lack (Completed body → free m.active < need body) (BodyOK body → free m.measUsed = 0)
      (emit m body)) :
    Lack (Completed body → free m.active < 1 + need body) (BodyOK body → free m.measUsed = 0)
      (match takeAt m rg with
        | .error e => (.error e : Except BuildError (Mem × List PCmd))
        | .ok (m1, i) =>
          match emit (bindHandle m1 (R i) b) body with
          | .error e => .error e
          | .ok (m2, cs) =>
            let (m3, out) := buildLoop m2 s e d (R i) cs
            match release m3 i with
            | .error e => .error e
            | .ok m4 => .ok (m4, out)) := by
  split
  · rename_i e he; exact (takeAt_lack m rg).subR he fun h _ => by omega
  · rename_i m1 i h1
    have f1 := free_after_takeAt h1
    split
    · rename_i e he
      refine (ih _).sub he (fun h hc => ?_) (fun h hb => ?_)
      · have : free m1.active < need body := h hc
        omega
      · rw [← (takeAt_same h1).meas]; exact h hb
    · simp only
      split
      · rename_i e he; exact release_fails he
      · exact .ok _

theorem emit_lack (op : Host) : ∀ m : Mem,
    Lack (Completed op → free m.active < need op) (BodyOK op → free m.measUsed = 0) (emit m op) := by
  induction op with
  | skip => exact fun _ => .ok _
  | seq a b iha ihb =>
    intro m
    unfold emit
    split
    · rename_i e he
      exact (iha m).sub he (fun h hc => Nat.lt_of_lt_of_le (h hc.1) (Nat.le_max_left ..)) fun h hb => h hb.1
    · rename_i m1 ca h1
      split
      · rename_i e he
        refine (ihb m1).sub he (fun h hc => ?_) (fun h hb => ?_)
        · rw [← emit_active a _ _ _ hc.1 h1]; exact Nat.lt_of_lt_of_le (h hc.2) (Nat.le_max_right ..)
        · rw [← ((emit_stat _ _ _ _ h1).body hb.1).1]; exact h hb.2
      · exact .ok _
  | newArray len init =>
    intro m
    simp only [emit]
    split <;> split
    · exact .err nofun nofun
    · exact .ok _
    · exact .err nofun nofun
    · exact .ok _
  | newReg v => exact fun m e _ => ⟨fun _ hc => hc.elim, fun _ hb => hb.elim⟩
  | qop g t => exact fun m => (emitQop_lack m g t).mono (fun h _ => h) fun h _ => h
  | addF f o md => exact fun m => (emitAddF_lack (q := False) m f o md).mono (fun h _ => h) False.elim
  | addR hh o md => exact fun m => (emitAddR_lack (q := False) m hh o md).mono (fun h _ => h) False.elim
  | ifc cb c a b body ih =>
    intro m
    unfold emit
    split
    · rename_i e he
      exact (ih m).sub he (fun h hc => Nat.lt_of_lt_of_le (h hc) (Nat.le_max_left ..)) id
    · rename_i m1 cs h1
      refine (buildCondition_lack (q := False) m1 c a b cs).mono (fun h hc => ?_) False.elim
      rw [← emit_active body _ _ _ hc h1]; exact Nat.lt_of_lt_of_le h (Nat.le_max_right ..)
  | loop rg s e d body ih => exact fun m => loopShape_lack ih
  | loopBody rg s e d body ih => exact fun m => loopShape_lack ih
  | foreach arr wi body ih =>
    intro m
    unfold emit
    split
    · rename_i e he; exact arrLen_fails he
    · exact loopShape_lack (rg := none) ih
  | loopUntil n body ef ev cl ihb ihc =>
    intro m
    simp only [emit, need]
    split
    · rename_i e he; exact (takeReg_lack m).subR he fun h _ => by omega
    · rename_i m1 i h1
      have f1 := free_after_take h1
      have s1 := takeReg_same h1
      split
      · rename_i e he
        refine (ihb _).sub he (fun h hc => ?_) (fun h hb => ?_)
        · have : free m1.active < need body := h hc.1
          omega
        · rw [← s1.meas]; exact h hb.1
      · rename_i m2 cs h2
        split
        · split
          · rename_i e he; exact release_fails he
          · exact .ok _
        · split
          · rename_i e he
            refine (breakCmds_lack _ _ _ _).subR he fun h hc => ?_
            have a2 : m2.active = m1.active := emit_active _ (bindHandle m1 (R i) true) _ _ hc.1 h2
            have : free m2.active < ef.tmp := h
            rw [a2] at this; omega
          · rename_i m5 brk h5
            split
            · rename_i e he
              refine (ihc m5).sub he (fun h hc => ?_) (fun h hb => ?_)
              · have a2 : m2.active = m1.active := emit_active _ (bindHandle m1 (R i) true) _ _ hc.1 h2
                have : free m5.active < need cl := h hc.2
                rw [((breakCmds_spec (by decide : 4 < 5) h5).took : m5.active = _), newLabel_active, newLabel_active, a2] at this
                omega
              · have e5 : m5.measUsed = m2.measUsed := (breakCmds_spec (by decide : 4 < 5) h5).same.meas
                have e2 : m2.measUsed = m1.measUsed := ((emit_stat _ _ _ _ h2).body hb.1).1
                rw [← s1.meas, ← e2, ← e5]; exact h hb.2
            · split
              · rename_i e he; exact release_fails he
              · exact .ok _
  | tryUntil n body ih => exact ih
  | epr evs =>
    intro m
    unfold emit
    split
    · rename_i e he
      exact (emitEprH_lack evs m []).subR he fun h _ => by simpa [need] using h
    · exact .ok _

theorem emit_noReg (op : Host) (m : Mem) (hc : Completed op) (h : need op ≤ free m.active) :
    NoReg (emit m op) := (emit_lack op m).noReg fun hr => Nat.not_lt.mpr h (hr hc)

/-- with one M register free, no operation whose bodies keep no outcome register fails with
"Ran out of M-registers" -/
theorem emit_noMeas (op : Host) (m : Mem) (hb : BodyOK op) (h : 0 < free m.measUsed) :
    NoMeas (emit m op) := (emit_lack op m).noMeas fun hq => by have := hq hb; omega

theorem emitQop_noMeas (m : Mem) (g : List Nat) (tgt : MTgt) (h : 0 < free m.measUsed) :
    NoMeas (emitQop m g tgt) := (emitQop_lack m g tgt).noMeas (by omega)

theorem takeReg_noMeas (m : Mem) : NoMeas (takeReg m) := (takeReg_lack (q := False) m).noMeas id

theorem emitEprH_noMeas : ∀ (evs : List EprEv) (m : Mem) (held : List Nat), NoMeas (emitEprH m held evs) :=
  fun evs m held => (emitEprH_lack (q := False) evs m held).noMeas id

end NQ.Sdk
