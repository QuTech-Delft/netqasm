/-
Token level of the text round trip (`Model/Text.lean`): the tokens of printed instructions
(`toksOf`) pass `assemble` unchanged.  `Printable T exc i` collects what one instruction needs
(its row is found by class and by mnemonic, every immediate slot is exempt from constant
replacement, the operands have the constructors of the slots); `assemble_print` is the statement
for lists of such instructions.  The second half relates the decidable row condition `rowTextOk`
to `Printable` (`printable_of_rowOk`) and splits off its table-independent part `rowFormOk`, the
only part that has to be decided on a table without clashes (`rows_ok_of_unique`).
-/
import NetqasmVerif.Model.Text
import NetqasmVerif.Lemmas.Table
namespace NQ.Text
open NQ

theorem replOps_opTok (S : Syms) (exc : List (String × Nat)) (name : String) (cur : List Reg) :
    ∀ (ks : List FieldKind) (ops : List Operand) (j : Nat) (tmp : List Reg),
      kindsOk ks ops = true → exemptFrom exc name j ks = true →
      replOps S exc name cur j (ops.map opTok) tmp = .ok ([], ops.map opTok)
  | [], [], _, _, _, _ => rfl
  | [], _ :: _, _, _, h, _ => by cases h
  | _ :: _, [], _, _, h, _ => by cases h
  | k :: ks, o :: os, j, tmp, h, he => by
    simp only [kindsOk, Bool.and_eq_true] at h
    simp only [exemptFrom, Bool.and_eq_true] at he
    have ih := replOps_opTok S exc name cur ks os (j + 1) tmp h.2 he.2
    cases o with
    | reg r => simp only [List.map_cons, opTok, replOps, ih]
    | addr a => simp only [List.map_cons, opTok, replOps, ih]
    | entry a i => simp only [List.map_cons, opTok, replOps, replVal, ih, List.nil_append]
    | slice a s e => simp only [List.map_cons, opTok, replOps, replVal, ih, List.nil_append]
    | imm v =>
      have hk : isImm k = true := by cases k <;> first | rfl | cases h.1
      have hx : exc.contains (name, j) = true := by simpa only [hk, Bool.not_true, Bool.false_or] using he.1
      simp only [List.map_cons, opTok, replOps, hx, if_true, ih]

theorem fromOperand_opTok {k : FieldKind} {o : Operand} (h : kindOk k o = true) :
    fromOperand k (opTok o) = .ok o := by
  cases k <;> cases o <;> first | rfl | cases h

theorem fromOperands_opTok :
    ∀ {ks : List FieldKind} {ops : List Operand}, kindsOk ks ops = true →
      fromOperands ks (ops.map opTok) = .ok ops
  | [], [], _ => rfl
  | [], _ :: _, h => by cases h
  | _ :: _, [], h => by cases h
  | k :: ks, o :: os, h => by
    simp only [kindsOk, Bool.and_eq_true] at h
    simp only [List.map_cons, fromOperands, fromOperand_opTok h.1, fromOperands_opTok h.2]

theorem kindsOk_length : ∀ {ks : List FieldKind} {ops : List Operand}, kindsOk ks ops = true →
    ops.length = ks.length
  | [], [], _ => rfl
  | [], _ :: _, h => by cases h
  | _ :: _, [], h => by cases h
  | _ :: ks, _ :: os, h => by
    simp only [kindsOk, Bool.and_eq_true] at h
    simp only [List.length_cons, kindsOk_length h.2]

/-- by the six cases in which `encodeOp` succeeds (`encodeOp_elim`) -/
theorem inRangeOp_kind_banks {k : FieldKind} {o : Operand} (h : InRangeOp k o = true) :
    kindOk k o = true ∧ ∀ n, 4 ≤ n → banksOk n o = true := by
  obtain ⟨bs, hbs⟩ := Option.isSome_iff_exists.1 ((encodeOp_isSome k o).trans h)
  have lt : ∀ {r : Reg} {n : Nat}, okReg r = true → 4 ≤ n → decide (r.bank < n) = true :=
    fun hr hn => by
      simp only [okReg, Bool.and_eq_true, decide_eq_true_eq] at hr
      exact decide_eq_true (Nat.lt_of_lt_of_le hr.1.1 hn)
  exact encodeOp_elim (P := fun k o _ => kindOk k o = true ∧ ∀ n, 4 ≤ n → banksOk n o = true)
    (fun _ hr => ⟨rfl, fun _ => lt hr⟩) (fun _ _ => ⟨rfl, fun _ _ => rfl⟩)
    (fun _ _ => ⟨rfl, fun _ _ => rfl⟩) (fun _ _ => ⟨rfl, fun _ _ => rfl⟩)
    (fun _ _ _ hi => ⟨rfl, fun _ => lt hi⟩)
    (fun _ _ _ _ hs he => ⟨rfl, fun _ hn => by rw [banksOk, lt hs hn, lt he hn]; rfl⟩) hbs

theorem inRangeOps_kinds_banks : ∀ {ks : List FieldKind} {ops : List Operand},
    InRangeOps ks ops = true →
    kindsOk ks ops = true ∧ ∀ n, 4 ≤ n → ∀ o ∈ ops, banksOk n o = true
  | [], [], _ => ⟨rfl, fun _ _ _ ho => by cases ho⟩
  | [], _ :: _, h => by cases h
  | _ :: _, [], h => by cases h
  | k :: ks, o :: os, h => by
    simp only [InRangeOps, Bool.and_eq_true] at h
    obtain ⟨hk, hb⟩ := inRangeOp_kind_banks h.1
    obtain ⟨hks, hbs⟩ := inRangeOps_kinds_banks h.2
    exact ⟨by simp only [kindsOk, hk, hks, Bool.and_self],
      fun n hn => List.forall_mem_cons.2 ⟨hb n hn, hbs n hn⟩⟩

theorem showLine_of_row {T : Table} {S : Syms} {i : Instr} {row : Row} (h : rowOf T i.cls = some row) :
    showLine T S i = showInstr S row.mn i.ops := by simp only [showLine, h]

theorem toksOf_of_row {T : Table} {i : Instr} {row : Row} (h : rowOf T i.cls = some row) :
    toksOf T i = ⟨row.mn, i.ops.map opTok⟩ := by simp only [toksOf, h, printToks]

def Printable (T : Table) (exc : List (String × Nat)) (i : Instr) : Prop :=
  ∃ row, rowOf T i.cls = some row ∧ nameMap T row.mn = some row ∧
    exemptFrom exc row.mn 0 row.shape = true ∧ kindsOk row.shape i.ops = true

theorem replCmds_id (S : Syms) (exc : List (String × Nat)) (cur : List Reg) : ∀ (cs : List PCmd),
    (∀ c ∈ cs, replOps S exc c.name cur 0 c.ops [] = .ok ([], c.ops)) → replCmds S exc cur cs = .ok cs
  | [], _ => rfl
  | c :: cs, h => by
    simp only [replCmds, h c List.mem_cons_self,
      replCmds_id S exc cur cs fun c' hc' => h c' (List.mem_cons_of_mem _ hc'), List.nil_append]

theorem buildCmds_map (T : Table) (f : Instr → PCmd) : ∀ (is : List Instr),
    (∀ i ∈ is, buildCmd T (f i) = .ok i) → buildCmds T (is.map f) = .ok is
  | [], _ => rfl
  | i :: is, h => by
    simp only [List.map_cons, buildCmds, h i List.mem_cons_self,
      buildCmds_map T f is fun j hj => h j (List.mem_cons_of_mem _ hj)]

theorem replOps_toksOf {T : Table} {exc : List (String × Nat)} {i : Instr} (S : Syms) (cur : List Reg)
    (h : Printable T exc i) :
    replOps S exc (toksOf T i).name cur 0 (toksOf T i).ops [] = .ok ([], (toksOf T i).ops) := by
  obtain ⟨row, hr, _, he, hk⟩ := h
  rw [toksOf_of_row hr]
  exact replOps_opTok S exc row.mn cur row.shape i.ops 0 [] hk he

theorem buildCmd_toksOf {T : Table} {exc : List (String × Nat)} {i : Instr} (h : Printable T exc i) :
    buildCmd T (toksOf T i) = .ok i := by
  obtain ⟨row, hr, hn, _, hk⟩ := h
  simp only [toksOf_of_row hr, buildCmd, hn, List.length_map, kindsOk_length hk,
    bne_self_eq_false, Bool.false_eq_true, if_false, fromOperands_opTok hk]
  rw [(rowOf_some hr).2]

/-- token level: `_replace_constants` inserts no `set` and `_build_subroutine` finds the class of
every mnemonic -/
theorem assemble_print (T : Table) (S : Syms) (exc : List (String × Nat)) (is : List Instr)
    (h : ∀ i ∈ is, Printable T exc i) : assemble T S exc (is.map (toksOf T)) = .ok is := by
  rw [assemble, replaceConstants, replCmds_id S exc _ _ fun c hc => by
    obtain ⟨i, hi, rfl⟩ := List.mem_map.1 hc
    exact replOps_toksOf S _ (h i hi)]
  exact buildCmds_map T _ is fun i hi => buildCmd_toksOf (h i hi)

theorem nameMap_of_noClash {T : Table} {row : Row} (hm : row ∈ T) (hc : mnemonicClashes T = []) :
    nameMap T row.mn = some row := by
  unfold nameMap
  induction T with
  | nil => cases hm
  | cons r rs ih =>
    simp only [mnemonicClashes, List.append_eq_nil_iff, List.map_eq_nil_iff,
      List.filter_eq_nil_iff] at hc
    rcases List.mem_cons.1 hm with rfl | hm'
    · simp [lastBy, lastBy_none_of_forall fun r' hr' => Bool.eq_false_iff.2 (hc.1 r' hr')]
    · simp only [lastBy, ih hm' hc.2]

def rowFormOk (exc : List (String × Nat)) (generic : List String) (row : Row) : Bool :=
  exemptFrom exc row.mn 0 row.shape && generic.contains row.mn
  && !row.mn.toList.isEmpty && row.mn.toList.all mnCharOk

theorem rowFormOk_iff {exc : List (String × Nat)} {generic : List String} {row : Row} :
    rowFormOk exc generic row = true ↔ exemptFrom exc row.mn 0 row.shape = true ∧
      generic.contains row.mn = true ∧ row.mn.toList ≠ [] ∧ ∀ c ∈ row.mn.toList, mnCharOk c = true := by
  simp only [rowFormOk, Bool.and_eq_true, Bool.not_eq_true', List.isEmpty_eq_false_iff,
    List.all_eq_true, and_assoc]

theorem rowTextOk_iff {T : Table} {exc : List (String × Nat)} {generic : List String} {row : Row} :
    rowTextOk T exc generic row = true ↔
      nameMap T row.mn = some row ∧ rowOf T row.cls = some row ∧ rowFormOk exc generic row = true := by
  simp only [rowTextOk, rowFormOk, Bool.and_eq_true, beq_iff_eq, and_assoc]

theorem rows_ok_of_unique {T : Table} {exc : List (String × Nat)} {generic : List String}
    (hm : mnemonicClashes T = []) (hc : classClashes T = [])
    (h : T.all (rowFormOk exc generic) = true) : T.all (rowTextOk T exc generic) = true := by
  rw [List.all_eq_true] at h ⊢
  exact fun row hr => rowTextOk_iff.2 ⟨nameMap_of_noClash hr hm, rowOf_of_mem hc hr, h row hr⟩

theorem printable_of_rowOk {T : Table} {exc : List (String × Nat)} {generic : List String}
    {i : Instr} {row : Row} (hr : rowOf T i.cls = some row) (hrow : rowTextOk T exc generic row = true)
    (hk : kindsOk row.shape i.ops = true) : Printable T exc i :=
  have ⟨hn, _, hf⟩ := rowTextOk_iff.1 hrow
  ⟨row, hr, hn, (rowFormOk_iff.1 hf).1, hk⟩

end NQ.Text
