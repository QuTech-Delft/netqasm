/-
Running an instantiated expansion template under the concrete semantics `MQ`: it applies the
role reading of the template, renamed to the qubits the registers name.
-/
import NetqasmVerif.Lemmas.TranspileQ
namespace NQ.Tr
open NQ NQ.NV

theorem gnameOf_not_mov {c : String} {g : GName} (h : gnameOf c = some g) : (c == movCls) = false := by
  cases hc : c == movCls with
  | false => rfl
  | true =>
    have : c = movCls := by simpa using hc
    rw [this, gnameOf_facts.2.2.1] at h
    cases h

theorem mq_exec_gate {C Q : Type} {A : QAction Q} {Mc : Sem (C × Q)} {g : Instr} {s s' : St (C × Q)}
    {gn : GName} (hg : gnameOf g.cls = some gn) (h : (MQ A Mc).exec g s = some s') :
    ∃ gi, giOf s.regs g = some gi ∧ s' = ⟨s.regs, (s.mem.1, A.act gi s.mem.2)⟩ := by
  have hnm : ¬ g.cls = movCls := by simpa using gnameOf_not_mov hg
  simp only [MQ, beq_iff_eq, hnm, ↓reduceIte, hg, Option.map_eq_some_iff] at h
  obtain ⟨gi, h1, h2⟩ := h
  exact ⟨gi, h1, h2.symm⟩

theorem mq_exec_of_giOf {C Q : Type} (A : QAction Q) (Mc : Sem (C × Q)) {g : Instr} {s : St (C × Q)}
    {gn : GName} {gi : GI} (hg : gnameOf g.cls = some gn) (h : giOf s.regs g = some gi) :
    (MQ A Mc).exec g s = some ⟨s.regs, (s.mem.1, A.act gi s.mem.2)⟩ := by
  show (if (g.cls == movCls) = true then _ else _) = _
  rw [if_neg (by rw [gnameOf_not_mov hg]; exact Bool.false_ne_true), hg, h]
  rfl

theorem mq_exec_set {C Q : Type} (A : QAction Q) (Mc : Sem (C × Q)) {i : Instr}
    (h : i.cls = "core.SetInstruction") (s : St (C × Q)) : (MQ A Mc).exec i s = Mc.exec i s := by
  have h1 : ("core.SetInstruction" == movCls) = false := by decide +kernel
  show (if (i.cls == movCls) = true then _ else _) = _
  rw [h, if_neg (by rw [h1]; exact Bool.false_ne_true), gnameOf_facts.2.2.2]

theorem ClsTie.info {cfg : Cfg} (hC : ClsTie cfg = true) {c : String} {info : ClsInfo}
    (hi : infoOf cfg c = some info) :
    (info.isSet = true → c = "core.SetInstruction") ∧
    (info.gate1 = true → ∃ e, e.1 = c ∧ gnameOf c = some e.2 ∧
      (e ∈ fixedSingles ∧ gkind e.2 = 1 ∨ e ∈ rotSingles ∧ gkind e.2 = 2)) ∧
    (info.gate2 = true → info.tag = "cnot" ∧ gnameOf c = some .cnot ∨
      info.tag = "cphase" ∧ gnameOf c = some .cphase ∨ info.tag = "mov" ∧ c = movCls) ∧
    (infoGate info = true → c = movCls ∨ (gnameOf c).isSome = true) := by
  obtain ⟨hm, rfl⟩ := infoOf_cls hi
  have h := List.all_eq_true.1 (Bool.and_eq_true_iff.1 hC).1 info hm
  simp only [Bool.and_eq_true, Bool.or_eq_true, Bool.not_eq_eq_eq_not, Bool.not_true, beq_iff_eq,
    List.any_eq_true] at h
  obtain ⟨⟨⟨⟨c1, c2⟩, _⟩, c4⟩, c5⟩ := h
  refine ⟨fun hs => ?_, fun hg => ?_, fun hg => ?_, fun hg => ?_⟩
  · rcases c1 with c1 | c1
    · rw [hs] at c1; cases c1
    · exact c1
  · rcases c4 with (c4 | ⟨e, he, hec⟩) | ⟨e, he, hec⟩
    · rw [hg] at c4; cases c4
    · have := List.all_eq_true.1 gnameOf_facts.1 e he
      simp only [Bool.and_eq_true, beq_iff_eq] at this
      exact ⟨e, hec, hec ▸ this.1, .inl ⟨he, this.2⟩⟩
    · have := List.all_eq_true.1 gnameOf_facts.2.1 e he
      simp only [Bool.and_eq_true, beq_iff_eq] at this
      exact ⟨e, hec, hec ▸ this.1, .inr ⟨he, this.2⟩⟩
  · rcases c5 with ((c5 | c5) | c5) | c5
    · rw [hg] at c5; cases c5
    · exact .inl c5
    · exact .inr (.inl c5)
    · exact .inr (.inr c5)
  · rcases c2 with (c2 | c2) | c2
    · simp [infoGate, c2] at hg
    · exact .inl c2
    · exact .inr c2

/-- environment of a template instantiation: every template operand to which `rm` gives a role is
instantiated by a register, and that register holds the qubit `ρ` assigns to the role -/
def Env (rm : TOp → Option Nat) (ρ : Nat → Nat) (regs : Reg → Option Int) (a b s : Reg) : Prop :=
  ∀ (g : Instr) (top : TOp) (k : Nat), rm top = some k →
    ∃ x, instOp g a b s top = some (.reg x) ∧ readQ regs x = some (ρ k)

theorem Env.ec {regs : Reg → Option Int} {a b s : Reg} {x y : Nat} (ha : readQ regs a = some x)
    (hb : readQ regs b = some y) : Env rmEC (fun k => if k = 0 then x else y) regs a b s := by
  intro g top k hk
  cases top <;> cases hk
  · exact ⟨a, rfl, ha⟩
  · exact ⟨b, rfl, hb⟩

theorem Env.ce {regs : Reg → Option Int} {a b s : Reg} {x y : Nat} (ha : readQ regs a = some x)
    (hb : readQ regs b = some y) : Env rmCE (fun k => if k = 0 then y else x) regs a b s := by
  intro g top k hk
  cases top <;> cases hk
  · exact ⟨a, rfl, ha⟩
  · exact ⟨b, rfl, hb⟩

theorem rmEC_lt (top : TOp) (k : Nat) (h : rmEC top = some k) : k < 2 := by
  cases top <;> simp [rmEC] at h <;> omega

theorem rmCE_lt (top : TOp) (k : Nat) (h : rmCE top = some k) : k < 2 := by
  cases top <;> simp [rmCE] at h <;> omega

theorem rmCC_lt (top : TOp) (k : Nat) (h : rmCC top = some k) : k < 3 := by
  cases top <;> simp [rmCC] at h <;> omega

/-- injective because it has a left inverse -/
theorem inj_pair {x y : Nat} (h : x ≠ y) (i j : Nat) (hi : i < 2) (hj : j < 2)
    (e : (fun k => if k = 0 then x else y) i = (fun k => if k = 0 then x else y) j) : i = j := by
  have hinv : ∀ k, k < 2 →
      (fun v => if v = x then 0 else 1) ((fun k => if k = 0 then x else y) k) = k := by
    intro k hk
    have : k = 0 ∨ k = 1 := by omega
    rcases this with rfl | rfl <;> simp [Ne.symm h]
  exact (hinv i hi).symm.trans ((congrArg (fun v => if v = x then 0 else 1) e).trans (hinv j hj))

theorem instOp_lit (g : Instr) (a b s : Reg) (v : Int) : instOp g a b s (.lit v) = some (.imm v) := rfl

theorem giOf_inst {rm ρ regs a b s} (E : Env rm ρ regs a b s) (g : Instr) {t : TInstr} {gi : GI}
    {os : List Operand} (ht : tGI rm t = some gi) (hos : instOps g a b s t.ops = some os)
    (hinj : ∀ i j, (∃ top, rm top = some i) → (∃ top, rm top = some j) → ρ i = ρ j → i = j) :
    giOf regs ⟨t.cls, os⟩ = some (ren ρ gi) := by
  unfold tGI at ht
  split at ht
  · rename_i gn r n d hg hops
    split at ht
    · rename_i hk
      split at ht
      · rename_i q n' d' hq hn hd
        simp only [Option.some.injEq] at ht
        subst ht
        obtain ⟨x, hx, hrx⟩ := E g _ _ hq
        rw [hops] at hos
        simp only [instOps, hx, instOp_lit, Option.some.injEq] at hos
        subst hos
        simp [giOf, hg, hk, hrx, hn, hd, ren]
      · cases ht
    · cases ht
  · rename_i gn r0 r1 n d hg hops
    split at ht
    · rename_i hk
      split at ht
      · rename_i qa qb n' d' hqa hqb hn hd
        split at ht
        · cases ht
        · rename_i hne
          simp only [Option.some.injEq] at ht
          subst ht
          obtain ⟨x, hx, hrx⟩ := E g _ _ hqa
          obtain ⟨y, hy, hry⟩ := E g _ _ hqb
          rw [hops] at hos
          simp only [instOps, hx, hy, instOp_lit, Option.some.injEq] at hos
          subst hos
          have hne' : ρ qa ≠ ρ qb := fun e => hne (hinj _ _ ⟨_, hqa⟩ ⟨_, hqb⟩ e)
          simp [giOf, hg, hk, hrx, hry, hn, hd, ren, hne']
      · cases ht
    · cases ht
  · cases ht

theorem isDebug_mk (c : String) (os : List Operand) : isDebug ⟨c, os⟩ = isDebugCls c := rfl

theorem run_body {C Q : Type} (A : QAction Q) (Mc : Sem (C × Q)) {rm ρ} {regs : Reg → Option Int}
    {a b s : Reg} (E : Env rm ρ regs a b s) (g : Instr)
    (hinj : ∀ i j, (∃ top, rm top = some i) → (∃ top, rm top = some j) → ρ i = ρ j → i = j) :
    ∀ (body : List TInstr) (l : List Instr) (seq : List GI) (c : C) (q : Q),
    instBody g a b s body = some l → roleSeq rm body = some seq →
    RunStraight (MQ A Mc) (serialise l) ⟨regs, (c, q)⟩ ⟨regs, (c, A.run (seq.map (ren ρ)) q)⟩ := by
  intro body
  induction body with
  | nil =>
    intro l seq c q hl hs
    cases hl
    cases hs
    exact rfl
  | cons t ts ih =>
    intro l seq c q hl hs
    obtain ⟨os, l', hos, hrest, rfl⟩ := instBody_cons_some hl
    unfold roleSeq at hs
    by_cases hd : isDebugCls t.cls = true
    · rw [if_pos hd] at hs
      have : serialise (⟨t.cls, os⟩ :: l') = serialise l' := by simp [serialise, isDebug_mk, hd]
      rw [this]
      exact ih l' seq c q hrest hs
    · rw [if_neg hd] at hs
      split at hs
      · rename_i gi gs htg hrs
        cases hs
        have hser : serialise (⟨t.cls, os⟩ :: l') = ⟨t.cls, os⟩ :: serialise l' := by
          simp [serialise, isDebug_mk, hd]
        rw [hser]
        have hgn : ∃ gn, gnameOf t.cls = some gn := by
          unfold tGI at htg
          split at htg
          · exact ⟨_, by assumption⟩
          · exact ⟨_, by assumption⟩
          · cases htg
        obtain ⟨gn, hgn⟩ := hgn
        exact ⟨_, mq_exec_of_giOf A Mc (g := ⟨t.cls, os⟩) hgn (giOf_inst E g htg hos hinj),
          ih l' gs c _ hrest hrs⟩
      · cases hs

theorem run_template {C Q : Type} (A : QAction Q) (Mc : Sem (C × Q)) {cfg : Cfg} {key : String}
    {g : Instr} {a b s : Reg} {ex : List Instr} (hex : useTemplate cfg key g a b s = .ok ex)
    {body : List TInstr} (he : expOf cfg key = some body) {rm : TOp → Option Nat} {seq : List GI}
    (hseq : roleSeq rm body = some seq) {ρ : Nat → Nat} {regs : Reg → Option Int}
    (E : Env rm ρ regs a b s) {n : Nat} (hinj : ∀ i j, i < n → j < n → ρ i = ρ j → i = j)
    (hlt : ∀ top k, rm top = some k → k < n) (c : C) (q : Q) :
    RunStraight (MQ A Mc) (serialise ex) ⟨regs, (c, q)⟩ ⟨regs, (c, A.run (seq.map (ren ρ)) q)⟩ := by
  obtain ⟨body', he', hb⟩ := useTemplate_ok hex
  rw [he] at he'
  cases he'
  exact run_body A Mc E g (fun i j ⟨_, hi⟩ ⟨_, hj⟩ => hinj i j (hlt _ _ hi) (hlt _ _ hj)) body ex seq c q hb hseq

end NQ.Tr
