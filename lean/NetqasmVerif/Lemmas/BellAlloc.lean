/-
Lemmas (C10): the registers and labels the builder model allocates are fresh,
hence pairwise different — for EVERY set of active registers and EVERY set of
labels already handed out. This discharges the distinctness hypotheses of the
loop theorems for everything `emit` can produce.
-/
import NetqasmVerif.Lemmas.BellSeqLoop
namespace NQ.Bell

theorem getInactive_not_mem {act : List Nat} {r : Nat} (h : getInactive act = some r) : r ∉ act := by
  unfold getInactive at h
  have := List.find?_some h
  simpa using this

theorem newLabel_fresh {used : List String} {p l : String} {u' : List String}
    (h : newLabel used p = some (l, u')) : l ∉ used ∧ u' = l :: used := by
  unfold newLabel at h
  split at h
  · rename_i hc
    obtain ⟨rfl, rfl⟩ := Prod.mk.inj (Option.some.inj h)
    exact ⟨by simpa using hc, rfl⟩
  · split at h
    · rename_i s hs
      obtain ⟨rfl, rfl⟩ := Prod.mk.inj (Option.some.inj h)
      exact ⟨by simpa using List.find?_some hs, rfl⟩
    · cases h

/-- `xs` are picked one after the other, each outside `u` and different from the earlier picks.
Along a chain of `getInactive` / `newLabel` calls the components of `Picked` are literally what
`getInactive_not_mem` / `newLabel_fresh` give, so it is built by an anonymous constructor. -/
def Picked {α : Type} (u : List α) : List α → Prop
  | [] => True
  | x :: xs => x ∉ u ∧ Picked (x :: u) xs

theorem Picked.append {α : Type} {u xs ys : List α} (h1 : Picked u xs) (h2 : Picked (xs.reverse ++ u) ys) :
    Picked u (xs ++ ys) := by
  induction xs generalizing u with
  | nil => exact h2
  | cons x xs ih =>
    rw [List.reverse_cons, List.append_assoc] at h2
    exact ⟨h1.1, ih h1.2 h2⟩

theorem Picked.nodup {α : Type} {u xs : List α} (h : Picked u xs) : xs.Nodup ∧ ∀ x ∈ xs, x ∉ u := by
  induction xs generalizing u with
  | nil => exact ⟨List.nodup_nil, fun _ h => nomatch h⟩
  | cons x xs ih =>
    obtain ⟨hn, hf⟩ := ih h.2
    refine ⟨List.nodup_cons.mpr ⟨fun hx => hf x hx List.mem_cons_self, hn⟩, fun y hy => ?_⟩
    rcases List.mem_cons.mp hy with rfl | hy
    · exact h.1
    · exact fun hu => hf y hy (List.mem_cons_of_mem _ hu)

theorem RegsDistinct.of_nodup {q b L I J : Nat} (h : [q, b, L, I, J].Nodup) : RegsDistinct q b L I J := by
  simp only [List.nodup_cons, List.mem_cons, List.not_mem_nil, or_false, not_or] at h
  obtain ⟨⟨qb, qL, qI, qJ⟩, ⟨bL, bI, bJ⟩, ⟨LI, LJ⟩, IJ, -⟩ := h
  exact ⟨qb, qL, qI, qJ, bL, bI, bJ, LI, LJ, IJ⟩

theorem allocWaitAll_distinct {act : List Nat} {used : List String} {q b L I J : Nat} {lb : LoopLabels}
    (h : allocWaitAll act used = some (q, b, L, I, J, lb)) :
    RegsDistinct q b L I J ∧ lb.toList.Nodup := by
  simp only [allocWaitAll, Option.bind_eq_some_iff] at h
  obtain ⟨q', hq, b', hb, L', hL, I', hI, J', hJ, ⟨l1, u1⟩, h1, ⟨l2, u2⟩, h2, ⟨l3, u3⟩, h3, ⟨l4, u4⟩, h4,
    ⟨l5, u5⟩, h5, ⟨l6, u6⟩, h6, ⟨l7, u7⟩, h7, he⟩ := h
  simp only [Option.some.injEq, Prod.mk.injEq] at he
  obtain ⟨rfl, rfl, rfl, rfl, rfl, rfl⟩ := he
  obtain ⟨f1, rfl⟩ := newLabel_fresh h1
  obtain ⟨f2, rfl⟩ := newLabel_fresh h2
  obtain ⟨f3, rfl⟩ := newLabel_fresh h3
  obtain ⟨f4, rfl⟩ := newLabel_fresh h4
  obtain ⟨f5, rfl⟩ := newLabel_fresh h5
  obtain ⟨f6, rfl⟩ := newLabel_fresh h6
  have hr : Picked act [q', b', L', I', J'] := ⟨getInactive_not_mem hq, getInactive_not_mem hb,
    getInactive_not_mem hL, getInactive_not_mem hI, getInactive_not_mem hJ, trivial⟩
  have hl : Picked used [l1, l2, l3, l4, l5, l6, l7] := ⟨f1, f2, f3, f4, f5, f6, (newLabel_fresh h7).1, trivial⟩
  exact ⟨.of_nodup hr.nodup.1, hl.nodup.1⟩

theorem emitWaitAll_shape {d : Data} {c : Config} {code : List Cmd} (he : c.expect = true)
    (h : emitWaitAll d c = some code) :
    ∃ q b L I J lb, RegsDistinct q b L I J ∧ lb.toList.Nodup ∧
      code = [ .recvEpr c.remote c.sock (some c.ids) c.res, .waitAllImm c.res 0 (d.ly.len * c.n) ] ++
        corrLoopCode d.tWaitAll d.ly d.sp q b L I J lb c.n c.ids c.res := by
  simp only [emitWaitAll, he, Bool.not_true, Bool.false_eq_true, if_false] at h
  cases ha : allocWaitAll c.act c.labels with
  | none => simp [ha] at h
  | some r =>
    obtain ⟨q, b, L, I, J, lb⟩ := r
    simp only [ha, Option.some.injEq] at h
    obtain ⟨hd, hl⟩ := allocWaitAll_distinct ha
    exact ⟨q, b, L, I, J, lb, hd, hl, h.symm⟩

theorem emit_cases {d : Data} {c : Config} {code : List Cmd} (h : emit d c = some code) :
    emitMeasure d c = some code ∨ emitWaitAll d c = some code ∨ ∃ mv, emitSeq d c mv = some code := by
  unfold emit at h
  by_cases a1 : (c.api == "measure") = true
  · rw [if_pos a1] at h; exact .inl h
  rw [if_neg a1] at h
  by_cases a2 : (c.api == "rsp") = true
  · rw [if_pos a2] at h; exact .inr (.inl h)
  rw [if_neg a2] at h
  by_cases a3 : (c.api == "keep") = true
  · rw [if_pos a3] at h
    by_cases p : c.post = true
    · rw [if_pos p] at h; exact .inr (.inr ⟨_, h⟩)
    rw [if_neg p] at h
    by_cases v : c.nv = true
    · rw [if_pos v] at h; exact .inr (.inr ⟨_, h⟩)
    rw [if_neg v] at h; exact .inr (.inl h)
  · rw [if_neg a3] at h; cases h

theorem emitSeq_parts {d : Data} {c : Config} {mv : Bool} {code : List Cmd} (h : emitSeq d c mv = some code) :
    ∃ a u4 B u9 T u10 l3 u11 l4 u12, allocSeq c.act c.labels = some (a, u4) ∧
      seqCorr d c mv a u4 = some (B, u9) ∧ seqTail c mv a u9 = some (T, u10) ∧
      newLabel u10 "LOOP" = some (l3, u11) ∧ newLabel u11 "LOOP_EXIT" = some (l4, u12) ∧
      code = seqLoopCode (.recvEpr c.remote c.sock (some c.ids) c.res) a.L c.n l3 l4
        (waitBlockCode d.ly a.L a.s a.t a.e a.J a.a1 a.a2 a.b1 a.b2 c.res) B [] T := by
  unfold emitSeq at h
  split at h
  · cases h
  rename_i a u4 h0
  split at h
  · cases h
  rename_i B u9 h1
  split at h
  · cases h
  rename_i T u10 h2
  split at h
  · cases h
  rename_i l3 u11 h3
  split at h
  · cases h
  rename_i l4 u12 h4
  exact ⟨a, u4, B, u9, T, u10, l3, u11, l4, u12, h0, h1, h2, h3, h4, by
    rw [← Option.some.inj h]; simp only [seqLoopCode, loopEnd, List.append_assoc, List.nil_append]⟩

theorem allocSeq_picked {act : List Nat} {used : List String} {a : SeqAlloc} {u4 : List String}
    (h : allocSeq act used = some (a, u4)) :
    Picked act [a.L, a.q, a.b, a.s, a.t, a.e, a.J] ∧ Picked used [a.a1, a.a2, a.b1, a.b2] ∧
      u4 = a.b2 :: a.b1 :: a.a2 :: a.a1 :: used := by
  simp only [allocSeq, Option.bind_eq_some_iff] at h
  obtain ⟨L, hL, q, hq, b, hb, s, hs, t, ht, e, he, J, hJ, ⟨a1, v1⟩, h1, ⟨a2, v2⟩, h2, ⟨b1, v3⟩, h3,
    ⟨b2, v4⟩, h4, hae⟩ := h
  obtain ⟨rfl, rfl⟩ := Prod.mk.inj (Option.some.inj hae)
  obtain ⟨f1, rfl⟩ := newLabel_fresh h1
  obtain ⟨f2, rfl⟩ := newLabel_fresh h2
  obtain ⟨f3, rfl⟩ := newLabel_fresh h3
  obtain ⟨f4, rfl⟩ := newLabel_fresh h4
  exact ⟨⟨getInactive_not_mem hL, getInactive_not_mem hq, getInactive_not_mem hb, getInactive_not_mem hs,
    getInactive_not_mem ht, getInactive_not_mem he, getInactive_not_mem hJ, trivial⟩,
    ⟨f1, f2, f3, f4, trivial⟩, rfl⟩

/-- the correction block: index and inner-loop register are picked after `L`, `q`, `b` (the wait
registers have been released), the five labels after everything handed out so far -/
theorem seqCorr_picked {d : Data} {c : Config} {mv : Bool} {a : SeqAlloc} {u4 u9 : List String}
    {B : List Cmd} (he : c.expect = true) (h : seqCorr d c mv a u4 = some (B, u9)) :
    ∃ I J l1 l2 x1 x2 x3, Picked (a.b :: a.q :: a.L :: c.act) [I, J] ∧ Picked u4 [l1, l2, x1, x2, x3] ∧
      u9 = x3 :: x2 :: x1 :: l2 :: l1 :: u4 ∧
      B = corrBlockCode (if mv then d.tMove else d.tPost) d.ly d.sp a.q a.b a.L I J l1 l2 x1 x2 x3
        c.ids c.res := by
  simp only [seqCorr, he, Bool.not_true, Bool.false_eq_true, if_false, Option.bind_eq_some_iff] at h
  obtain ⟨I, hI, J, hJ, ⟨l1, v1⟩, h1, ⟨l2, v2⟩, h2, ⟨x1, v3⟩, h3, ⟨x2, v4⟩, h4, ⟨x3, v5⟩, h5, heq⟩ := h
  obtain ⟨rfl, rfl⟩ := Prod.mk.inj (Option.some.inj heq)
  obtain ⟨f1, rfl⟩ := newLabel_fresh h1
  obtain ⟨f2, rfl⟩ := newLabel_fresh h2
  obtain ⟨f3, rfl⟩ := newLabel_fresh h3
  obtain ⟨f4, rfl⟩ := newLabel_fresh h4
  obtain ⟨f5, rfl⟩ := newLabel_fresh h5
  exact ⟨I, J, l1, l2, x1, x2, x3, ⟨getInactive_not_mem hI, getInactive_not_mem hJ, trivial⟩,
    ⟨f1, f2, f3, f4, f5, trivial⟩, rfl, rfl⟩

theorem seqTail_picked {c : Config} {mv : Bool} {a : SeqAlloc} {u9 u10 : List String} {T : List Cmd}
    (h : seqTail c mv a u9 = some (T, u10)) :
    ∃ r0 r1 x4, T = (if mv then moveTailCode a.L r0 r1 (c.n : Int) x4 else []) ∧
      Picked u9 (labelsOf T) ∧ u10 = (labelsOf T).reverse ++ u9 ∧
      (mv = true → Picked (a.b :: a.q :: a.L :: c.act) [r0, r1]) := by
  unfold seqTail at h
  cases mv
  · obtain ⟨rfl, rfl⟩ := Prod.mk.inj (Option.some.inj h)
    exact ⟨0, 0, "", rfl, trivial, rfl, fun h => nomatch h⟩
  · simp only [Bool.not_true, Bool.false_eq_true, if_false] at h
    split at h
    · cases h
    rename_i r0 h0
    split at h
    · cases h
    rename_i r1 h1
    split at h
    · cases h
    rename_i x4 v h2
    obtain ⟨rfl, rfl⟩ := Prod.mk.inj (Option.some.inj h)
    obtain ⟨fx, rfl⟩ := newLabel_fresh h2
    exact ⟨r0, r1, x4, rfl, ⟨fx, trivial⟩, rfl, fun _ => ⟨getInactive_not_mem h0, getInactive_not_mem h1, trivial⟩⟩

/-- **What `emitSeq` produces when corrections are expected:** the per-pair loop over the wait code,
the correction block and (move path) the move code, with registers used consistently and pairwise
different labels. -/
theorem emitSeq_shape {d : Data} {c : Config} {mv : Bool} {code : List Cmd} (he : c.expect = true)
    (h : emitSeq d c mv = some code) :
    ∃ (a : SeqAlloc) (I J' r0 r1 : Nat) (l1 l2 x1 x2 x3 x4 l3 l4 : String),
      SeqWf mv a.L a.q a.b I J' a.s a.t a.e a.J r0 r1 ∧
      (labelsOf code).Nodup ∧
      code = seqLoopCode (.recvEpr c.remote c.sock (some c.ids) c.res) a.L c.n l3 l4
        (waitBlockCode d.ly a.L a.s a.t a.e a.J a.a1 a.a2 a.b1 a.b2 c.res)
        (corrBlockCode (if mv then d.tMove else d.tPost) d.ly d.sp a.q a.b a.L I J' l1 l2 x1 x2 x3
          c.ids c.res) []
        (if mv then moveTailCode a.L r0 r1 (c.n : Int) x4 else []) := by
  obtain ⟨a, u4, B, u9, T, u10, l3, u11, l4, u12, h0, h1, h2, h3, h4, hc⟩ := emitSeq_parts h
  obtain ⟨hr, hlW, rfl⟩ := allocSeq_picked h0
  obtain ⟨I, J', l1, l2, x1, x2, x3, hIJ, hlB, rfl, rfl⟩ := seqCorr_picked he h1
  obtain ⟨r0, r1, x4, rfl, hlT, rfl, hrT⟩ := seqTail_picked h2
  obtain ⟨f3, rfl⟩ := newLabel_fresh h3
  refine ⟨a, I, J', r0, r1, l1, l2, x1, x2, x3, x4, l3, l4, ?_, ?_, hc⟩
  · -- registers: `L, q, b` first, then the wait registers resp. the block's resp. the move code's
    have h3r : Picked c.act [a.L, a.q, a.b] := ⟨hr.1, hr.2.1, hr.2.2.1, trivial⟩
    have hw := hr.nodup.1
    have hb := (h3r.append hIJ).nodup.1
    simp only [List.nodup_cons, List.mem_cons, List.not_mem_nil, or_false, not_or] at hw
    obtain ⟨⟨-, -, Ls, Lt, Le, LJ⟩, -, -, ⟨-, -, sJ⟩, -, eJ, -⟩ := hw
    refine ⟨.of_nodup ((List.perm_middle (l₁ := [a.q, a.b])).nodup_iff.mpr hb), sJ, eJ, Ls, Lt, Le, LJ,
      fun hm => ?_⟩
    have hm := (h3r.append (hrT hm)).nodup.1
    simp only [List.cons_append, List.nil_append, List.nodup_cons, List.mem_cons, List.not_mem_nil, or_false,
      not_or] at hm
    obtain ⟨⟨-, -, L0, L1⟩, -, -, r01, -⟩ := hm
    exact ⟨Ne.symm L0, Ne.symm L1, r01⟩
  · -- labels: allocation order is wait code, block, move code, `l3`, `l4`
    have h34 : Picked _ [l3, l4] := ⟨f3, (newLabel_fresh h4).1, trivial⟩
    have hp := (hlW.append (hlB.append (hlT.append h34))).nodup.1
    rw [← List.append_assoc, ← List.append_assoc] at hp
    have := List.perm_middle.nodup_iff.mp hp
    rw [List.append_assoc, List.append_assoc, ← labelsOf_corrBlockCode] at this
    rw [hc]
    simp only [seqLoopCode, labelsOf_append, List.nil_append]
    exact this

end NQ.Bell
