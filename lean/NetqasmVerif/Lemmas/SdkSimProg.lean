/-
Compiler correctness of the SDK builder model (C05), part 8: whole programs — any number of flush
segments (the builder and `HostSem` on a segmented program, the induction over the segments).
-/
import NetqasmVerif.Lemmas.SdkSimFlush
namespace NQ.Sdk

/-- the builder on a program given as its flush segments (each list of operations is followed by a flush) -/
def compileSegs (m : Mem) : List (List Host) → Except BuildError (Mem × List (Option (List PCmd)))
  | [] => .ok (m, [])
  | ops :: rest =>
    match emitOps m ops with
    | .error e => .error e
    | .ok (m1, pend) =>
      match flush m1 pend with
      | .error e => .error e
      | .ok (m2, sub) =>
        match compileSegs m2 rest with
        | .error e => .error e
        | .ok (m3, subs) => .ok (m3, sub :: subs)

/-- `HostSem` on a segmented program; the state at each flush (before measurement handles die) -/
def hrunSegs (fuel : Nat) : Nat → Nat → HSt → List (List Host) → Option (HSt × List HSt)
  | _, _, s, [] => some (s, [])
  | nh, na, s, ops :: rest =>
    match runSegment fuel nh na ops s with
    | none => none
    | some (s1, nh1, na1) =>
      match hrunSegs fuel nh1 na1 (clearAll s1 (segMHandles nh ops)) rest with
      | none => none
      | some (s2, views) => some (s2, s1 :: views)

/-- executing the subroutines of the successive flushes; after each one the controller state `ts_k` -/
def RunSubs : List (Option (List PCmd)) → St → List St → St → Prop
  | [], ts, mids, tsEnd => mids = [] ∧ tsEnd = ts
  | none :: rest, ts, mids, tsEnd => ∃ ms, mids = ts :: ms ∧ RunSubs rest ts ms tsEnd
  | some sub :: rest, ts, mids, tsEnd =>
    ∃ ts1 ms, Runs sub 0 sub.length ts ts1 ∧ mids = ts1 :: ms ∧ RunSubs rest ts1 ms tsEnd

/-- per flush: the host view of shared memory (`ViewOK`) for the memory manager at that flush -/
def ViewsOK (fuel : Nat) : Mem → Nat → Nat → HSt → List (List Host) → List St → Prop
  | _, _, _, _, [], _ => True
  | m, nh, na, s, ops :: rest, mids =>
    match emitOps m ops, runSegment fuel nh na ops s, mids with
    | .ok (m1, pend), some (s1, nh1, na1), ts1 :: ms =>
      match flush m1 pend with
      | .ok (m2, some _) => ViewOK m1 s1 ts1 ∧ ViewsOK fuel m2 nh1 na1 (clearAll s1 (segMHandles nh ops)) rest ms
      | .ok (m2, none) => ViewsOK fuel m2 nh1 na1 (clearAll s1 (segMHandles nh ops)) rest ms
      | .error _ => True
    | _, _, _ => True

theorem segs_sim : ∀ (segs : List (List Host)) (fuel : Nat) (m m' : Mem) (subs : List (Option (List PCmd)))
    (hs hsEnd : HSt) (views : List HSt) (ts : St),
    (∀ ops ∈ segs, ∀ op ∈ ops, TopOK op) → compileSegs m segs = .ok (m', subs) →
    hrunSegs fuel m.handles.length m.arrLens.length hs segs = some (hsEnd, views) → SegInv m hs ts →
    ∃ mids tsEnd, RunSubs subs ts mids tsEnd ∧ SegInv m' hsEnd tsEnd ∧
      ViewsOK fuel m m.handles.length m.arrLens.length hs segs mids := by
  intro segs
  induction segs with
  | nil =>
    intro fuel m m' subs hs hsEnd views ts _ hc hh hinv
    simp [compileSegs] at hc; obtain ⟨rfl, rfl⟩ := hc
    simp [hrunSegs] at hh; obtain ⟨rfl, _⟩ := hh
    exact ⟨[], ts, ⟨rfl, rfl⟩, hinv, trivial⟩
  | cons ops rest ih =>
    intro fuel m m' subs hs hsEnd views ts hwf hc hh hinv
    dsimp only [compileSegs] at hc
    split at hc
    · cases hc
    · rename_i m1 pend he
      split at hc
      · cases hc
      · rename_i m2 sub hf
        split at hc
        · cases hc
        · rename_i m3 subs' hc'
          cases hc
          dsimp only [hrunSegs] at hh
          split at hh
          · cases hh
          · rename_i s1 nh1 na1 hseg
            split at hh
            · cases hh
            · rename_i s2 views' hrest
              cases hh
              have htop : ∀ op ∈ ops, TopOK op := hwf ops (by simp)
              cases sub with
              | none =>
                obtain ⟨hinv2, en, ea⟩ := segment_sim_none hinv htop he hf hseg
                rw [en, ea] at hrest
                obtain ⟨ms, tsEnd, hrun, hinvE, hv⟩ := ih fuel m2 _ subs' _ hsEnd views' ts
                  (fun o ho => hwf o (by simp [ho])) hc' hrest hinv2
                refine ⟨ts :: ms, tsEnd, ⟨ms, rfl, hrun⟩, hinvE, ?_⟩
                simp only [ViewsOK, he, hseg, hf]
                rw [en, ea]; exact hv
              | some sb =>
                obtain ⟨ts1, hr1, hinv2, en, ea, hview⟩ := segment_sim hinv htop he hf hseg
                rw [en, ea] at hrest
                obtain ⟨ms, tsEnd, hrun, hinvE, hv⟩ := ih fuel m2 _ subs' _ hsEnd views' ts1
                  (fun o ho => hwf o (by simp [ho])) hc' hrest hinv2
                refine ⟨ts1 :: ms, tsEnd, ⟨ts1, ms, hr1, rfl, hrun⟩, hinvE, ?_⟩
                simp only [ViewsOK, he, hseg, hf]
                rw [en, ea]; exact ⟨hview, hv⟩

def St.init (outs : List Int) : St :=
  { regs := fun _ => none, arrs := fun _ => none, shmRegs := fun _ => none, shmArrs := fun _ => none,
    trace := [], outcomes := outs }

theorem segInv_init (outs : List Int) : SegInv Mem.init (HSt.init outs) (St.init outs) :=
  ⟨⟨rfl, rfl, rfl, fun h v hv => by simp [HSt.init] at hv,
    fun h1 h2 v1 v2 r b1 b2 hv1 => by simp [HSt.init] at hv1,
    fun a n hn => by simp [Mem.init] at hn,
    fun h v r b hv => by simp [HSt.init] at hv⟩, rfl, rfl, rfl⟩

end NQ.Sdk
