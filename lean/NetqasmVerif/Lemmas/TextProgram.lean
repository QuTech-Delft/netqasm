/-
Character level, whole programs: `parseText` of the printed lines of a list of instructions gives
these instructions.  `parseLines_show` lexes line by line (`parseLine_show`; a printed line is
already stripped, is no comment and no preamble line), `assemble_print` of `Lemmas/Text.lean`
assembles the tokens.  `parseText_show_rows` asks `rowTextOk` of the rows that are used,
`parseText_show` of every row of the table; `Props/C17.lean` states both as `parse_print_rows`
and `parse_print`.
-/
import NetqasmVerif.Lemmas.TextLine
namespace NQ.Text
open NQ

variable {S : Syms}

def Lexable (T : Table) (S : Syms) (generic : List String) (i : Instr) : Prop :=
  ∃ row, rowOf T i.cls = some row ∧ AsmFront.HeadOk generic row.mn ∧
    ∀ o ∈ i.ops, banksOk S.banks.length o = true

theorem lexable_of_rowOk {T : Table} {exc : List (String × Nat)} {generic : List String}
    {i : Instr} {row : Row} (hr : rowOf T i.cls = some row) (hrow : rowTextOk T exc generic row = true)
    (hb : ∀ o ∈ i.ops, banksOk S.banks.length o = true) : Lexable T S generic i :=
  have ⟨_, hg, hne, hmn⟩ := rowFormOk_iff.1 (rowTextOk_iff.1 hrow).2.2
  ⟨row, hr, ⟨hne, hmn, hg⟩, hb⟩

theorem parseLines_show (hS : SOk S) (T : Table) (generic : List String) (is : List Instr)
    (h : ∀ i ∈ is, Lexable T S generic i) :
    parseLines S generic (is.map (showLine T S)) = .ok (is.map (toksOf T)) := by
  induction is with
  | nil => rfl
  | cons i is ih =>
    obtain ⟨row, hr, hh, hb⟩ := h i List.mem_cons_self
    have ih' := ih (fun j hj => h j (List.mem_cons_of_mem _ hj))
    obtain ⟨hall, c, cs, hc, hcm⟩ := showInstr_chars (S := S) hh i.ops hb
    -- a printed line is already stripped: its words are non-empty and have no blank
    have hstrip : strip (showInstr S row.mn i.ops) = showInstr S row.mn i.ops := by
      rw [showInstr_join]
      exact AsmText.trim_joinWith (List.cons_ne_nil _ _) (List.forall_mem_cons.2
        ⟨⟨hh.ne, (mn_word hS hh).noSpace⟩, fun w hw => by
          obtain ⟨o, ho, rfl⟩ := List.mem_map.1 hw
          exact ⟨(showOperand_word hS o (hb o ho)).ne_nil, (showOperand_word hS o (hb o ho)).noSpace⟩⟩)
    obtain ⟨k, ks, hk, hkc⟩ := hS.cmt
    have hnc : containsSub S.comment.toList (showInstr S row.mn i.ops) = false := by
      rw [hk]; exact containsSub_false (notin_of_class hall hkc)
    have hpre : ¬ (showInstr S row.mn i.ops).head? = some S.preambleStart := by
      rw [hc]
      simp only [List.head?_cons, Option.some.injEq]
      intro hp; rw [hp, hS.preamble] at hcm; cases hcm
    have hnemp : (showInstr S row.mn i.ops).isEmpty = false := by rw [hc]; rfl
    simp only [List.map_cons, parseLines, showLine_of_row hr, hstrip, hnemp, Bool.false_eq_true, if_false,
      hnc, Bool.or_false, beq_iff_eq, hpre, parseLine_show hS hh i.ops hb, ih', toksOf_of_row hr]
    rfl

/-- the row condition is asked per instruction: in a table where a later row re-uses a mnemonic (a
user flavour may do so) the shadowed row fails `rowTextOk`, the others still round-trip -/
theorem parseText_show_rows (T : Table) (S : Syms) (generic : List String) (exc : List (String × Nat))
    (hS : symsOk S = true) (is : List Instr)
    (h : ∀ i ∈ is, ∃ row, rowOf T i.cls = some row ∧ rowTextOk T exc generic row = true ∧
      InRangeOps row.shape i.ops = true) :
    parseText T S generic exc (is.map (showLine T S)) = .ok is := by
  have hS' := sok_of S hS
  have hlex : ∀ i ∈ is, Lexable T S generic i := fun i hi =>
    let ⟨_, hr, hrow, hin⟩ := h i hi
    lexable_of_rowOk hr hrow ((inRangeOps_kinds_banks hin).2 _ hS'.nbanks)
  have hpr : ∀ i ∈ is, Printable T exc i := fun i hi =>
    let ⟨_, hr, hrow, hin⟩ := h i hi
    printable_of_rowOk hr hrow (inRangeOps_kinds_banks hin).1
  simp only [parseText, parseLines_show hS' T generic is hlex, assemble_print T S exc is hpr]

theorem parseText_show (T : Table) (S : Syms) (generic : List String) (exc : List (String × Nat))
    (hS : symsOk S = true) (hT : T.all (rowTextOk T exc generic) = true) (is : List Instr)
    (h : ∀ i ∈ is, ∃ row, rowOf T i.cls = some row ∧ InRangeOps row.shape i.ops = true) :
    parseText T S generic exc (is.map (showLine T S)) = .ok is :=
  parseText_show_rows T S generic exc hS is fun i hi =>
    let ⟨row, hr, hin⟩ := h i hi
    ⟨row, hr, List.all_eq_true.1 hT row (rowOf_some hr).1, hin⟩

end NQ.Text
