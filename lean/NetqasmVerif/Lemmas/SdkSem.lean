/-
Runs of the label-level semantics (Model/SdkExec.lean): `Steps`, and `Runs` for a code segment.  For each
shape the builder emits, a structure locates it in a subroutine (`IfAt`, `LoopAt`, `UntilAt`) and lemmas run
it; the `…_of_layout` lemmas give the structure for `pre ++ code ++ post` once the labels resolve to their
positions (Lemmas/SdkLabels.lean gets that from label freshness).  These are the control-flow and data-flow
skeletons of C05; C03 proves that assembling preserves this semantics.
-/
import NetqasmVerif.Model.SdkExec
namespace NQ.Sdk

inductive Steps (p : List PCmd) : St × Nat → St × Nat → Prop
  | refl (c : St × Nat) : Steps p c c
  | next {c c' c'' : St × Nat} : step p c = some c' → Steps p c' c'' → Steps p c c''

theorem Steps.trans {p : List PCmd} {a b c : St × Nat} (h1 : Steps p a b) (h2 : Steps p b c) :
    Steps p a c := by
  induction h1 with
  | refl => exact h2
  | next hs _ ih => exact Steps.next hs (ih h2)

theorem Steps.one {p : List PCmd} {a b : St × Nat} (h : step p a = some b) : Steps p a b :=
  Steps.next h (Steps.refl _)

/-- the code segment of length `len` at offset `n` takes `s` to `s'` (and falls through its end) -/
theorem steps_nil {c c' : St × Nat} (h : Steps [] c c') : c' = c := by
  cases h with
  | refl => rfl
  | next hs _ => simp [step] at hs

def Runs (p : List PCmd) (n len : Nat) (s s' : St) : Prop := Steps p (s, n) (s', n + len)

theorem step_label {p : List PCmd} {n : Nat} {l : Lbl} (s : St) (h : p[n]? = some (.label l)) :
    step p (s, n) = some (s, n + 1) := by simp [step, h]

theorem step_instr {p : List PCmd} {n : Nat} {mn : Mn} {ops : List POp} (s : St)
    (h : p[n]? = some (.instr mn ops)) : step p (s, n) = exec p s n mn ops := by simp [step, h]

section
variable {p : List PCmd} {s : St} {pc : Nat}

theorem exec_set (r : Reg) (v : Int) :
    exec p s pc .set [.reg r, .lit v] = some (s.setReg r v, pc + 1) := rfl

theorem exec_load_val {r : Reg} {e : POp} {v : Int} (h : readEntry s e = some v) :
    exec p s pc .load [.reg r, e] = some (s.setReg r v, pc + 1) := by
  unfold exec; simp only [h]

theorem exec_store_val {src e : POp} {v : Int} {s' : St} (hv : opVal s src = some v)
    (hw : writeEntry s e v = some s') : exec p s pc .store [src, e] = some (s', pc + 1) := by
  unfold exec; simp only [hv, hw]

theorem exec_add {r : Reg} {a b : POp} {x y : Int} (ha : opVal s a = some x) (hb : opVal s b = some y) :
    exec p s pc .add [.reg r, a, b] = some (s.setReg r (x + y), pc + 1) := by
  unfold exec; simp only [ha, hb]

theorem exec_addm {r : Reg} {a b : POp} {x y m : Int} (ha : opVal s a = some x) (hb : opVal s b = some y)
    (hm : 1 ≤ m) : exec p s pc .addm [.reg r, a, b, .lit m] = some (s.setReg r ((x + y) % m), pc + 1) := by
  unfold exec; simp only [ha, hb, if_neg (Int.not_lt.mpr hm)]

theorem exec_jmp {l : Lbl} {t : Nat} (hl : findLabel p l = some t) :
    exec p s pc .jmp [.lab l] = some (s, t + 1) := by
  unfold exec; simp only [goto, hl]

theorem exec_branch2 {mn : Mn} {a b : POp} {l : Lbl} {x y : Int} {tk : Bool} {t : Nat}
    (ha : opVal s a = some x) (hb : opVal s b = some y) (hk : brTaken2 mn x y = some tk)
    (hl : findLabel p l = some t) :
    exec p s pc mn [a, b, .lab l] = some (s, if tk then t + 1 else pc + 1) := by
  -- only the four two-operand branches have a `brTaken2`
  cases mn <;> first | cases hk; done | (unfold exec; simp only [ha, hb, hk, goto, hl]; cases tk <;> rfl)

theorem exec_branch1 {mn : Mn} {a : POp} {l : Lbl} {x : Int} {tk : Bool} {t : Nat}
    (ha : opVal s a = some x) (hk : brTaken1 mn x = some tk) (hl : findLabel p l = some t) :
    exec p s pc mn [a, .lab l] = some (s, if tk then t + 1 else pc + 1) := by
  cases mn <;> first | cases hk; done | (unfold exec; simp only [ha, hk, goto, hl]; cases tk <;> rfl)

theorem exec_retReg {r : Reg} {v : Int} (h : s.regs r = some v) :
    exec p s pc .retReg [.reg r]
      = some ({ s with shmRegs := fun x => if x = r then some v else s.shmRegs x }, pc + 1) := by
  unfold exec; simp only [h]

theorem exec_retArr {a : Nat} {l : List (Option Int)}
    (h : s.arrs a = some l) :
    exec p s pc .retArr [.addr a]
      = some ({ s with shmArrs := fun x => if x = a then some l else s.shmArrs x }, pc + 1) := by
  unfold exec; simp only [h]

theorem readEntry_lit {a i : Nat} {l : List (Option Int)} {v : Int} (ha : s.arrs a = some l)
    (hv : l[i]? = some (some v)) : readEntry s (.entryL a i) = some v := by
  simp only [readEntry, entryLoc, ha, hv]

theorem readEntry_reg {a : Nat} {t : Reg} {l : List (Option Int)} {k v : Int}
    (hk : s.regs t = some k) (hk0 : 0 ≤ k) (ha : s.arrs a = some l) (hv : l[k.toNat]? = some (some v)) :
    readEntry s (.entryR a t) = some v := by
  simp only [readEntry, entryLoc, hk, hk0, if_true, ha, hv]

theorem writeEntry_lit {a i : Nat} {l : List (Option Int)} (v : Int) (ha : s.arrs a = some l)
    (hi : i < l.length) : writeEntry s (.entryL a i) v = some (s.setArr a (l.set i (some v))) := by
  simp only [writeEntry, entryLoc, ha, hi, if_true]

end

theorem step_beq_lit {p : List PCmd} {n t : Nat} {r : Reg} {N j : Int} {lx : Lbl} (s : St)
    (h : p[n]? = some (.instr .beq [.reg r, .lit N, .lab lx])) (hr : s.regs r = some j)
    (hl : findLabel p lx = some t) : step p (s, n) = some (s, if j = N then t + 1 else n + 1) := by
  rw [step_instr s h, exec_branch2 (a := .reg r) (b := .lit N) hr rfl rfl hl]
  by_cases e : j = N <;> simp [e]

def condHolds : Cond → Int → Int → Prop
  | .eq, a, b => a = b
  | .ne, a, b => a ≠ b
  | .lt, a, b => a < b
  | .ge, a, b => a ≥ b
  | .ez, a, _ => a = 0
  | .nz, a, _ => a ≠ 0

instance (c : Cond) (a b : Int) : Decidable (condHolds c a b) := by
  cases c <;> simp only [condHolds] <;> infer_instance

/-- operands of the branch that `_build_cmds_condition` emits -/
def branchOps (c : Cond) (oa ob : POp) (l : Lbl) : List POp :=
  if c.unary then [oa, .lab l] else [oa, ob, .lab l]

theorem negBranch_taken2 {c : Cond} (hu : c.unary = false) (va vb : Int) :
    ∃ tk, brTaken2 (negBranch c) va vb = some tk ∧ (tk = true ↔ ¬ condHolds c va vb) := by
  cases c <;> simp [Cond.unary] at hu <;> exact ⟨_, rfl, by simp [condHolds]⟩

theorem negBranch_taken1 {c : Cond} (hu : c.unary = true) (va vb : Int) :
    ∃ tk, brTaken1 (negBranch c) va = some tk ∧ (tk = true ↔ ¬ condHolds c va vb) := by
  cases c <;> simp [Cond.unary] at hu <;> exact ⟨_, rfl, by simp [condHolds]⟩

theorem branch_taken_iff (p : List PCmd) (s : St) (n t : Nat) (c : Cond) (oa ob : POp) (l : Lbl)
    (va vb : Int) (ha : opVal s oa = some va) (hb : c.unary = false → opVal s ob = some vb)
    (hl : findLabel p l = some t) :
    exec p s n (negBranch c) (branchOps c oa ob l)
      = some (s, if condHolds c va vb then n + 1 else t + 1) := by
  have fin : ∀ tk : Bool, (tk = true ↔ ¬ condHolds c va vb) →
      (if tk then t + 1 else n + 1) = if condHolds c va vb then n + 1 else t + 1 := by
    intro tk h
    by_cases hc : condHolds c va vb
    · rw [if_pos hc, if_neg (fun e => h.mp e hc)]
    · rw [if_neg hc, if_pos (h.mpr hc)]
  cases hu : c.unary
  · obtain ⟨tk, hk, htk⟩ := negBranch_taken2 hu va vb
    rw [branchOps, if_neg (by simp [hu]), exec_branch2 ha (hb hu) hk hl, fin tk htk]
  · obtain ⟨tk, hk, htk⟩ := negBranch_taken1 hu va vb
    rw [branchOps, if_pos hu, exec_branch1 ha hk hl, fin tk htk]

/-- the shape `_build_cmds_condition` emits, located at offset `n` of the subroutine: the negated
branch, a body of `lb` commands, the exit label -/
structure IfAt (p : List PCmd) (n lb : Nat) (c : Cond) (oa ob : POp) (l : Lbl) : Prop where
  hbr : p[n]? = some (.instr (negBranch c) (branchOps c oa ob l))
  hlab : p[n + 1 + lb]? = some (.label l)
  hfind : findLabel p l = some (n + 1 + lb)

theorem if_runs {p : List PCmd} {n lb : Nat} {c : Cond} {oa ob : POp} {l : Lbl}
    (I : IfAt p n lb c oa ob l) (s s' : St) (va vb : Int)
    (ha : opVal s oa = some va) (hb : c.unary = false → opVal s ob = some vb)
    (hc : condHolds c va vb) (hbody : Runs p (n + 1) lb s s') : Runs p n (lb + 2) s s' := by
  unfold Runs at *
  have h1 : step p (s, n) = some (s, n + 1) := by
    rw [step_instr s I.hbr, branch_taken_iff p s n _ c oa ob l va vb ha hb I.hfind, if_pos hc]
  have h2 : step p (s', n + 1 + lb) = some (s', n + 1 + lb + 1) := step_label s' I.hlab
  have e : n + (lb + 2) = n + 1 + lb + 1 := by omega
  rw [e]
  exact Steps.next h1 (Steps.trans hbody (Steps.one h2))

theorem if_skips {p : List PCmd} {n lb : Nat} {c : Cond} {oa ob : POp} {l : Lbl}
    (I : IfAt p n lb c oa ob l) (s : St) (va vb : Int)
    (ha : opVal s oa = some va) (hb : c.unary = false → opVal s ob = some vb)
    (hc : ¬ condHolds c va vb) : Runs p n (lb + 2) s s := by
  unfold Runs
  have h1 : step p (s, n) = some (s, n + 1 + lb + 1) := by
    rw [step_instr s I.hbr, branch_taken_iff p s n _ c oa ob l va vb ha hb I.hfind, if_neg hc]
  have e : n + (lb + 2) = n + 1 + lb + 1 := by omega
  rw [e]
  exact Steps.one h1

/-- the shape `_build_cmds_loop` emits at offset `n` around a body of `lb` commands -/
structure LoopAt (p : List PCmd) (n lb : Nat) (r : Reg) (start stop stp : Int) (le lx : Lbl) : Prop where
  h0 : p[n]? = some (.instr .set [.reg r, .lit start])
  h1 : p[n + 1]? = some (.label le)
  h2 : p[n + 2]? = some (.instr .beq [.reg r, .lit stop, .lab lx])
  h3 : p[n + 3 + lb]? = some (.instr .add [.reg r, .reg r, .lit stp])
  h4 : p[n + 4 + lb]? = some (.instr .jmp [.lab le])
  h5 : p[n + 5 + lb]? = some (.label lx)
  fle : findLabel p le = some (n + 1)
  flx : findLabel p lx = some (n + 5 + lb)

def ReachesIn (stp stop : Int) : Nat → Int → Prop
  | 0, i => i = stop
  | k + 1, i => i ≠ stop ∧ ReachesIn stp stop k (i + stp)

def iterFrom (body : Int → St → St) (r : Reg) (stp : Int) : Nat → Int → St → St
  | 0, _, s => s
  | k + 1, i, s => iterFrom body r stp k (i + stp) ((body i s).setReg r (i + stp))

theorem loop_from_head {p : List PCmd} {n lb : Nat} {r : Reg} {start stop stp : Int} {le lx : Lbl}
    (L : LoopAt p n lb r start stop stp le lx) (body : Int → St → St)
    (hbody : ∀ i s, s.regs r = some i → Runs p (n + 3) lb s (body i s) ∧ (body i s).regs r = some i) :
    ∀ (k : Nat) (i : Int) (s : St), s.regs r = some i → ReachesIn stp stop k i →
      Steps p (s, n + 2) (iterFrom body r stp k i s, n + 6 + lb) := by
  intro k
  induction k with
  | zero =>
    intro i s hr hk
    simp only [ReachesIn] at hk
    have : step p (s, n + 2) = some (s, n + 5 + lb + 1) := by
      rw [step_beq_lit s L.h2 hr L.flx, if_pos hk]
    simp only [iterFrom]
    have e : n + 6 + lb = n + 5 + lb + 1 := by omega
    rw [e]
    exact Steps.one this
  | succ k ih =>
    intro i s hr hk
    obtain ⟨hne, hk'⟩ := hk
    have s1 : step p (s, n + 2) = some (s, n + 3) := by
      rw [step_beq_lit s L.h2 hr L.flx, if_neg hne]
    obtain ⟨hb, hbr⟩ := hbody i s hr
    have s2 : step p (body i s, n + 3 + lb) = some ((body i s).setReg r (i + stp), n + 3 + lb + 1) := by
      rw [step_instr _ L.h3, exec_add (a := .reg r) (b := .lit stp) hbr rfl]
    have s3 : step p ((body i s).setReg r (i + stp), n + 4 + lb)
        = some ((body i s).setReg r (i + stp), n + 1 + 1) := by
      rw [step_instr _ L.h4, exec_jmp L.fle]
    have e1 : n + 3 + lb + 1 = n + 4 + lb := by omega
    rw [e1] at s2
    simp only [iterFrom]
    refine Steps.next s1 (Steps.trans hb (Steps.next s2 (Steps.next s3 ?_)))
    exact ih (i + stp) _ (by simp) hk'

/-- the shape `_build_cmds_loop_until` emits at offset `n`: entry, body (`lb` commands), the load(s)
of the exit operand (`lk` commands), the break branch, cleanup (`lc` commands), exit commands -/
structure UntilAt (p : List PCmd) (n lb lk lc : Nat) (r : Reg) (N : Int) (o : POp) (ev : Int)
    (le lx : Lbl) : Prop where
  h0 : p[n]? = some (.instr .set [.reg r, .lit 0])
  h1 : p[n + 1]? = some (.label le)
  h2 : p[n + 2]? = some (.instr .beq [.reg r, .lit N, .lab lx])
  hbrk : p[n + 3 + lb + lk]? = some (.instr .blt [o, .lit (ev + 1), .lab lx])
  h3 : p[n + 4 + lb + lk + lc]? = some (.instr .add [.reg r, .reg r, .lit 1])
  h4 : p[n + 5 + lb + lk + lc]? = some (.instr .jmp [.lab le])
  h5 : p[n + 6 + lb + lk + lc]? = some (.label lx)
  fle : findLabel p le = some (n + 1)
  flx : findLabel p lx = some (n + 6 + lb + lk + lc)

/-- the exit test of `loop_until` (after the F5 fix): taken iff the value is AT MOST the bound -/
theorem break_at_most (v ev : Int) : brTaken2 .blt v (ev + 1) = some (decide (v ≤ ev)) := by
  simp only [brTaken2]
  congr 1
  by_cases h : v ≤ ev
  · have : v < ev + 1 := by omega
    simp [h, this]
  · have : ¬ v < ev + 1 := by omega
    simp [h, this]

theorem until_max {p : List PCmd} {n lb lk lc : Nat} {r : Reg} {N : Int} {o : POp} {ev : Int} {le lx : Lbl}
    (U : UntilAt p n lb lk lc r N o ev le lx) (s : St) (hr : s.regs r = some N) :
    Steps p (s, n + 2) (s, n + 7 + lb + lk + lc) := by
  have : step p (s, n + 2) = some (s, n + 6 + lb + lk + lc + 1) := by
    rw [step_beq_lit s U.h2 hr U.flx, if_pos rfl]
  have e : n + 7 + lb + lk + lc = n + 6 + lb + lk + lc + 1 := by omega
  rw [e]; exact Steps.one this

theorem until_exit {p : List PCmd} {n lb lk lc : Nat} {r : Reg} {N : Int} {o : POp} {ev : Int} {le lx : Lbl}
    (U : UntilAt p n lb lk lc r N o ev le lx) (s s1 s2 : St) (j v : Int)
    (hr : s.regs r = some j) (hj : j ≠ N)
    (hbody : Runs p (n + 3) lb s s1) (hload : Runs p (n + 3 + lb) lk s1 s2)
    (hv : opVal s2 o = some v) (hle : v ≤ ev) :
    Steps p (s, n + 2) (s2, n + 7 + lb + lk + lc) := by
  have s0 : step p (s, n + 2) = some (s, n + 3) := by
    rw [step_beq_lit s U.h2 hr U.flx, if_neg hj]
  have sb : step p (s2, n + 3 + lb + lk) = some (s2, n + 6 + lb + lk + lc + 1) := by
    rw [step_instr s2 U.hbrk, exec_branch2 (b := .lit (ev + 1)) hv rfl (break_at_most v ev) U.flx,
      if_pos (decide_eq_true hle)]
  have e : n + 7 + lb + lk + lc = n + 6 + lb + lk + lc + 1 := by omega
  rw [e]
  unfold Runs at hbody hload
  exact Steps.next s0 (Steps.trans hbody (Steps.trans hload (Steps.one sb)))

theorem until_continue {p : List PCmd} {n lb lk lc : Nat} {r : Reg} {N : Int} {o : POp} {ev : Int}
    {le lx : Lbl} (U : UntilAt p n lb lk lc r N o ev le lx) (s s1 s2 s3 : St) (j v : Int)
    (hr : s.regs r = some j) (hj : j ≠ N)
    (hbody : Runs p (n + 3) lb s s1) (hload : Runs p (n + 3 + lb) lk s1 s2)
    (hv : opVal s2 o = some v) (hgt : ¬ v ≤ ev)
    (hclean : Runs p (n + 4 + lb + lk) lc s2 s3) {j2 : Int} (hr3 : s3.regs r = some j2) :
    Steps p (s, n + 2) (s3.setReg r (j2 + 1), n + 2) := by
  have s0 : step p (s, n + 2) = some (s, n + 3) := by
    rw [step_beq_lit s U.h2 hr U.flx, if_neg hj]
  have sb : step p (s2, n + 3 + lb + lk) = some (s2, n + 3 + lb + lk + 1) := by
    rw [step_instr s2 U.hbrk, exec_branch2 (b := .lit (ev + 1)) hv rfl (break_at_most v ev) U.flx,
      if_neg (by simp [hgt])]
  have sa : step p (s3, n + 4 + lb + lk + lc) = some (s3.setReg r (j2 + 1), n + 4 + lb + lk + lc + 1) := by
    rw [step_instr s3 U.h3, exec_add (a := .reg r) (b := .lit 1) hr3 rfl]
  have sj : step p (s3.setReg r (j2 + 1), n + 5 + lb + lk + lc) = some (s3.setReg r (j2 + 1), n + 1 + 1) := by
    rw [step_instr _ U.h4, exec_jmp U.fle]
  unfold Runs at hbody hload hclean
  have e1 : n + 3 + lb + lk + 1 = n + 4 + lb + lk := by omega
  have e2 : n + 4 + lb + lk + lc + 1 = n + 5 + lb + lk + lc := by omega
  rw [e1] at sb; rw [e2] at sa
  exact Steps.next s0 (Steps.trans hbody (Steps.trans hload (Steps.next sb
    (Steps.trans hclean (Steps.next sa (Steps.one sj))))))

def addRes (v w : Int) : Option Int → Int
  | none => v + w
  | some m => (v + w) % m

theorem step_addInstr {p : List PCmd} {n : Nat} (s : St) (r : Reg) (o : POp) (md : Option Int)
    (v w : Int) (h : p[n]? = some (addInstr r o md))
    (hr : s.regs r = some v) (ho : opVal s o = some w) (hm : ∀ m, md = some m → 1 ≤ m) :
    step p (s, n) = some (s.setReg r (addRes v w md), n + 1) := by
  cases md with
  | none => rw [step_instr s h]; exact exec_add (a := .reg r) hr ho
  | some m => rw [step_instr s h]; exact exec_addm (a := .reg r) hr ho (hm m rfl)

/-- `RegFuture.add(other, mod)` — one instruction on the handle's register -/
theorem addR_runs {p : List PCmd} {n : Nat} (s : St) (r : Reg) (o : POp) (md : Option Int) (v w : Int)
    (h : p[n]? = some (addInstr r o md))
    (hr : s.regs r = some v) (ho : opVal s o = some w) (hm : ∀ m, md = some m → 1 ≤ m) :
    Runs p n 1 s (s.setReg r (addRes v w md)) :=
  Steps.one (step_addInstr s r o md v w h hr ho hm)

/-- `Future.add(other, mod)` on an entry with a literal index: load, add, store -/
theorem addF_runs {p : List PCmd} {n : Nat} (s : St) (t : Reg) (a i : Nat) (o : POp) (md : Option Int)
    (l : List (Option Int)) (v w : Int)
    (h0 : p[n]? = some (.instr .load [.reg t, .entryL a i]))
    (h1 : p[n + 1]? = some (addInstr t o md))
    (h2 : p[n + 2]? = some (.instr .store [.reg t, .entryL a i]))
    (ha : s.arrs a = some l) (hv : l[i]? = some (some v))
    (ho : opVal (s.setReg t v) o = some w) (hm : ∀ m, md = some m → 1 ≤ m) :
    Runs p n 3 s (((s.setReg t v).setReg t (addRes v w md)).setArr a (l.set i (some (addRes v w md)))) := by
  have hi : i < l.length := by
    by_cases hi : i < l.length
    · exact hi
    · simp [List.getElem?_eq_none (Nat.le_of_not_lt hi)] at hv
  have s0 : step p (s, n) = some (s.setReg t v, n + 1) := by
    rw [step_instr s h0, exec_load_val (readEntry_lit ha hv)]
  have s1 := step_addInstr (s.setReg t v) t o md v w h1 (by simp) ho hm
  have s2 : step p ((s.setReg t v).setReg t (addRes v w md), n + 2)
      = some (((s.setReg t v).setReg t (addRes v w md)).setArr a (l.set i (some (addRes v w md))), n + 2 + 1) := by
    rw [step_instr _ h2, exec_store_val (s := (s.setReg t v).setReg t _) (src := .reg t)
      (St.setReg_regs_self ..) (writeEntry_lit _ ha hi)]
  exact Steps.next s0 (Steps.next s1 (Steps.one s2))

/-- a future-indexed Future: `load t @b[j]; load r @a[t]` reads `a[b[j]]` -/
theorem future_indexed_load_runs {p : List PCmd} {n : Nat} (s : St) (t r : Reg) (a b j : Nat)
    (lb la : List (Option Int)) (k v : Int)
    (h0 : p[n]? = some (.instr .load [.reg t, .entryL b j]))
    (h1 : p[n + 1]? = some (.instr .load [.reg r, .entryR a t]))
    (hb : s.arrs b = some lb) (hk : lb[j]? = some (some k)) (hk0 : 0 ≤ k)
    (ha : s.arrs a = some la) (hv : la[k.toNat]? = some (some v)) :
    Runs p n 2 s ((s.setReg t k).setReg r v) := by
  have s0 : step p (s, n) = some (s.setReg t k, n + 1) := by
    rw [step_instr s h0, exec_load_val (readEntry_lit hb hk)]
  have s1 : step p (s.setReg t k, n + 1) = some ((s.setReg t k).setReg r v, n + 1 + 1) := by
    rw [step_instr _ h1, exec_load_val (readEntry_reg (s := s.setReg t k) (St.setReg_regs_self ..) hk0 ha hv)]
  exact Steps.next s0 (Steps.one s1)

theorem runs_seq {p : List PCmd} {n l1 l2 : Nat} {s s1 s2 : St}
    (h1 : Runs p n l1 s s1) (h2 : Runs p (n + l1) l2 s1 s2) : Runs p n (l1 + l2) s s2 := by
  unfold Runs at *
  rw [← Nat.add_assoc]
  exact Steps.trans h1 h2

/-- `ret_arr` / `ret_reg` publish the controller's value at the handle's location -/
theorem ret_arr_publishes {p : List PCmd} {n : Nat} (s : St) (a : Nat) (l : List (Option Int))
    (h : p[n]? = some (.instr .retArr [.addr a])) (ha : s.arrs a = some l) :
    ∃ s', step p (s, n) = some (s', n + 1) ∧ s'.shmArrs a = s'.arrs a ∧ s'.arrs = s.arrs ∧ s'.regs = s.regs := by
  refine ⟨{ s with shmArrs := fun x => if x = a then some l else s.shmArrs x }, ?_, ?_, rfl, rfl⟩
  · rw [step_instr s h, exec_retArr ha]
  · simp [ha]

theorem ret_reg_publishes {p : List PCmd} {n : Nat} (s : St) (r : Reg) (v : Int)
    (h : p[n]? = some (.instr .retReg [.reg r])) (hr : s.regs r = some v) :
    ∃ s', step p (s, n) = some (s', n + 1) ∧ s'.shmRegs r = s'.regs r ∧ s'.arrs = s.arrs ∧ s'.regs = s.regs := by
  refine ⟨{ s with shmRegs := fun x => if x = r then some v else s.shmRegs x }, ?_, ?_, rfl, rfl⟩
  · rw [step_instr s h, exec_retReg hr]
  · simp [hr]

/-- labels chosen by `_build_cmds_loop` -/
def loopLabels (m : Mem) : Lbl × Lbl := ((newLabel m 1).2, (newLabel (newLabel m 1).1 2).2)

def loopCode (r : Reg) (start stop stp : Int) (le lx : Lbl) (body : List PCmd) : List PCmd :=
  [.instr .set [.reg r, .lit start], .label le, .instr .beq [.reg r, .lit stop, .lab lx]]
    ++ body ++ [.instr .add [.reg r, .reg r, .lit stp], .instr .jmp [.lab le], .label lx]

theorem buildLoop_shape (m : Mem) (start stop stp : Int) (r : Reg) (body : List PCmd) (hb : body ≠ []) :
    (buildLoop m start stop stp r body).2
      = loopCode r start stop stp (loopLabels m).1 (loopLabels m).2 body := by
  have : body.isEmpty = false := by cases body <;> simp_all
  simp [buildLoop, this, loopCode, loopLabels]

theorem idx_front (pre A body C post : List PCmd) (k : Nat) (hk : k < A.length) :
    (pre ++ (A ++ body ++ C) ++ post)[pre.length + k]? = A[k]? := by
  rw [List.append_assoc pre, List.getElem?_append_right (Nat.le_add_right ..), Nat.add_sub_cancel_left,
    List.append_assoc A, List.append_assoc A, List.getElem?_append_left hk]

theorem idx_back (pre A body C post : List PCmd) (j : Nat) (hj : j < C.length) :
    (pre ++ (A ++ body ++ C) ++ post)[pre.length + (A.length + body.length + j)]? = C[j]? := by
  rw [List.append_assoc pre, List.getElem?_append_right (Nat.le_add_right ..), Nat.add_sub_cancel_left,
    List.getElem?_append_left (by simp; omega), List.getElem?_append_right (by simp)]
  simp

theorem loopAt_of_layout (pre post body : List PCmd) (r : Reg) (start stop stp : Int) (le lx : Lbl)
    (hle : findLabel (pre ++ loopCode r start stop stp le lx body ++ post) le = some (pre.length + 1))
    (hlx : findLabel (pre ++ loopCode r start stop stp le lx body ++ post) lx
      = some (pre.length + 5 + body.length)) :
    LoopAt (pre ++ loopCode r start stop stp le lx body ++ post) pre.length body.length r start stop stp le lx := by
  refine ⟨idx_front pre _ body _ post 0 (by simp), idx_front pre _ body _ post 1 (by simp),
    idx_front pre _ body _ post 2 (by simp), ?_, ?_, ?_, hle, hlx⟩
  · rw [show pre.length + 3 + body.length = pre.length + (3 + body.length + 0) by omega]
    exact idx_back pre _ body _ post 0 (by simp)
  · rw [show pre.length + 4 + body.length = pre.length + (3 + body.length + 1) by omega]
    exact idx_back pre _ body _ post 1 (by simp)
  · rw [show pre.length + 5 + body.length = pre.length + (3 + body.length + 2) by omega]
    exact idx_back pre _ body _ post 2 (by simp)

/-- the code of `_build_cmds_condition` when both operands need no load (literal / RegFuture) -/
def ifCode (c : Cond) (oa ob : POp) (l : Lbl) (body : List PCmd) : List PCmd :=
  [.instr (negBranch c) (branchOps c oa ob l)] ++ body ++ [.label l]

theorem buildCondition_shape (m : Mem) (c : Cond) (a b : Val) (oa ob : POp) (body : List PCmd)
    (hb : body ≠ [])
    (ha : condOperand (newLabel m 0).1 a = .ok ((newLabel m 0).1, [], oa, none))
    (hbv : condOperand (newLabel m 0).1 b = .ok ((newLabel m 0).1, [], ob, none)) :
    buildCondition m c a b body = .ok ((newLabel m 0).1, ifCode c oa ob (newLabel m 0).2 body) := by
  have : body.isEmpty = false := by cases body <;> simp_all
  unfold buildCondition
  rw [this]
  simp only [Bool.false_eq_true, if_false]
  unfold branchCmds
  simp only
  by_cases hu : c.unary = true
  · simp [hu, ha, releaseOpt, ifCode, branchOps]
  · simp [hu, ha, hbv, releaseOpt, ifCode, branchOps]

theorem ifAt_of_layout (pre post body : List PCmd) (c : Cond) (oa ob : POp) (l : Lbl)
    (hl : findLabel (pre ++ ifCode c oa ob l body ++ post) l = some (pre.length + 1 + body.length)) :
    IfAt (pre ++ ifCode c oa ob l body ++ post) pre.length body.length c oa ob l := by
  refine ⟨idx_front pre [_] body [_] post 0 (by simp), ?_, hl⟩
  rw [show pre.length + 1 + body.length = pre.length + (1 + body.length + 0) by omega]
  exact idx_back pre [_] body [_] post 0 (by simp)

end NQ.Sdk
