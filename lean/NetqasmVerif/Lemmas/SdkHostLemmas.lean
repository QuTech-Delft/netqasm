/-
Facts about the direct semantics `HostSem` alone: what its cell and index functions return, operations that emit
nothing do nothing; handles created before an operation stay defined across it; the loop variable after a loop.
-/
import NetqasmVerif.Model.SdkHost
namespace NQ.Sdk

theorem idxOf_some {v : Int} {i : Nat} (h : idxOf v = some i) : 0 ≤ v ∧ i = v.toNat := by
  unfold idxOf at h
  split at h
  · rename_i h0; cases h; exact ⟨h0, rfl⟩
  · cases h

theorem readCell_some {arrs : Nat → Option (List (Option Int))} {a i : Nat} {v : Int}
    (h : readCell arrs a i = some v) : ∃ l, arrs a = some l ∧ i < l.length ∧ l[i]? = some (some v) := by
  unfold readCell at h
  split at h
  · rename_i l hl
    split at h
    · rename_i v' hv'
      cases h
      refine ⟨l, hl, ?_, hv'⟩
      by_cases hi : i < l.length
      · exact hi
      · simp [List.getElem?_eq_none (Nat.le_of_not_lt hi)] at hv'
    · cases h
  · cases h

theorem evalFut_congr {s1 s2 : HSt} (hr : s1.hregs = s2.hregs) (ha : s1.arrs = s2.arrs) :
    ∀ f, evalFut s1 f = evalFut s2 f
  | .lit a i => rfl
  | .reg a h => by simp [evalFut, hr]
  | .fut a f => by simp [evalFut, evalFut_congr hr ha f, ha]

theorem hsem_noemit : ∀ (fuel : Nat) (op : Host) (nh na : Nat) (s s' : HSt), emits op = false →
    hsem fuel nh na op s = some s' → s' = s := by
  intro fuel
  induction fuel with
  | zero => intro op nh na s s' _ h; unfold hsem at h; cases h
  | succ f ih =>
    intro op nh na s s' he h
    cases op with
    | skip => unfold hsem at h; cases h; rfl
    | seq a b =>
      simp only [emits, Bool.or_eq_false_iff] at he
      unfold hsem at h
      split at h
      · rename_i s1 h1
        have e1 := ih a nh na s s1 he.1 h1
        subst e1
        exact ih b _ _ _ s' he.2 h
      · cases h
    | newArray len init => unfold hsem at h; cases h; rfl
    | newReg v => simp [emits] at he
    | qop g t => simp [emits] at he
    | addF fu o md => simp [emits] at he
    | addR hh o md => simp [emits] at he
    | ifc cb c a b body =>
      simp only [emits] at he
      unfold hsem at h; simp only [he, Bool.not_false, if_true] at h; cases h; rfl
    | loop rg st sp d body => simp only [emits] at he; unfold hsem at h; simp only [he, Bool.not_false, if_true] at h; cases h; rfl
    | loopBody rg st sp d body => simp only [emits] at he; unfold hsem at h; simp only [he, Bool.not_false, if_true] at h; cases h; rfl
    | foreach arr wi body => simp only [emits] at he; unfold hsem at h; simp only [he, Bool.not_false, if_true] at h; cases h; rfl
    | loopUntil n body ef ev cl => simp only [emits] at he; unfold hsem at h; simp only [he, Bool.not_false, if_true] at h; cases h; rfl
    | tryUntil n body =>
      simp only [emits] at he
      unfold hsem at h
      exact ih body nh na s s' he h
    | epr evs => unfold hsem at h; cases h

def Keeps (nh : Nat) (s s' : HSt) : Prop := ∀ h, h < nh → (s.hregs h).isSome → (s'.hregs h).isSome

theorem Keeps.refl (nh : Nat) (s : HSt) : Keeps nh s s := fun _ _ h => h
theorem Keeps.trans {nh : Nat} {a b c : HSt} (h1 : Keeps nh a b) (h2 : Keeps nh b c) : Keeps nh a c :=
  fun h hl hd => h2 h hl (h1 h hl hd)
theorem Keeps.mono {nh nh' : Nat} {a b : HSt} (h : Keeps nh' a b) (hl : nh ≤ nh') : Keeps nh a b :=
  fun x hx hd => h x (by omega) hd

theorem Keeps.setH (nh : Nat) (s : HSt) (h : Nat) (v : Int) : Keeps nh s (s.setH h v) := by
  intro x _ hd
  by_cases e : x = h <;> simp [HSt.setH, e, hd]

theorem Keeps.clearH {nh : Nat} (s : HSt) {h : Nat} (hge : nh ≤ h) : Keeps nh s (s.clearH h) := by
  intro x hx hd
  have : x ≠ h := by omega
  simp [HSt.clearH, this, hd]

theorem Keeps.of_hregs {nh : Nat} {s s' : HSt} (h : s'.hregs = s.hregs) : Keeps nh s s' := by
  intro x _ hd; rw [h]; exact hd

theorem writeCell_hregs {s s' : HSt} {a i : Nat} {v : Int} (h : writeCell s a i v = some s') :
    s'.hregs = s.hregs := by
  unfold writeCell at h
  split at h
  · split at h
    · cases h; rfl
    · cases h
  · cases h

theorem iterLoop_keeps {body : HSt → Option HSt} {h : Nat} {stop stp : Int} {nh : Nat}
    (hb : ∀ s s', body s = some s' → Keeps nh s s') :
    ∀ (k : Nat) (s s' : HSt), iterLoop body h stop stp k s = some s' → Keeps nh s s' := by
  intro k
  induction k with
  | zero => intro s s' hi; simp [iterLoop] at hi
  | succ k ih =>
    intro s s' hi
    simp only [iterLoop] at hi
    split at hi
    · cases hi
    · split at hi
      · cases hi; exact Keeps.refl _ _
      · split at hi
        · cases hi
        · rename_i s1 hb1
          split at hi
          · cases hi
          · exact ((hb _ _ hb1).trans (Keeps.setH _ _ _ _)).trans (ih _ _ hi)

theorem iterUntil_keeps {body cl : HSt → Option HSt} {ef : Val} {ev : Int} {h : Nat} {N : Int} {nh : Nat}
    (hb : ∀ s s', body s = some s' → Keeps nh s s') (hc : ∀ s s', cl s = some s' → Keeps nh s s') :
    ∀ (k : Nat) (s s' : HSt), iterUntil body cl ef ev h N k s = some s' → Keeps nh s s' := by
  intro k
  induction k with
  | zero => intro s s' hi; simp [iterUntil] at hi
  | succ k ih =>
    intro s s' hi
    simp only [iterUntil] at hi
    split at hi
    · cases hi
    · split at hi
      · cases hi; exact Keeps.refl _ _
      · split at hi
        · cases hi
        · rename_i s1 hb1
          split at hi
          case h_1 => cases hi
          split at hi
          · cases hi
          · split at hi
            · cases hi; exact hb _ _ hb1
            · split at hi
              · cases hi
              · rename_i s2 hc2
                split at hi
                · cases hi
                · exact ((hb _ _ hb1).trans ((hc _ _ hc2).trans (Keeps.setH _ _ _ _))).trans (ih _ _ hi)

theorem clearOpt_keeps {nh h : Nat} {s : HSt} {o : Option HSt} {s' : HSt} (hge : nh ≤ h)
    (hk : ∀ s1, o = some s1 → Keeps nh s s1) (hc : clearOpt h o = some s') : Keeps nh s s' := by
  cases o with
  | none => simp [clearOpt] at hc
  | some s1 =>
    simp [clearOpt] at hc; subst hc
    exact (hk s1 rfl).trans (Keeps.clearH _ hge)

theorem hsem_keeps : ∀ (fuel : Nat) (op : Host) (nh na : Nat) (s s' : HSt),
    hsem fuel nh na op s = some s' → Keeps nh s s' := by
  intro fuel
  induction fuel with
  | zero => intro op nh na s s' h; unfold hsem at h; cases h
  | succ f ih =>
    intro op nh na s s' h
    cases op with
    | skip => unfold hsem at h; cases h; exact Keeps.refl _ _
    | seq a b =>
      unfold hsem at h
      split at h
      · rename_i s1 h1
        exact (ih a nh na s s1 h1).trans ((ih b _ _ s1 s' h).mono (by omega))
      · cases h
    | newArray len init => unfold hsem at h; cases h; exact Keeps.refl _ _
    | newReg v => unfold hsem at h; cases h; exact Keeps.setH _ _ _ _
    | qop g t =>
      unfold hsem at h
      cases t with
      | newFut =>
        simp only at h
        exact Keeps.of_hregs (by rw [writeCell_hregs h])
      | fut fu =>
        simp only [writeFut] at h
        split at h
        · exact Keeps.of_hregs (by rw [writeCell_hregs h])
        · cases h
      | newReg => simp at h; subst h; exact Keeps.setH _ _ _ _
    | addF fu o md =>
      unfold hsem at h
      split at h
      · cases h
      · split at h
        · split at h
          · exact Keeps.of_hregs (writeCell_hregs h)
          · cases h
        · cases h
    | addR hh o md =>
      unfold hsem at h
      split at h
      · split at h
        · cases h; exact Keeps.setH _ _ _ _
        · cases h
      · cases h
    | ifc cb c a b body =>
      unfold hsem at h
      split at h
      · cases h; exact Keeps.refl _ _
      · split at h
        · cases h
        · split at h
          · split at h
            · exact ih body nh na s s' h
            · cases h; exact Keeps.refl _ _
          · split at h
            · cases h
            · split at h
              · exact ih body nh na s s' h
              · cases h; exact Keeps.refl _ _
    | loop rg st sp d body =>
      unfold hsem at h
      split at h
      · cases h; exact Keeps.refl _ _
      · refine (Keeps.setH nh s nh st).trans (clearOpt_keeps (Nat.le_refl _) ?_ h)
        intro s1 h1
        exact iterLoop_keeps (fun a b hab => (ih body _ _ a b hab).mono (by omega)) _ _ _ h1
    | loopBody rg st sp d body =>
      unfold hsem at h
      split at h
      · cases h; exact Keeps.refl _ _
      · refine (Keeps.setH nh s nh st).trans (clearOpt_keeps (Nat.le_refl _) ?_ h)
        intro s1 h1
        exact iterLoop_keeps (fun a b hab => (ih body _ _ a b hab).mono (by omega)) _ _ _ h1
    | foreach arr wi body =>
      unfold hsem at h
      split at h
      · cases h; exact Keeps.refl _ _
      · split at h
        · cases h
        · refine (Keeps.setH nh s nh 0).trans (clearOpt_keeps (Nat.le_refl _) ?_ h)
          intro s1 h1
          exact iterLoop_keeps (fun a b hab => (ih body _ _ a b hab).mono (by omega)) _ _ _ h1
    | loopUntil n body ef ev cl =>
      unfold hsem at h
      split at h
      · cases h; exact Keeps.refl _ _
      · refine (Keeps.setH nh s nh 0).trans (clearOpt_keeps (Nat.le_refl _) ?_ h)
        intro s1 h1
        exact iterUntil_keeps (fun a b hab => (ih body _ _ a b hab).mono (by omega))
          (fun a b hab => (ih cl _ _ a b hab).mono (by omega)) _ _ _ h1
    | tryUntil n body =>
      unfold hsem at h
      exact ih body nh na s s' h
    | epr evs => unfold hsem at h; cases h

/-- a counted loop ends with its variable at the stop value -/
theorem iterLoop_reg {body : HSt → Option HSt} {h : Nat} {stop stp : Int} :
    ∀ (k : Nat) (hs hs' : HSt), iterLoop body h stop stp k hs = some hs' → hs'.hregs h = some stop := by
  intro k
  induction k with
  | zero => intro hs hs' hi; simp [iterLoop] at hi
  | succ k ih =>
    intro hs hs' hi
    simp only [iterLoop] at hi
    split at hi
    · cases hi
    · rename_i i hhi
      split at hi
      · rename_i hst; cases hi; rw [hhi, hst]
      · split at hi
        · cases hi
        · split at hi
          · cases hi
          · exact ih _ _ hi

theorem iterUntil_reg {body cl : HSt → Option HSt} {ef : Val} {ev : Int} {h : Nat} {N : Int} :
    ∀ (k : Nat) (hs hs' : HSt), iterUntil body cl ef ev h N k hs = some hs' → ∃ v, hs'.hregs h = some v := by
  intro k
  induction k with
  | zero => intro hs hs' hi; simp [iterUntil] at hi
  | succ k ih =>
    intro hs hs' hi
    simp only [iterUntil] at hi
    split at hi
    · cases hi
    · rename_i i hhi
      split at hi
      · cases hi; exact ⟨i, hhi⟩
      · split at hi
        · cases hi
        · rename_i hs1 hb
          split at hi
          case h_1 => cases hi
          rename_i w hw
          split at hi
          · cases hi
          · split at hi
            · cases hi; exact ⟨w, hw⟩
            · split at hi
              · cases hi
              · split at hi
                · cases hi
                · exact ih _ _ hi

end NQ.Sdk
