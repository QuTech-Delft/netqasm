/-
C03 text level: `_split_preamble_body`, `_parse_preamble` and the composition into
`parse_text_protosubroutine` on the canonical rendering of a proto program
(`# NETQASM v.w`, `# APPID n`, then one command per line).  Every line of that text is an `FLine`:
non-empty words of ONE class of word characters (`frontChar`), joined by blanks; `textSymsOk` says
that the separators of the format (blanks, newline, `{`, the comment start) are no word characters.
From that alone a line survives `strip` and `cleanLine`, contains no newline and is cut into its
words by `group_by_word`; per printer it is only shown which words it writes (`renderCmd_fline`,
`netqasm_words`, `appid_words`, `FLine.pre`).
-/
import NetqasmVerif.Lemmas.AsmFrontBody
namespace NQ.AsmFront
open NQ NQ.AsmText NQ.Text

variable {S : Syms}

theorem asm_splitOn_eq (sep : Char) (l : List Char) : AsmText.splitOn sep l = Text.splitOn sep l := by
  induction l with
  | nil => rfl
  | cons c cs ih =>
    simp only [AsmText.splitOn, Text.splitOn, ih]
    cases h : Text.splitOn sep cs with
    | nil => exact absurd h (splitOn_spec sep cs).1
    | cons w ws => by_cases e : c = sep <;> simp [e]

theorem takeBefore_notin {c : Char} {cs l : List Char} (h : c ∉ l) : takeBefore (c :: cs) l = l := by
  induction l with
  | nil => rfl
  | cons d rest ih =>
    simp only [List.mem_cons, not_or] at h
    have : (c == d) = false := by simpa using h.1
    simp [takeBefore, List.isPrefixOf, this, ih h.2]

/-! ### Lines of word characters -/

/-- the characters of the words the canonical text consists of -/
def frontChar (S : Syms) (c : Char) : Bool :=
  srcChar S c || c == S.argOpen || c == ')' || c == ',' || c == S.branchEnd || c == S.preambleStart
    || c == '.'

/-- what the whole-text theorem needs from the symbols (decidable; generated obligation): the
blanks `strip` removes, the newline, `{` (the bracket of `group_by_word` on preamble lines) and the
first character of the comment marker are no word characters; the preamble marker is no letter -/
def textSymsOk (S : Syms) : Bool :=
  [' ', '\t', '\n', '\r', '\x0b', '\x0c', '{'].all (fun d => !frontChar S d)
    && (match S.comment.toList with | c :: _ => !frontChar S c && c != ' ' | [] => false)
    && !isAlpha S.preambleStart

theorem textSyms_fields (hT : textSymsOk S = true) :
    (∀ d ∈ [' ', '\t', '\n', '\r', '\x0b', '\x0c', '{'], frontChar S d = false) ∧
      (∃ c cs, S.comment.toList = c :: cs ∧ frontChar S c = false ∧ c ≠ ' ') ∧
      isAlpha S.preambleStart = false := by
  simp only [textSymsOk, Bool.and_eq_true, List.all_eq_true, Bool.not_eq_true'] at hT
  refine ⟨hT.1.1, ?_, hT.2⟩
  cases hc : S.comment.toList with
  | nil => rw [hc] at hT; cases hT.1.2
  | cons c cs => rw [hc] at hT; exact ⟨c, cs, rfl, by simpa using hT.1.2⟩

theorem frontChar_not_asmSpace (hT : textSymsOk S = true) {c : Char} (h : frontChar S c = true) :
    AsmText.isSpace c = false :=
  not_asmSpace_of_class (p := frontChar S)
    (fun d hd => (textSyms_fields hT).1 d (List.mem_append_left ['{'] hd)) h

/-- non-empty words of word characters -/
def FWords (S : Syms) (ws : List (List Char)) : Prop :=
  ws ≠ [] ∧ ∀ w ∈ ws, w ≠ [] ∧ ∀ c ∈ w, frontChar S c = true

/-- a line of the canonical text: such words joined by single blanks -/
def FLine (S : Syms) (L : List Char) : Prop := ∃ ws, FWords S ws ∧ L = joinWith ' ' ws

theorem FWords.line {ws : List (List Char)} (h : FWords S ws) : FLine S (joinWith ' ' ws) := ⟨ws, h, rfl⟩

theorem FLine.strip (hT : textSymsOk S = true) {L : List Char} (h : FLine S L) : AsmText.strip L = L := by
  obtain ⟨ws, ⟨hne, hw⟩, rfl⟩ := h
  exact trim_joinWith hne fun w h => ⟨(hw w h).1, fun c hc => frontChar_not_asmSpace hT ((hw w h).2 c hc)⟩

theorem FLine.notin {L : List Char} (h : FLine S L) {x : Char} (hx : x ≠ ' ')
    (hf : frontChar S x = false) : x ∉ L := by
  obtain ⟨ws, ⟨_, hw⟩, rfl⟩ := h
  exact notin_joinWith hx fun w h => notin_of_class (hw w h).2 hf

theorem FLine.no_nl (hT : textSymsOk S = true) {L : List Char} (h : FLine S L) : '\n' ∉ L :=
  h.notin (by decide) ((textSyms_fields hT).1 _ (by simp))

/-- `_split_preamble_body` keeps such a line as it is -/
theorem FLine.clean (hT : textSymsOk S = true) {L : List Char} (h : FLine S L) :
    cleanLine S.comment.toList L = L := by
  obtain ⟨-, ⟨c, cs, hc, hcm, hcs⟩, -⟩ := textSyms_fields hT
  simp only [cleanLine, h.strip hT, hc, takeBefore_notin (h.notin hcs hcm)]

theorem FLine.isEmpty {L : List Char} (h : FLine S L) : L.isEmpty = false := by
  obtain ⟨ws, ⟨hne, hw⟩, rfl⟩ := h
  match ws, hne, hw with
  | (c :: cs) :: ws, _, _ => cases ws <;> rfl
  | [] :: ws, _, hw => exact absurd rfl (hw [] (by simp)).1

/-- a preamble line `# content` -/
def preLine (S : Syms) (content : List Char) : List Char := S.preambleStart :: ' ' :: content

theorem FLine.pre {C : List Char} (h : FLine S C) : FLine S (preLine S C) := by
  obtain ⟨ws, ⟨hne, hw⟩, rfl⟩ := h
  refine ⟨[S.preambleStart] :: ws, ⟨by simp, List.forall_mem_cons.2 ⟨⟨by simp, ?_⟩, hw⟩⟩, ?_⟩
  · simp [frontChar]
  · cases ws with
    | nil => exact absurd rfl hne
    | cons w ws => rfl

/-- `group_by_word` with the brackets `{}` of the preamble cuts such a line into its words -/
theorem FWords.group (hT : textSymsOk S = true) {ws : List (List Char)} (h : FWords S ws) :
    groupByWord '{' '}' (joinWith ' ' ws) = some ws := by
  have hsep := (textSyms_fields hT).1
  exact groupByWord_words '{' '}' ws h.1
    (fun w hw => ⟨notin_of_class (h.2 w hw).2 (hsep _ (by simp)),
      Or.inl (notin_of_class (h.2 w hw).2 (hsep _ (by simp)))⟩) (h.line.strip hT)

/-! ### Which words the printers write -/

theorem src_front {c : Char} (h : srcChar S c = true) : frontChar S c = true := by simp [frontChar, h]

theorem num_front {c : Char} (h : numChar c = true) : frontChar S c = true :=
  src_front (by simp [srcChar, wordChar, numChar_opChar (S := S) h])

theorem alpha_front {c : Char} (h : isAlpha c = true) : frontChar S c = true :=
  src_front (by simp [srcChar, h])

theorem varName_front {l : List Char} (h : isVarName l = true) : ∀ c ∈ l, frontChar S c = true := by
  intro c hc
  have := isVarName_chars h c hc
  simp only [Bool.or_eq_true, decide_eq_true_eq] at this
  rcases this with (h | h) | h
  · exact alpha_front h
  · exact num_front (by simp [numChar, h])
  · exact src_front (by simp [srcChar, h])

theorem mn_front {c : Char} (h : mnCharOk c = true) : frontChar S c = true := by
  simp only [mnCharOk, Bool.or_eq_true, decide_eq_true_eq] at h
  rcases h with (h | h) | h
  · exact alpha_front (by simp [isAlpha, h])
  · exact num_front (by simp [numChar, h])
  · exact src_front (by simp [srcChar, h])

theorem renderCmd_fline (hF : FrontSyms S) (generic : List String) {c : Asm.PCmd}
    (hc : CmdOk S generic c) : FLine S (renderCmd S c) := by
  cases c with
  | label l =>
    refine ⟨[l.toList ++ [S.branchEnd]], ⟨by simp, List.forall_mem_singleton.2 ⟨by simp, ?_⟩⟩, rfl⟩
    exact List.forall_mem_append.2 ⟨varName_front hc, by simp [frontChar]⟩
  | instr mn args ops =>
    obtain ⟨hh, ho⟩ := hc
    refine ⟨_, ⟨by simp, List.forall_mem_cons.2 ⟨⟨?_, ?_⟩, fun w h => ?_⟩⟩, srcLine_join _ ops⟩
    · exact fun e => hh.ne (List.append_eq_nil_iff.1 e).1
    · refine List.forall_mem_append.2 ⟨fun c h => mn_front (hh.chars c h), ?_⟩
      cases args with
      | nil => intro c h; cases h
      | cons a as =>
        intro c h
        simp only [showArgs, List.isEmpty_cons, Bool.false_eq_true, if_false, List.cons_append,
          List.mem_cons, List.mem_append, List.not_mem_nil, or_false] at h
        rcases h with rfl | h | rfl
        · simp [frontChar]
        · exact (argsBody_chars _ c h).elim num_front fun e => by simp [frontChar, e]
        · simp [frontChar]
    · obtain ⟨o, ho', rfl⟩ := List.mem_map.1 h
      exact ⟨(showPOp_word hF.toSrcSyms o (ho o ho')).ne_nil,
        fun c h => src_front (showPOp_chars o (ho o ho') c h)⟩

theorem renderCmd_head (generic : List String) {c : Asm.PCmd} (hc : CmdOk S generic c) :
    ∃ x xs, renderCmd S c = x :: xs ∧ (isAlpha x = true ∨ mnCharOk x = true) := by
  cases c with
  | label l =>
    have hv : isVarName l.toList = true := hc
    cases hl : l.toList with
    | nil => simp [hl, isVarName] at hv
    | cons y ys =>
      rw [hl] at hv
      simp only [isVarName, Bool.and_eq_true] at hv
      exact ⟨y, ys ++ [S.branchEnd], by simp [renderCmd, hl], Or.inl hv.1⟩
  | instr mn args ops =>
    obtain ⟨hh, _⟩ := hc
    cases hm : mn.toList with
    | nil => exact absurd hm hh.ne
    | cons y ys =>
      exact ⟨y, ys ++ showArgs S.argOpen ')' args ++ showSrcOps S ops, by simp [renderCmd, hm],
        Or.inr (hh.chars y (by rw [hm]; exact List.mem_cons_self))⟩

def verStr (v w : Nat) : List Char := showInt v ++ '.' :: showInt w
def contentNetqasm (v w : Nat) : List Char := kwNetqasm ++ ' ' :: verStr v w
def contentAppid (n : Nat) : List Char := kwAppid ++ ' ' :: showInt n

/-- `# NETQASM v.w`, `# APPID n`, then one command per line -/
def canonLines (S : Syms) (v w n : Nat) (P : List Asm.PCmd) : List (List Char) :=
  [preLine S (contentNetqasm v w), preLine S (contentAppid n)] ++ P.map (renderCmd S)

def canonText (S : Syms) (v w n : Nat) (P : List Asm.PCmd) : List Char := joinWith '\n' (canonLines S v w n P)

theorem showInt_front (v : Int) : showInt v ≠ [] ∧ ∀ c ∈ showInt v, frontChar S c = true :=
  ⟨showInt_ne_nil v, fun c h => num_front (showInt_chars v c h)⟩

theorem verStr_front (v w : Nat) : verStr v w ≠ [] ∧ ∀ c ∈ verStr v w, frontChar S c = true := by
  refine ⟨by simp [verStr, showInt_ne_nil], ?_⟩
  simp only [verStr, List.forall_mem_append, List.forall_mem_cons]
  exact ⟨(showInt_front _).2, by simp [frontChar], (showInt_front _).2⟩

theorem kw_front {kw : List Char} (hne : kw ≠ []) (hk : ∀ c ∈ kw, isAlpha c = true) :
    kw ≠ [] ∧ ∀ c ∈ kw, frontChar S c = true := ⟨hne, fun c h => alpha_front (hk c h)⟩

theorem netqasm_words (v w : Nat) : FWords S [kwNetqasm, verStr v w] :=
  ⟨by simp, by
    simp only [List.forall_mem_cons, List.not_mem_nil, false_imp_iff, implies_true, and_true]
    exact ⟨kw_front (by decide) (by decide), verStr_front v w⟩⟩

theorem appid_words (n : Nat) : FWords S [kwAppid, showInt n] :=
  ⟨by simp, by
    simp only [List.forall_mem_cons, List.not_mem_nil, false_imp_iff, implies_true, and_true]
    exact ⟨kw_front (by decide) (by decide), showInt_front _⟩⟩

/-! ### `_split_preamble_body` -/

theorem splitLoop_body (hT : textSymsOk S = true) : ∀ (ls : List (List Char)),
    (∀ L ∈ ls, FLine S L ∧ L.head? ≠ some S.preambleStart) →
    ∀ b p acc, ∃ b', splitLoop S.preambleStart S.comment.toList ls (b, p, acc) = .ok (b', p, ls.reverse ++ acc)
  | [], _, b, p, acc => ⟨b, by simp [splitLoop]⟩
  | L :: ls, h, b, p, acc => by
    obtain ⟨hl, hhd⟩ := h L (by simp)
    obtain ⟨b', hb'⟩ := splitLoop_body hT ls (fun x hx => h x (List.mem_cons_of_mem _ hx)) false p (L :: acc)
    refine ⟨b', ?_⟩
    simp only [splitLoop, splitStep, hl.clean hT, hl.isEmpty, Bool.false_eq_true, if_false, hhd, hb',
      List.reverse_cons, List.append_assoc, List.singleton_append]

theorem strip_space_cons (C : List Char) : AsmText.strip (' ' :: C) = AsmText.strip C := by
  simp [AsmText.strip, AsmText.isSpace]

theorem splitLoop_pre (hT : textSymsOk S = true) : ∀ (cs : List (List Char)),
    (∀ C ∈ cs, FLine S C) → ∀ (rest : List (List Char)) (p : List (List Char)),
    splitLoop S.preambleStart S.comment.toList (cs.map (preLine S) ++ rest) (true, p, []) =
      splitLoop S.preambleStart S.comment.toList rest (true, cs.reverse ++ p, [])
  | [], _, rest, p => by simp
  | C :: cs, h, rest, p => by
    have hC := h C (by simp)
    have hdw : (preLine S C).dropWhile (fun x => decide (x = S.preambleStart)) = ' ' :: C := by
      have : (' ' : Char) ≠ S.preambleStart := fun e => by
        have := (textSyms_fields hT).1 ' ' (by simp); rw [e] at this; simp [frontChar] at this
      simp [preLine, this]
    have ih := splitLoop_pre hT cs (fun x hx => h x (List.mem_cons_of_mem _ hx)) rest (C :: p)
    have hne : (preLine S C).isEmpty = false := rfl
    have hhd : (preLine S C).head? = some S.preambleStart := rfl
    simp only [List.map_cons, List.cons_append, splitLoop, splitStep, hC.pre.clean hT, hne,
      Bool.false_eq_true, if_false, hhd, if_true, hdw, strip_space_cons, hC.strip hT, ih,
      List.reverse_cons, List.append_assoc, List.nil_append]

theorem renderCmd_no_nl (hF : FrontSyms S) (hT : textSymsOk S = true) (generic : List String)
    {P : List Asm.PCmd} (hP : ∀ c ∈ P, CmdOk S generic c) : ∀ l ∈ P.map (renderCmd S), '\n' ∉ l := by
  intro l hl
  obtain ⟨c, hc, rfl⟩ := List.mem_map.1 hl
  exact (renderCmd_fline hF generic (hP c hc)).no_nl hT

theorem canonLines_no_nl (hF : FrontSyms S) (hT : textSymsOk S = true) (generic : List String)
    (v w n : Nat) {P : List Asm.PCmd} (hP : ∀ c ∈ P, CmdOk S generic c) :
    ∀ L ∈ canonLines S v w n P, '\n' ∉ L := by
  intro L hL
  simp only [canonLines, List.cons_append, List.nil_append, List.mem_cons] at hL
  rcases hL with rfl | rfl | hL
  · exact (netqasm_words v w).line.pre.no_nl hT
  · exact (appid_words n).line.pre.no_nl hT
  · exact renderCmd_no_nl hF hT generic hP L hL

theorem split_canon (hF : FrontSyms S) (hT : textSymsOk S = true) (generic : List String) (v w n : Nat)
    (P : List Asm.PCmd) (hP : ∀ c ∈ P, CmdOk S generic c) :
    splitPreambleBody S.preambleStart S.comment.toList (canonText S v w n P) =
      .ok ([contentNetqasm v w, contentAppid n], P.map (renderCmd S)) := by
  have hpa := (textSyms_fields hT).2.2
  have hbody : ∀ L ∈ P.map (renderCmd S), FLine S L ∧ L.head? ≠ some S.preambleStart := by
    intro L hL
    obtain ⟨c, hc, rfl⟩ := List.mem_map.1 hL
    refine ⟨renderCmd_fline hF generic (hP c hc), ?_⟩
    obtain ⟨x, xs, hx, hfirst⟩ := renderCmd_head generic (hP c hc)
    rw [hx]
    -- the preamble marker is neither a letter nor a mnemonic character
    rintro ⟨⟩
    rcases hfirst with h | h
    · rw [hpa] at h; cases h
    · rw [hF.sok.preamble] at h; cases h
  unfold splitPreambleBody canonText
  rw [splitOn_joinWith '\n' _ (by simp [canonLines]) (canonLines_no_nl hF hT generic v w n hP)]
  have hpre := splitLoop_pre hT [contentNetqasm v w, contentAppid n]
    (by intro C hC; simp only [List.mem_cons, List.mem_nil_iff, or_false] at hC; rcases hC with rfl | rfl
        · exact (netqasm_words v w).line
        · exact (appid_words n).line) (P.map (renderCmd S)) []
  simp only [List.map_cons, List.map_nil] at hpre
  simp only [canonLines]
  rw [hpre]
  obtain ⟨b', hb'⟩ := splitLoop_body hT _ hbody true ([contentNetqasm v w, contentAppid n].reverse ++ []) []
  rw [hb']
  simp

theorem parsePreamble_canon (hT : textSymsOk S = true) (v w n : Nat) :
    parsePreamble [contentNetqasm v w, contentAppid n] =
      .ok [(kwNetqasm, [[verStr v w]]), (kwAppid, [[showInt (n : Int)]])] := by
  have g1 : groupByWord '{' '}' (contentNetqasm v w) = some [kwNetqasm, verStr v w] :=
    (netqasm_words (S := S) v w).group hT
  have g2 : groupByWord '{' '}' (contentAppid n) = some [kwAppid, showInt (n : Int)] :=
    (appid_words (S := S) n).group hT
  have hne : kwNetqasm ≠ kwAppid := by decide
  have hne' : kwAppid ≠ kwNetqasm := by decide
  simp only [parsePreamble, preambleDict, g1, g2, addEntry, hne, if_false, checkDict, if_true, hne', checkSingle,
    List.length_cons, List.length_nil]

theorem pyInt_showInt (x : Int) : pyInt (showInt x) = some x := by
  unfold pyInt
  rw [asm_strip_showInt]
  split
  · rename_i r h
    have := showInt_chars x '+' (by rw [h]; exact List.mem_cons_self)
    simp [numChar, isDigit] at this
  · exact parseConst_showInt x

theorem dot_notin_showInt (x : Int) : '.' ∉ showInt x := notin_of_class (showInt_chars x) (by decide)

theorem parseVersion_canon (hT : textSymsOk S = true) (v w : Nat) :
    parseVersion (verStr v w) = .ok ((v : Int), (w : Int)) := by
  have hs : AsmText.strip (verStr v w) = verStr v w :=
    FLine.strip hT ⟨[verStr v w], ⟨by simp, List.forall_mem_singleton.2 (verStr_front (S := S) v w)⟩, rfl⟩
  unfold parseVersion
  rw [hs]
  simp only [verStr, splitOn_append (dot_notin_showInt _), splitOn_notin (dot_notin_showInt _), pyInt_showInt]

theorem applyMacros_nil (lines : List (List Char)) (h : ∀ l ∈ lines, '\n' ∉ l) : applyMacros lines [] = lines := by
  cases lines with
  | nil => rfl
  | cons l ls =>
    simp only [applyMacros, List.isEmpty_cons, Bool.false_eq_true, if_false, substAll, List.foldl_nil, asm_splitOn_eq]
    exact splitOn_joinWith '\n' (l :: ls) (by simp) h

/-- The canonical rendering (instantiated as `C03.parse_render_program_canon`).  For every proto
program `P` whose commands the front end can read (`CmdOk`: labels, instructions with bracketed arguments, every source
operand form) the text `# NETQASM v.w` / `# APPID n` / one command per line is parsed by the model
of `parse_text_protosubroutine` into exactly the version, the app id and `P`. -/
theorem parseTextProto_canon (hF : FrontSyms S) (hT : textSymsOk S = true) (generic : List String) (v w n : Nat)
    (P : List Asm.PCmd) (hP : ∀ c ∈ P, CmdOk S generic c) :
    parseTextProto S generic (canonText S v w n P) = .ok ⟨some ((v : Int), (w : Int)), some (n : Int), P⟩ := by
  simp only [parseTextProto, split_canon hF hT generic v w n P hP, parsePreamble_canon hT v w n]
  simp [lookupKey, kwNetqasm, kwAppid, kwDefine, applyMacros_nil _ (renderCmd_no_nl hF hT generic hP),
    parseBody_render hF generic P hP,
    parseVersion_canon hT, pyInt_showInt, Except.map]

/-- `ls'` is `ls` with lines interleaved that `_split_preamble_body` ignores (blank lines,
comment-only lines: whatever `cleanLine` empties) -/
inductive Padded (cmt : List Char) : List (List Char) → List (List Char) → Prop
  | nil : Padded cmt [] []
  | keep {x : List Char} {a b : List (List Char)} : Padded cmt a b → Padded cmt (x :: a) (x :: b)
  | pad {x : List Char} {a b : List (List Char)} : cleanLine cmt x = [] → Padded cmt a b → Padded cmt a (x :: b)

theorem splitLoop_padded {pre : Char} {cmt : List Char} {ls ls' : List (List Char)} (h : Padded cmt ls ls') :
    ∀ st, splitLoop pre cmt ls' st = splitLoop pre cmt ls st := by
  induction h with
  | nil => intro st; rfl
  | @keep x a b _ ih =>
    intro st
    simp only [splitLoop]
    cases splitStep pre cmt st x with
    | error e => rfl
    | ok st' => exact ih st'
  | @pad x a b hx _ ih =>
    intro st
    simp only [splitLoop, splitStep, hx, List.isEmpty_nil, if_true]
    exact ih st

theorem cleanLine_blank (cmt : List Char) (x : List Char) (h : ∀ c ∈ x, AsmText.isSpace c = true) :
    cleanLine cmt x = [] := by
  have : x.dropWhile AsmText.isSpace = [] := by
    induction x with
    | nil => rfl
    | cons c cs ih => simp [h c (by simp), ih (fun d hd => h d (by simp [hd]))]
  simp [cleanLine, AsmText.strip, this, takeBefore]

theorem cleanLine_comment (cmt rest : List Char) (hc : ∃ c cs, cmt = c :: cs ∧ AsmText.isSpace c = false)
    (hr : ∃ l d, cmt ++ rest = l ++ [d] ∧ AsmText.isSpace d = false) : cleanLine cmt (cmt ++ rest) = [] := by
  obtain ⟨c, cs, hcm, hcs⟩ := hc
  obtain ⟨l, d, hl, hd⟩ := hr
  have hs : AsmText.strip (cmt ++ rest) = cmt ++ rest :=
    asm_strip_of_ends hcs hd ⟨cs ++ rest, by rw [hcm]; rfl⟩ ⟨l, hl⟩
  simp only [cleanLine, hs]
  rw [hcm]
  have hp : (c :: cs).isPrefixOf (c :: (cs ++ rest)) = true :=
    List.isPrefixOf_iff_prefix.2 ⟨rest, by simp⟩
  simp only [List.cons_append, takeBefore, hp, if_true]

/-- the same with blank / comment-only lines interleaved anywhere (instantiated as
`C03.parse_render_program`) -/
theorem parseTextProto_padded (hF : FrontSyms S) (hT : textSymsOk S = true) (generic : List String) (v w n : Nat)
    (P : List Asm.PCmd) (hP : ∀ c ∈ P, CmdOk S generic c) (ls' : List (List Char))
    (hpad : Padded S.comment.toList (canonLines S v w n P) ls') (hnl : ∀ l ∈ ls', '\n' ∉ l) :
    parseTextProto S generic (joinWith '\n' ls') = .ok ⟨some ((v : Int), (w : Int)), some (n : Int), P⟩ := by
  have hne : ls' ≠ [] := by
    intro e; subst e
    cases hpad
  have h0 := parseTextProto_canon hF hT generic v w n P hP
  have hsplit : splitPreambleBody S.preambleStart S.comment.toList (joinWith '\n' ls') =
      splitPreambleBody S.preambleStart S.comment.toList (canonText S v w n P) := by
    have hcanon : Text.splitOn '\n' (canonText S v w n P) = canonLines S v w n P :=
      splitOn_joinWith '\n' _ (by simp [canonLines]) (canonLines_no_nl hF hT generic v w n hP)
    unfold splitPreambleBody
    rw [splitOn_joinWith '\n' ls' hne hnl, hcanon, splitLoop_padded hpad]
  unfold parseTextProto at h0 ⊢
  rw [hsplit]
  exact h0

/-- Macros, body level (instantiated as `C03.parse_render_with_macros`).  If the sequential
substitution of `_apply_macros` is the token-wise one on these body lines (`C03.macros_tokenwise` gives the hypotheses under which it
is) and the token-wise reading of the body is the rendering of `P`, then `_create_subroutine` reads
`P` from the substituted body. -/
theorem parseBody_macros (hF : FrontSyms S) (hT : textSymsOk S = true) (generic : List String)
    (P : List Asm.PCmd) (hP : ∀ c ∈ P, CmdOk S generic c) (hne : P ≠ [])
    (B : List (List Char)) (hB : B ≠ []) (macros : List (List Char × List Char))
    (hseq : substAll reSub macros (joinWith '\n' B) = substTokenwise macros (joinWith '\n' B))
    (htok : substTokenwise macros (joinWith '\n' B) = joinWith '\n' (P.map (renderCmd S))) :
    parseBody S generic (applyMacros B macros) = .ok P := by
  have hBe : B.isEmpty = false := by cases B with | nil => exact absurd rfl hB | cons _ _ => rfl
  simp only [applyMacros, hBe, Bool.false_eq_true, if_false, hseq, htok, asm_splitOn_eq]
  rw [splitOn_joinWith '\n' _ (by simpa using hne) (renderCmd_no_nl hF hT generic hP)]
  exact parseBody_render hF generic P hP

end NQ.AsmFront
