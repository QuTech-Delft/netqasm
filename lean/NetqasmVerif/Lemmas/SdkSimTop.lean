/-
Compiler correctness of the SDK builder model (C05), part 5: top-level operations (including the
creation of persistent register handles) and sequences of operations between two flushes.
-/
import NetqasmVerif.Lemmas.SdkSimEmit
namespace NQ.Sdk

/-- what may stand at the top level of a host program: any `BodyOK` operation, `new_register()`,
`measure(store_array=False)` -/
def TopOK (op : Host) : Prop := BodyOK op ∨ (∃ v, op = .newReg v) ∨ (∃ g, op = .qop g .newReg)

theorem mHandlesOf_bodyOK : ∀ (op : Host) (nh : Nat), BodyOK op → mHandlesOf nh op = [] := by
  intro op
  induction op with
  | seq a b iha ihb => intro nh h; simp [mHandlesOf, iha nh h.1, ihb _ h.2]
  | newReg _ => intro _ h; exact h.elim
  | qop _ t =>
    intro _ h
    cases t with
    | newReg => exact absurd rfl h
    | _ => rfl
  | ifc _ _ _ _ body ih => intro nh h; exact ih nh h
  | loop _ _ _ _ body ih => intro nh h; exact ih _ h
  | loopBody _ _ _ _ body ih => intro nh h; exact ih _ h
  | foreach _ _ body ih => intro nh h; exact ih _ h
  | loopUntil _ body _ _ cl ihb ihc => intro nh h; simp [mHandlesOf, ihb _ h.1, ihc _ h.2]
  | tryUntil _ body ih => intro nh h; exact ih nh h
  | epr _ => intro _ h; exact h.elim
  | _ => intro _ _; rfl

theorem Rel.weakenMH {H : List (Reg × Bool)} {L MH MH' : List Nat} {act mu : List Bool} {hs : HSt} {ts : St}
    (h : Rel H L MH act mu hs ts) (hm : ∀ x, x ∈ MH → x ∈ MH') : Rel H L MH' act mu hs ts :=
  ⟨h.arrs, h.trace, h.outs, h.regs, h.inj, h.lens, fun hh v r b hv hH hb => hm _ (h.mh hh v r b hv hH hb)⟩

theorem sub_set_true (a : List Bool) (k : Nat) : Sub a (a.set k true) := Sub.set a k

/-- one top-level operation: `emit_sim`, or one of the two statements that create a persistent register
handle (whose handle then also enters `MH` when it sits in an M register) -/
theorem top_sim (op : Host) (fuel : Nat) (m m' : Mem) (cs : List PCmd) (htop : TopOK op)
    (h : emit m op = .ok (m', cs))
    (H : List (Reg × Bool)) (L MH : List Nat) (p : List PCmd) (n : Nat) (hs hs' : HSt) (ts : St)
    (hext : Ext m'.handles H) (hextL : ExtL m'.arrLens L) (hpl : Placed p n cs)
    (hrel : Rel H L MH m.active m.measUsed hs ts)
    (hh : hsem fuel m.handles.length m.arrLens.length op hs = some hs') :
    ∃ ts', Runs p n cs.length ts ts' ∧
      Rel H L (MH ++ mHandlesOf m.handles.length op) m'.active m'.measUsed hs' ts' := by
  rcases htop with hb | ⟨v, rfl⟩ | ⟨g, rfl⟩
  · obtain ⟨ts', hr, hrel'⟩ := emit_sim op h hb fuel H L MH p n hs hs' ts hext hextL hpl hrel hh
    refine ⟨ts', hr, ?_⟩
    rw [emit_active op _ _ _ hb.completed h, ((emit_stat _ _ _ _ h).body hb).1, mHandlesOf_bodyOK op _ hb]
    simpa using hrel'
  · -- new_register
    obtain ⟨f, rfl⟩ := hsem_fuel hh
    obtain ⟨m1, i, h1, rfl, rfl⟩ := emit_newReg_eq_ok h
    cases hh
    refine ⟨ts.setReg (R i) v, runs_instr hpl.head rfl, ?_⟩
    show Rel H L (MH ++ []) m1.active m1.measUsed _ _
    rw [List.append_nil, (takeReg_spec h1).2.1, (takeReg_same h1).meas]
    exact (hrel.bindTaken (rg := none) (b := true) (t := []) h1 (List.append_nil _).symm hext v).2
  · -- measure(store_array=False): the outcome stays in its M register, which becomes the handle
    obtain ⟨f, rfl⟩ := hsem_fuel hh
    rcases emitQop_eq_ok (show emitQop m g .newReg = _ from h) with ⟨_, _, _, _, _, _, ⟨e, _⟩ | ⟨e, _⟩, _⟩ |
      ⟨m1, k, _, h1, rfl, rfl⟩
    · cases e
    · cases e
    cases hh
    obtain ⟨hk, rfl⟩ := firstUnusedMeas_spec h1
    have hMk : ¬ Prot m.active m.measUsed (M k) := not_prot_M hk
    obtain ⟨tsH, hrun, hrelH, hreg⟩ := qop_head_sim (g := g) hMk hrel hpl
    refine ⟨tsH, hrun, ?_⟩
    rw [← St.setReg_same hreg]
    exact hrelH.bind (hext _ _ List.getElem?_concat_length) hMk
      (Or.inr ⟨rfl, getD_set_self (getD_true_false_lt hk) _ _⟩)
      (fun x hx => hx.elim Or.inl (fun hx => Or.inr ⟨hx.1, active_mono_set hx.2⟩)) (hs.outcomes.headD 0)
      (fun x hx => List.mem_append_left _ hx) (fun _ => List.mem_append_right _ (List.mem_singleton.mpr rfl))

/-- the operations between two flushes, compiled one after the other -/
def emitOps (m : Mem) : List Host → Except BuildError (Mem × List PCmd)
  | [] => .ok (m, [])
  | h :: hs =>
    match emit m h with
    | .error e => .error e
    | .ok (m1, cs) =>
      match emitOps m1 hs with
      | .error e => .error e
      | .ok (m2, cs2) => .ok (m2, cs ++ cs2)

/-- the operations of a segment as one operation: `emitOps` is `emit` of it, so what is known of `emit` holds of
`emitOps` (`emitOps_tables`, and `emitOps_lens`, `emitOps_fresh`, `emitOps_ok` further on) -/
def seqOf : List Host → Host
  | [] => .skip
  | h :: hs => .seq h (seqOf hs)

theorem emitOps_eq : ∀ (ops : List Host) (m : Mem), emitOps m ops = emit m (seqOf ops)
  | [], _ => rfl
  | op :: ops, m => by simp only [emitOps, seqOf, emit, emitOps_eq ops]; rfl

theorem declsOf_seqOf : ∀ (ops : List Host) (n : Nat), declsOf n (seqOf ops) = segDecls n ops
  | [], _ => rfl
  | op :: ops, n => by simp only [seqOf, declsOf, segDecls, declsOf_seqOf ops]

theorem emitOps_tables (ops : List Host) (m m' : Mem) (cs : List PCmd) (h : emitOps m ops = .ok (m', cs)) :
    (∃ t, m'.handles = m.handles ++ t) ∧ (∃ u, m'.arrLens = m.arrLens ++ u) ∧
    m'.arraysToReturn = m.arraysToReturn ++ segDecls m.arrLens.length ops :=
  have st := emit_stat _ _ _ _ (emitOps_eq ops m ▸ h)
  ⟨st.handles.imp fun _ h => h.1, st.lens.imp fun _ h => h.1, declsOf_seqOf ops _ ▸ st.aret⟩

theorem ops_sim : ∀ (ops : List Host) (fuel : Nat) (m m' : Mem) (cs : List PCmd),
    (∀ op ∈ ops, TopOK op) → emitOps m ops = .ok (m', cs) →
    ∀ (H : List (Reg × Bool)) (L MH : List Nat) (p : List PCmd) (n : Nat) (hs hs' : HSt) (ts : St) (nh' na' : Nat),
    Ext m'.handles H → ExtL m'.arrLens L → Placed p n cs →
    Rel H L MH m.active m.measUsed hs ts →
    runOps fuel m.handles.length m.arrLens.length ops hs = some (hs', nh', na') →
    ∃ ts', Runs p n cs.length ts ts' ∧
      Rel H L (MH ++ segMHandles m.handles.length ops) m'.active m'.measUsed hs' ts' ∧
      nh' = m'.handles.length ∧ na' = m'.arrLens.length := by
  intro ops
  induction ops with
  | nil =>
    intro fuel m m' cs _ h H L MH p n hs hs' ts nh' na' _ _ _ hrel hh
    simp [emitOps] at h; obtain ⟨rfl, rfl⟩ := h
    simp [runOps] at hh; obtain ⟨rfl, rfl, rfl⟩ := hh
    exact ⟨ts, Runs.refl _ _ _, by simpa [segMHandles] using hrel, rfl, rfl⟩
  | cons op ops ih =>
    intro fuel m m' cs htop h H L MH p n hs hs' ts nh' na' hext hextL hpl hrel hh
    dsimp only [emitOps] at h
    split at h
    · cases h
    · rename_i m1 c1 h1
      split at h
      · cases h
      · rename_i m2 c2 h2
        cases h
        dsimp only [runOps] at hh
        split at hh
        · rename_i hs1 hh1
          have st := emit_stat _ _ _ _ h1
          obtain ⟨t, ht, htl⟩ := st.handles
          obtain ⟨u, hu, hul⟩ := st.lens
          obtain ⟨⟨t2, ht2⟩, ⟨u2, hu2⟩, _⟩ := emitOps_tables ops m1 _ c2 h2
          obtain ⟨ts1, hr1, hrel1⟩ := top_sim op fuel m m1 c1 (htop op (by simp)) h1 H L MH p n hs hs1 ts
            (by rw [ht2] at hext; exact hext.of_append) (by rw [hu2] at hextL; exact hextL.of_append)
            hpl.left hrel hh1
          have e1 : m.handles.length + hCount op = m1.handles.length := by rw [ht]; simp [htl]
          have e2 : m.arrLens.length + aCount op = m1.arrLens.length := by rw [hu]; simp [hul]
          rw [e1, e2] at hh
          obtain ⟨ts2, hr2, hrel2, en, ea⟩ := ih fuel m1 _ c2 (fun o ho => htop o (by simp [ho])) h2
            H L _ p (n + c1.length) hs1 hs' ts1 nh' na' hext hextL hpl.right hrel1 hh
          refine ⟨ts2, runs_cast (runs_seq hr1 hr2) (by simp), ?_, en, ea⟩
          simpa [segMHandles, e1, List.append_assoc] using hrel2
        · cases hh


end NQ.Sdk
