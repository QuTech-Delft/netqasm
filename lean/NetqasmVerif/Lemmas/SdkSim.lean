/-
Compiler correctness of the SDK builder model (C05), part 1: placement of code in a subroutine,
register frames, the simulation relation between `HostSem` states and controller states.
-/
import NetqasmVerif.Lemmas.SdkSem
import NetqasmVerif.Lemmas.SdkHostLemmas
import NetqasmVerif.Lemmas.SdkLabels
import NetqasmVerif.Lemmas.SdkWrites
import NetqasmVerif.Lemmas.SdkSpec
namespace NQ.Sdk

/-- `cs` sits at offset `n` of the subroutine `p` and its label commands resolve to themselves -/
structure Placed (p : List PCmd) (n : Nat) (cs : List PCmd) : Prop where
  code : ∀ k, k < cs.length → p[n + k]? = cs[k]?
  labs : ∀ k l, cs[k]? = some (.label l) → findLabel p l = some (n + k)

theorem Placed.left {p : List PCmd} {n : Nat} {A B : List PCmd} (h : Placed p n (A ++ B)) : Placed p n A :=
  ⟨fun k hk => by rw [h.code k (by rw [List.length_append]; omega), List.getElem?_append_left hk],
   fun k l hl => h.labs k l (by
     rw [List.getElem?_append_left (List.getElem?_eq_some_iff.mp hl).1]; exact hl)⟩

theorem Placed.right {p : List PCmd} {n : Nat} {A B : List PCmd} (h : Placed p n (A ++ B)) :
    Placed p (n + A.length) B :=
  ⟨fun k hk => by
     rw [Nat.add_assoc, h.code (A.length + k) (by rw [List.length_append]; omega),
       List.getElem?_append_right (Nat.le_add_right _ _), Nat.add_sub_cancel_left],
   fun k l hl => by
     rw [Nat.add_assoc]
     exact h.labs (A.length + k) l (by
       rw [List.getElem?_append_right (Nat.le_add_right _ _), Nat.add_sub_cancel_left]; exact hl)⟩

theorem Placed.mid {p : List PCmd} {n : Nat} {A B C : List PCmd} (h : Placed p n (A ++ B ++ C)) :
    Placed p (n + A.length) B := by
  rw [List.append_assoc] at h
  exact h.right.left

theorem Placed.tail {p : List PCmd} {n : Nat} {c : PCmd} {cs : List PCmd} (h : Placed p n (c :: cs)) :
    Placed p (n + 1) cs :=
  Placed.right (A := [c]) h

theorem Placed.at {p : List PCmd} {n k : Nat} {cs : List PCmd} (h : Placed p n cs) (e : n = k) :
    Placed p k cs := e ▸ h

/-- command `k` of placed code, at a position given up to an equation -/
theorem Placed.get {p : List PCmd} {n : Nat} {cs : List PCmd} (h : Placed p n cs) {k j : Nat} {c : PCmd}
    (hc : cs[k]? = some c) (e : n + k = j) : p[j]? = some c := by
  subst e
  rw [h.code k (List.getElem?_eq_some_iff.mp hc).1, hc]

theorem Placed.lab {p : List PCmd} {n : Nat} {cs : List PCmd} (h : Placed p n cs) {k j : Nat} {l : Lbl}
    (hc : cs[k]? = some (.label l)) (e : n + k = j) : findLabel p l = some j := by
  subst e; exact h.labs k l hc

theorem Placed.head {p : List PCmd} {n : Nat} {c : PCmd} {cs : List PCmd} (h : Placed p n (c :: cs)) :
    p[n]? = some c := h.get (k := 0) rfl rfl

theorem Placed.label {p : List PCmd} {n : Nat} {l : Lbl} {cs : List PCmd}
    (h : Placed p n (.label l :: cs)) : findLabel p l = some n := h.lab (k := 0) rfl rfl

theorem Placed.nil (p : List PCmd) (n : Nat) : Placed p n [] :=
  ⟨fun k hk => by simp at hk, fun k l hl => by simp at hl⟩

theorem Placed.whole (p : List PCmd) (h : (labelsIn p).Nodup) : Placed p 0 p :=
  ⟨fun k _ => by simp, fun k l hl => by simpa using findLabel_of_nodup p k l h hl⟩

theorem Runs.refl (p : List PCmd) (n : Nat) (s : St) : Runs p n 0 s s := Steps.refl _

theorem runs_one {p : List PCmd} {n : Nat} {s s' : St} (h : step p (s, n) = some (s', n + 1)) :
    Runs p n 1 s s' := Steps.one h

theorem runs_instr {p : List PCmd} {n : Nat} {mn : Mn} {ops : List POp} {s s' : St}
    (hp : p[n]? = some (.instr mn ops)) (he : exec p s n mn ops = some (s', n + 1)) : Runs p n 1 s s' := by
  apply runs_one; rw [step_instr s hp]; exact he

theorem St.setReg_same {s : St} {r : Reg} {v : Int} (h : s.regs r = some v) : s.setReg r v = s := by
  cases s
  simp only [St.setReg, St.mk.injEq, and_true]
  funext x
  by_cases e : x = r
  · rw [if_pos e, e]; exact h.symm
  · rw [if_neg e]

theorem step_incr {p : List PCmd} {n : Nat} {r : Reg} {d v : Int} (s : St)
    (hp : p[n]? = some (.instr .add [.reg r, .reg r, .lit d])) (hr : s.regs r = some v) :
    step p (s, n) = some (s.setReg r (v + d), n + 1) := by
  rw [step_instr s hp, exec_add (a := .reg r) (b := .lit d) hr rfl]

theorem step_jmp {p : List PCmd} {n t : Nat} {l : Lbl} (s : St)
    (hp : p[n]? = some (.instr .jmp [.lab l])) (hl : findLabel p l = some t) :
    step p (s, n) = some (s, t + 1) := by
  rw [step_instr s hp, exec_jmp hl]

theorem steps_loop_entry {p : List PCmd} {n k : Nat} {r : Reg} {v : Int} {le : Lbl} {ts ts' : St}
    (h0 : p[n]? = some (.instr .set [.reg r, .lit v])) (h1 : p[n + 1]? = some (.label le))
    (hst : Steps p (ts.setReg r v, n + 2) (ts', k)) : Steps p (ts, n) (ts', k) :=
  Steps.next (by rw [step_instr ts h0]; rfl) (Steps.next (step_label _ h1) hst)

theorem runs_cons {p : List PCmd} {n len : Nat} {s s1 s2 : St}
    (h1 : Runs p n 1 s s1) (h2 : Runs p (n + 1) len s1 s2) : Runs p n (len + 1) s s2 := by
  have := runs_seq h1 h2
  rwa [Nat.add_comm] at this

theorem runs_cast {p : List PCmd} {n len len' : Nat} {s s' : St} (h : Runs p n len s s') (e : len = len') :
    Runs p n len' s s' := by subst e; exact h

structure TmpEq (a : List Bool) (ts ts' : St) : Prop where
  arrs : ts'.arrs = ts.arrs
  trace : ts'.trace = ts.trace
  outs : ts'.outcomes = ts.outcomes
  shmR : ts'.shmRegs = ts.shmRegs
  shmA : ts'.shmArrs = ts.shmArrs
  regs : ∀ x, ¬ TmpIn a x → ts'.regs x = ts.regs x

theorem TmpEq.refl (a : List Bool) (ts : St) : TmpEq a ts ts := ⟨rfl, rfl, rfl, rfl, rfl, fun _ _ => rfl⟩

theorem TmpEq.trans {a : List Bool} {s1 s2 s3 : St} (h1 : TmpEq a s1 s2) (h2 : TmpEq a s2 s3) :
    TmpEq a s1 s3 :=
  ⟨h2.arrs.trans h1.arrs, h2.trace.trans h1.trace, h2.outs.trans h1.outs, h2.shmR.trans h1.shmR,
   h2.shmA.trans h1.shmA, fun x hx => (h2.regs x hx).trans (h1.regs x hx)⟩

theorem TmpEq.mono {a a' : List Bool} {s1 s2 : St} (h : TmpEq a' s1 s2)
    (ha : ∀ x, TmpIn a' x → TmpIn a x) : TmpEq a s1 s2 :=
  ⟨h.arrs, h.trace, h.outs, h.shmR, h.shmA, fun x hx => h.regs x (fun hc => hx (ha x hc))⟩

theorem TmpEq.of_set {a : List Bool} {t : Nat} {s1 s2 : St} (h : TmpEq (a.set t true) s1 s2) : TmpEq a s1 s2 :=
  h.mono (fun _ hx => hx.of_set)

theorem TmpEq.setReg {a : List Bool} {s1 s2 : St} {r : Reg} (h : TmpEq a s1 s2) (hr : TmpIn a r) (v : Int) :
    TmpEq a s1 (s2.setReg r v) :=
  ⟨h.arrs, h.trace, h.outs, h.shmR, h.shmA, fun x hx => by
    have : x ≠ r := by intro e; subst e; exact hx hr
    rw [St.setReg_regs_ne _ _ this]; exact h.regs x hx⟩

/-- a register that holds the value of a live handle: an active R register or a used M register -/
def Prot (act mu : List Bool) (r : Reg) : Prop :=
  (r.bank = 0 ∧ act.getD r.idx false = true) ∨ (r.bank = 3 ∧ mu.getD r.idx false = true)

theorem Prot.not_tmp {act mu : List Bool} {r : Reg} (h : Prot act mu r) : ¬ TmpIn act r := by
  intro ht
  rcases h with h | h
  · exact ht.not_active h.2
  · have := ht.1; omega

theorem TmpIn.not_prot {act mu : List Bool} {r : Reg} (h : TmpIn act r) : ¬ Prot act mu r :=
  fun hp => hp.not_tmp h

theorem Prot.mono {act act' mu : List Bool} {r : Reg} (h : Prot act mu r) (hs : Sub act act') : Prot act' mu r := by
  rcases h with h | h
  · exact Or.inl ⟨h.1, hs _ h.2⟩
  · exact Or.inr h

theorem TmpIn.sub {a a' : List Bool} {x : Reg} (h : TmpIn a' x) (hs : Sub a a') (hl : a'.length = a.length) :
    TmpIn a x := by
  refine ⟨h.1, ?_⟩
  have hlt := getD_true_false_lt h.2
  have hlt' : x.idx < a.length := by omega
  cases hv : a.getD x.idx true with
  | false => rfl
  | true =>
    have : a.getD x.idx false = true := by
      simp [List.getD, List.getElem?_eq_getElem hlt'] at hv ⊢; exact hv
    exact absurd (hs _ this) h.not_active

/-- the `HostSem` state `hs` and the controller state `ts` agree: same arrays, trace and oracle, and every
live handle of `hs` has its value in its register.  `H`: the (final) handle table; `L`: the (final) table
of array lengths; `MH`: the handles created since the last flush that sit in M registers (they die at the
next flush); `act`/`mu`: the register flags of the memory manager at this point of the compilation -/
structure Rel (H : List (Reg × Bool)) (L MH : List Nat) (act mu : List Bool) (hs : HSt) (ts : St) : Prop where
  arrs : ts.arrs = hs.arrs
  trace : ts.trace = hs.trace
  outs : ts.outcomes = hs.outcomes
  regs : ∀ h v, hs.hregs h = some v → ∃ r b, H[h]? = some (r, b) ∧ ts.regs r = some v ∧ Prot act mu r
  inj : ∀ h1 h2 v1 v2 r b1 b2, hs.hregs h1 = some v1 → hs.hregs h2 = some v2 →
    H[h1]? = some (r, b1) → H[h2]? = some (r, b2) → h1 = h2
  lens : ∀ a n, L[a]? = some n → ∃ l, hs.arrs a = some l ∧ l.length = n
  mh : ∀ h v r b, hs.hregs h = some v → H[h]? = some (r, b) → r.bank = 3 → h ∈ MH

section RelRules
variable {H : List (Reg × Bool)} {L MH : List Nat} {act mu : List Bool} {hs : HSt} {ts : St}

theorem Rel.frame {ts' : St}
    (h : Rel H L MH act mu hs ts) (ha : ts'.arrs = ts.arrs) (ht : ts'.trace = ts.trace)
    (ho : ts'.outcomes = ts.outcomes) (hr : ∀ r, Prot act mu r → ts'.regs r = ts.regs r) :
    Rel H L MH act mu hs ts' :=
  ⟨ha.trans h.arrs, ht.trans h.trace, ho.trans h.outs,
   fun hh v hv => by
     obtain ⟨r, b, h1, h2, h3⟩ := h.regs hh v hv
     exact ⟨r, b, h1, (hr r h3).trans h2, h3⟩,
   h.inj, h.lens, h.mh⟩

theorem Rel.tmp {ts' : St}
    (h : Rel H L MH act mu hs ts) (ht : TmpEq act ts ts') : Rel H L MH act mu hs ts' :=
  h.frame ht.arrs ht.trace ht.outs (fun r hp => ht.regs r hp.not_tmp)

theorem Rel.reg_val
    (h : Rel H L MH act mu hs ts) {hh : Nat} {v : Int} {r : Reg} {b : Bool}
    (hv : hs.hregs hh = some v) (hH : H[hh]? = some (r, b)) : ts.regs r = some v ∧ Prot act mu r := by
  obtain ⟨r', b', h1, h2, h3⟩ := h.regs hh v hv
  rw [hH] at h1; cases h1
  exact ⟨h2, h3⟩

theorem Rel.setReg_unprot {H : List (Reg × Bool)} {L MH : List Nat} {act mu : List Bool} {hs : HSt} {ts : St}
    (h : Rel H L MH act mu hs ts) {r : Reg} (hr : ¬ Prot act mu r) (v : Int) : Rel H L MH act mu hs (ts.setReg r v) :=
  h.frame rfl rfl rfl (fun _ hp => St.setReg_regs_ne _ _ (fun e => hr (e ▸ hp)))

theorem Rel.setArr
    (h : Rel H L MH act mu hs ts) {a : Nat} {l l' : List (Option Int)} (ha : hs.arrs a = some l)
    (hl : l'.length = l.length) : Rel H L MH act mu (hs.setArr a l') (ts.setArr a l') :=
  ⟨by simp [St.setArr, HSt.setArr, h.arrs], h.trace, h.outs, h.regs, h.inj,
   fun a' n hn => by
     obtain ⟨l0, h0, h1⟩ := h.lens a' n hn
     by_cases e : a' = a
     · subst e
       rw [ha] at h0; cases h0
       exact ⟨l', by simp [HSt.setArr], by rw [hl, h1]⟩
     · exact ⟨l0, by simp [HSt.setArr, e, h0], h1⟩,
   h.mh⟩

theorem HSt.setH_self (s : HSt) (h : Nat) (v : Int) : (s.setH h v).hregs h = some v := by simp [HSt.setH]
theorem HSt.setH_ne (s : HSt) {h x : Nat} (v : Int) (e : x ≠ h) : (s.setH h v).hregs x = s.hregs x := by
  simp [HSt.setH, e]
theorem HSt.clearH_self (s : HSt) (h : Nat) : (s.clearH h).hregs h = none := by simp [HSt.clearH]
theorem HSt.clearH_ne (s : HSt) {h x : Nat} (e : x ≠ h) : (s.clearH h).hregs x = s.hregs x := by
  simp [HSt.clearH, e]

theorem Rel.setH {MH' : List Nat} {act' mu' : List Bool}
    (h : Rel H L MH act mu hs ts) {nh : Nat} {r : Reg} {b : Bool} (hH : H[nh]? = some (r, b))
    (hother : ∀ hh x r0 b0, hh ≠ nh → hs.hregs hh = some x → H[hh]? = some (r0, b0) → r0 ≠ r)
    (hp : Prot act' mu' r) (hsub : ∀ x, Prot act mu x → Prot act' mu' x) (v : Int)
    (hMH : ∀ x, x ∈ MH → x ∈ MH') (hnew : r.bank = 3 → nh ∈ MH') :
    Rel H L MH' act' mu' (hs.setH nh v) (ts.setReg r v) := by
  have old : ∀ hh x r0 b0, hh ≠ nh → (hs.setH nh v).hregs hh = some x → H[hh]? = some (r0, b0) →
      hs.hregs hh = some x ∧ r0 ≠ r := by
    intro hh x r0 b0 e hx hH0
    rw [HSt.setH_ne _ _ e] at hx
    exact ⟨hx, hother hh x r0 b0 e hx hH0⟩
  refine ⟨h.arrs, h.trace, h.outs, ?_, ?_, h.lens, ?_⟩
  · intro hh x hx
    by_cases e : hh = nh
    · subst e
      rw [HSt.setH_self] at hx; cases hx
      exact ⟨r, b, hH, by simp, hp⟩
    · obtain ⟨r', b', h1, h2, h3⟩ := h.regs hh x (by rwa [HSt.setH_ne _ _ e] at hx)
      exact ⟨r', b', h1, by rw [St.setReg_regs_ne _ _ (old hh x r' b' e hx h1).2]; exact h2, hsub _ h3⟩
  · intro h1 h2 v1 v2 r0 b1 b2 hv1 hv2 hH1 hH2
    by_cases e1 : h1 = nh
    · by_cases e2 : h2 = nh
      · rw [e1, e2]
      · subst e1
        rw [hH] at hH1; cases hH1
        exact absurd rfl (old h2 v2 _ b2 e2 hv2 hH2).2
    · by_cases e2 : h2 = nh
      · subst e2
        rw [hH] at hH2; cases hH2
        exact absurd rfl (old h1 v1 _ b1 e1 hv1 hH1).2
      · exact h.inj h1 h2 v1 v2 r0 b1 b2 (old h1 v1 r0 b1 e1 hv1 hH1).1 (old h2 v2 r0 b2 e2 hv2 hH2).1 hH1 hH2
  · intro hh x r0 b0 hx hH0 hb0
    by_cases e : hh = nh
    · subst e; rw [hH] at hH0; cases hH0; exact hnew hb0
    · exact hMH _ (h.mh hh x r0 b0 (old hh x r0 b0 e hx hH0).1 hH0 hb0)

theorem Rel.bind {MH' : List Nat} {act' mu' : List Bool}
    (h : Rel H L MH act mu hs ts) {nh : Nat} {r : Reg} {b : Bool} (hH : H[nh]? = some (r, b))
    (hr : ¬ Prot act mu r) (hp : Prot act' mu' r) (hsub : ∀ x, Prot act mu x → Prot act' mu' x) (v : Int)
    (hMH : ∀ x, x ∈ MH → x ∈ MH') (hnew : r.bank = 3 → nh ∈ MH') :
    Rel H L MH' act' mu' (hs.setH nh v) (ts.setReg r v) :=
  h.setH hH (fun _ _ _ _ _ hx hH0 e' => hr (e' ▸ (h.reg_val hx hH0).2)) hp hsub v hMH hnew

theorem Rel.setBoth
    (h : Rel H L MH act mu hs ts) {hh : Nat} {r : Reg} {b : Bool} {x : Int} (hv : hs.hregs hh = some x)
    (hH : H[hh]? = some (r, b)) (v : Int) : Rel H L MH act mu (hs.setH hh v) (ts.setReg r v) :=
  h.setH hH (fun h' x' _ b0 e hx' hH0 e' => e (h.inj h' hh x' x r b0 b hx' hv (e' ▸ hH0) hH))
    (h.reg_val hv hH).2 (fun _ hp => hp) v (fun _ hm => hm) (fun hb => h.mh hh x r b hv hH hb)

theorem Rel.unbind
    {i : Nat} (h : Rel H L MH (act.set i true) mu hs ts) {nh : Nat} {b : Bool} {v : Int}
    (hH : H[nh]? = some (R i, b)) (hv : hs.hregs nh = some v) :
    Rel H L MH act mu (hs.clearH nh) ts := by
  have live : ∀ hh x, (hs.clearH nh).hregs hh = some x → hh ≠ nh ∧ hs.hregs hh = some x := by
    intro hh x hx
    by_cases e : hh = nh
    · subst e; rw [HSt.clearH_self] at hx; cases hx
    · exact ⟨e, by rwa [HSt.clearH_ne _ e] at hx⟩
  refine ⟨h.arrs, h.trace, h.outs, ?_,
    fun h1 h2 v1 v2 r0 b1 b2 hv1 hv2 => h.inj h1 h2 v1 v2 r0 b1 b2 (live h1 v1 hv1).2 (live h2 v2 hv2).2,
    h.lens, fun hh x r0 b0 hx => h.mh hh x r0 b0 (live hh x hx).2⟩
  intro hh x hx
  obtain ⟨e, hx⟩ := live hh x hx
  obtain ⟨r', b', h1, h2, h3⟩ := h.regs hh x hx
  refine ⟨r', b', h1, h2, ?_⟩
  -- the register of another live handle is not `R i`, so it stays protected without `i`'s flag
  have hne : r' ≠ R i := fun e' => e (h.inj hh nh x v (R i) b' b hx hv (e' ▸ h1) hH)
  rcases h3 with ⟨hb, hi⟩ | h3
  · have : i ≠ r'.idx := fun e' => hne (by cases r'; cases hb; cases e'; rfl)
    rw [getD_set_ne this] at hi
    exact Or.inl ⟨hb, hi⟩
  · exact Or.inr h3

end RelRules

end NQ.Sdk
