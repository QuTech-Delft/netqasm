/-
One ctypes struct (`Model/Msg.lean`): writing field values into the buffer number and reading
them back.  `decVal_encVal` is the round trip of one field (two's complement), `read_pack` the
induction over the sorted fields (`sortedFrom`), `struct_roundtrip` the statement on bytes
(`unpackStruct (packStruct L vs ++ rest) = some vs`) that the message lemmas of
`Lemmas/MsgRoundtrip.lean` use.
-/
import NetqasmVerif.Model.Msg
import Mathlib.Tactic.Ring
namespace NQ.Msg

theorem toBytes_length (n k : Nat) : (toBytes n k).length = k := by
  induction k generalizing n with
  | zero => rfl
  | succ k ih => simp [toBytes, ih]

theorem ofBytes_toBytes (n k : Nat) : ofBytes (toBytes n k) = n % 256 ^ k := by
  induction k generalizing n with
  | zero => simp [toBytes, ofBytes, Nat.mod_one]
  | succ k ih =>
    simp only [toBytes, ofBytes, ih]
    rw [Nat.pow_succ, Nat.mul_comm (256 ^ k) 256, Nat.mod_mul]

theorem pow256 (k : Nat) : 256 ^ k = 2 ^ (8 * k) := by
  rw [Nat.pow_mul]

theorem encVal_lt (f : SField) (v : Int) : encVal f v < 2 ^ f.width := by
  unfold encVal
  have hp : (0 : Int) < ((2 ^ f.width : Nat) : Int) := by exact_mod_cast Nat.two_pow_pos f.width
  have h1 := Int.emod_nonneg v (ne_of_gt hp)
  have h2 := Int.emod_lt_of_pos v hp
  omega

/-- two's complement: a value in `[-H, H)` is stored as itself or, if negative, `2H` higher; an
unsigned value in `[0, 2^w)` is stored as itself -/
theorem decVal_encVal (f : SField) (v : Int) (hw : 0 < f.width) (h : inWidth f v = true) :
    decVal f (encVal f v) = v := by
  obtain ⟨w, hw'⟩ : ∃ w, f.width = w + 1 := ⟨f.width - 1, by omega⟩
  have hP : ((2 ^ (w + 1) : Nat) : Int) = 2 * ((2 ^ w : Nat) : Int) := by
    rw [Nat.pow_succ']; push_cast; rfl
  simp only [inWidth, decVal, encVal, hw', Nat.add_sub_cancel, hP] at h ⊢
  generalize 2 ^ w = H at h ⊢
  have key : ∀ x : Int, 0 ≤ x → x < 2 * ↑H → ((x % (2 * ↑H)).toNat : Int) = x := fun x h0 h1 => by
    rw [Int.emod_eq_of_lt h0 h1, Int.toNat_of_nonneg h0]
  generalize f.signed = sg at h ⊢
  cases sg
  · simp only [Bool.false_eq_true, if_false, Bool.and_eq_true, decide_eq_true_eq] at h
    simpa only [Bool.false_and, Bool.false_eq_true, if_false] using key v h.1 h.2
  · simp only [if_true, Bool.and_eq_true, decide_eq_true_eq] at h
    simp only [Bool.true_and, decide_eq_true_eq]
    by_cases hv : v < 0
    · -- stored as `v + 2H ≥ H`, read back `2H` lower
      have hu := key (v + 2 * ↑H) (by omega) (by omega)
      rw [Int.add_emod_right] at hu
      generalize (v % (2 * ↑H)).toNat = u at hu ⊢
      split <;> omega
    · -- stored as `v < H`, read back unchanged
      have hu := key v (by omega) (by omega)
      generalize (v % (2 * ↑H)).toNat = u at hu ⊢
      split <;> omega

theorem sortedFrom_cons {lo e : Nat} {f : SField} {fs : List SField}
    (h : sortedFrom lo (f :: fs) = some e) :
    lo ≤ f.start ∧ 0 < f.width ∧ sortedFrom (f.start + f.width) fs = some e := by
  simp only [sortedFrom] at h
  split at h
  · rename_i hc; exact ⟨hc.1, hc.2, h⟩
  · cases h

theorem sortedFrom_le : ∀ {fs : List SField} {lo e : Nat}, sortedFrom lo fs = some e → lo ≤ e
  | [], _, _, h => by simp only [sortedFrom, Option.some.injEq] at h; omega
  | _ :: _, _, _, h => by
    obtain ⟨h1, _, h3⟩ := sortedFrom_cons h
    have := sortedFrom_le h3; omega

theorem packNat_dvd (fs : List SField) (vs : List Int) {lo e : Nat}
    (h : sortedFrom lo fs = some e) : 2 ^ lo ∣ packNat fs vs := by
  induction fs generalizing vs lo with
  | nil => exact Nat.dvd_zero _
  | cons f fs ih =>
    cases vs with
    | nil => exact Nat.dvd_zero _
    | cons v vs =>
      obtain ⟨h1, _, h3⟩ := sortedFrom_cons h
      exact Nat.dvd_add (Nat.dvd_mul_left_of_dvd (Nat.pow_dvd_pow 2 h1) _)
        (Nat.dvd_trans (Nat.pow_dvd_pow 2 (by omega)) (ih vs h3))

/-- the `w` bits from bit `s` on of a number that has `x` below them and a multiple of `2^(s+w)`
above them -/
theorem bits_mid {x a s w : Nat} (k : Nat) (hx : x < 2 ^ s) (ha : a < 2 ^ w) :
    (x + a * 2 ^ s + 2 ^ (s + w) * k) / 2 ^ s % 2 ^ w = a := by
  rw [Nat.pow_add, Nat.mul_assoc, Nat.mul_comm a, Nat.add_assoc, ← Nat.mul_add,
    Nat.add_mul_div_left _ _ (Nat.two_pow_pos s), Nat.div_eq_of_lt hx, Nat.zero_add,
    Nat.add_mul_mod_self_left, Nat.mod_eq_of_lt ha]

theorem bits_lt {x a s w : Nat} (hx : x < 2 ^ s) (ha : a < 2 ^ w) : x + a * 2 ^ s < 2 ^ (s + w) :=
  calc x + a * 2 ^ s < 2 ^ s + a * 2 ^ s := Nat.add_lt_add_right hx _
    _ = (a + 1) * 2 ^ s := by rw [Nat.add_mul, Nat.one_mul, Nat.add_comm]
    _ ≤ 2 ^ w * 2 ^ s := Nat.mul_le_mul_right _ ha
    _ = 2 ^ (s + w) := by rw [Nat.pow_add, Nat.mul_comm]

/-- `x` is whatever lies below `lo`: the head field sits between `x` and the remaining fields
(`bits_mid`), and for these it is absorbed into `x` (`bits_lt`) -/
theorem read_pack (fs : List SField) (vs : List Int) (lo e x : Nat)
    (h : sortedFrom lo fs = some e) (hx : x < 2 ^ lo) (hin : allInWidth fs vs = true) :
    readFields fs (x + packNat fs vs) = vs ∧ x + packNat fs vs < 2 ^ e := by
  induction fs generalizing vs lo x with
  | nil =>
    cases vs with
    | nil => cases h; exact ⟨rfl, hx⟩
    | cons v vs => cases hin
  | cons f fs ih =>
    cases vs with
    | nil => cases hin
    | cons v vs =>
      obtain ⟨h1, h2, h3⟩ := sortedFrom_cons h
      simp only [allInWidth, Bool.and_eq_true] at hin
      have hxs : x < 2 ^ f.start := Nat.lt_of_lt_of_le hx (Nat.pow_le_pow_right (by decide) h1)
      have henc := encVal_lt f v
      obtain ⟨ih1, ih2⟩ := ih vs _ _ h3 (bits_lt hxs henc) hin.2
      obtain ⟨k, hk⟩ := packNat_dvd fs vs h3
      rw [packNat, ← Nat.add_assoc]
      refine ⟨?_, ih2⟩
      rw [readFields, List.map_cons, ← readFields, ih1, hk, bits_mid k hxs henc,
        decVal_encVal f v h2 hin.1]

theorem wfStruct_iff {L : SLayout} :
    WFStruct L = true ↔ ∃ e, sortedFrom 0 L.fields = some e ∧ e ≤ 8 * L.size := by
  unfold WFStruct
  cases sortedFrom 0 L.fields <;> simp

theorem struct_roundtrip (L : SLayout) (vs : List Int) (rest : List Nat)
    (hwf : WFStruct L = true) (hin : allInWidth L.fields vs = true) :
    unpackStruct L (packStruct L vs ++ rest) = some vs := by
  obtain ⟨e, he, hsz⟩ := wfStruct_iff.1 hwf
  obtain ⟨h1, h2⟩ := read_pack L.fields vs 0 e 0 he (by simp) hin
  simp only [Nat.zero_add] at h1 h2
  have hl := toBytes_length (packNat L.fields vs) L.size
  have : packNat L.fields vs < 2 ^ (8 * L.size) :=
    Nat.lt_of_lt_of_le h2 (Nat.pow_le_pow_right (by decide) hsz)
  rw [unpackStruct, packStruct, if_neg (by simp [hl]), List.take_left' hl, ofBytes_toBytes, pow256,
    Nat.mod_eq_of_lt this, h1]

theorem packStruct_length (L : SLayout) (vs : List Int) : (packStruct L vs).length = L.size :=
  toBytes_length _ _

end NQ.Msg
