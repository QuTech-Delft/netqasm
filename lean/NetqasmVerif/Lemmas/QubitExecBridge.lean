/-
Bridge between C09's event abstraction (`Model/QubitMgr.lean`: `QM.step`, `QM.run` on the set of
allocated virtual ids) and the executor model (`Model/Exec.lean`: `Exec.step` on `qalloc`/`qfree`/
gates, `Exec.keepResp` for an OK-K delivery; unit module, `used`, C13's `Exec.Inv`).

An event is executed on the executor as the instructions the SDK emits for it
(`set Q0 v; qalloc Q0`, `set Q0 v; qfree Q0`, `set Q0 v; <gate> Q0`, `set Q0 a; set Q1 b; <gate> Q0 Q1`)
or, for a delivery, as the environment actions `reserve; keep a v p`.  The base executor's gate
hooks only record the call; every real back end first calls `_get_position` (`position` below),
which is where "instruction on an unallocated qubit" faults — so `use` is executed as that check
followed by the instruction.
-/
import NetqasmVerif.Model.QubitExec
import NetqasmVerif.Lemmas.ExecInvStep
import NetqasmVerif.Lemmas.QubitMgr
namespace NQ.Bridge9
open NQ NQ.Exec

/-- the abstraction: `u` is the set of allocated virtual ids of a unit module of size `m` -/
def AbsU (um : List (Option Nat)) (m : Nat) (u : List Nat) : Prop :=
  um.length = m ∧ ∀ v, v ∈ u ↔ (um[v]?.join).isSome = true

def Abs (s : State) (a m : Nat) (u : List Nat) : Prop :=
  ∃ ap, s.apps a = some ap ∧ AbsU ap.unit m u

theorem absU_set_some {um : List (Option Nat)} {m : Nat} {u : List Nat} {v q : Nat}
    (h : AbsU um m u) (hv : v < m) : AbsU (um.set v (some q)) m (v :: u) := by
  obtain ⟨hl, hm⟩ := h
  refine ⟨by rw [List.length_set, hl], fun w => ?_⟩
  rw [set_join um v w (some q) (hl ▸ hv), List.mem_cons, hm w]
  by_cases hw : w = v
  · rw [if_pos hw]; exact ⟨fun _ => rfl, fun _ => Or.inl hw⟩
  · rw [if_neg hw]; exact ⟨fun h => h.resolve_left hw, Or.inr⟩

theorem absU_set_none {um : List (Option Nat)} {m : Nat} {u : List Nat} {v : Nat}
    (h : AbsU um m u) (hv : v < m) : AbsU (um.set v none) m (u.filter (· != v)) := by
  obtain ⟨hl, hm⟩ := h
  refine ⟨by rw [List.length_set, hl], fun w => ?_⟩
  rw [set_join um v w none (hl ▸ hv), List.mem_filter, bne_iff_ne, hm w]
  by_cases hw : w = v
  · rw [if_pos hw]; exact ⟨fun h => absurd hw h.2, nofun⟩
  · rw [if_neg hw]; exact ⟨fun h => h.1, fun h => ⟨h, hw⟩⟩

theorem absU_lt {um : List (Option Nat)} {m : Nat} {u : List Nat} {v : Nat}
    (h : AbsU um m u) (hv : v ∈ u) : v < m := by
  refine Nat.lt_of_not_le fun hle => ?_
  have := (h.2 v).mp hv
  rw [List.getElem?_eq_none (h.1 ▸ hle)] at this
  cases this

theorem absU_not_mem {um : List (Option Nat)} {m : Nat} {u : List Nat} {v : Nat}
    (h : AbsU um m u) (hv : v ∉ u) : um[v]?.join = none :=
  Option.not_isSome_iff_eq_none.mp fun hs => hv ((h.2 v).mpr hs)

theorem absU_mem {um : List (Option Nat)} {m : Nat} {u : List Nat} {v : Nat}
    (h : AbsU um m u) (hv : v ∈ u) : ∃ q, um[v]?.join = some q :=
  Option.isSome_iff_exists.mp ((h.2 v).mp hv)

theorem stepF_set {s : State} {a : Nat} {ap : App} (r : XReg) (v : Nat) (h : s.apps a = some ap) :
    stepF a (.set r v) s = (s.put a ⟨ap.setReg r v, s.used, s.oracle, s.trace⟩, none) := by
  have hl : stepLoc false a (.set r v) (s.loc ap) 0 = .ok ⟨ap.setReg r v, s.used, s.oracle, s.trace⟩ (0 + 1) := by
    simp [stepLoc, wr, fits, State.loc]
  simp [stepF, step_ok_of_loc h hl]

theorem inv_stepF {s : State} (a : Nat) (i : Instr) (hI : Inv s) : Inv (stepF a i s).1 := by
  have := Exec.inv_step false a i s 0 hI
  unfold stepF
  cases hs : step false a i s 0 <;> simpa [hs, Res.st] using this

theorem stepF_loc {s : State} {a : Nat} {ap : App} (i : Instr) (h : s.apps a = some ap) :
    stepF a i s = match stepLoc false a i (s.loc ap) 0 with
      | .ok l _ => (s.put a l, none)
      | .fault l f => (s.put a l, some (.exec f)) := by
  unfold stepF
  cases hl : stepLoc false a i (s.loc ap) 0 with
  | ok l pc => simp [step_ok_of_loc h hl]
  | fault l f => simp [step_fault_of_loc h hl]

theorem setReg_get (ap : App) (r : XReg) (v : Int) : (ap.setReg r v).regs r = some v := by
  simp [App.setReg, upd]

theorem setReg_unit (ap : App) (r : XReg) (v : Int) : (ap.setReg r v).unit = ap.unit := rfl

theorem pyIdx_nat {n v : Nat} (h : v < n) : pyIdx n (v : Int) = some v := by
  have := pyIdx_nonneg (n := n) (i := (v : Int)) (Int.natCast_nonneg v) (Int.ofNat_lt.mpr h)
  simpa using this

def Refines (a m : Nat) (u : List Nat) (e : QM.Ev) (r : State × Option XFault) : Prop :=
  (∀ u', QM.step m u e = .ok u' → r.2 = none ∧ Abs r.1 a m u') ∧
  (∀ f, QM.step m u e = .error f → ∃ x, r.2 = some x ∧ kind x = some f)

theorem Refines.ok {a m : Nat} {u u' : List Nat} {e : QM.Ev} {r : State × Option XFault}
    (hs : QM.step m u e = .ok u') (h2 : r.2 = none) (hA : Abs r.1 a m u') : Refines a m u e r :=
  ⟨fun _ h => (by rw [hs] at h; cases h; exact ⟨h2, hA⟩), fun _ h => by rw [hs] at h; cases h⟩

theorem Refines.error {a m : Nat} {u : List Nat} {e : QM.Ev} {r : State × Option XFault} {f : QM.Fault}
    {x : XFault} (hs : QM.step m u e = .error f) (h2 : r.2 = some x) (hk : kind x = some f) :
    Refines a m u e r :=
  ⟨fun _ h => (by rw [hs] at h; cases h), fun _ h => by rw [hs] at h; cases h; exact ⟨x, h2, hk⟩⟩

/-- how a fault of C09's model shows on the executor at `_get_position` (gates, `qfree`); `qalloc`
and deliveries report an out-of-range address as `outsideUnit`, which `kind` also maps to `range` -/
def toX : QM.Fault → XFault
  | .range => .exec .unitIndex
  | .double => .exec .doubleAlloc
  | .notAlloc => .exec .notAlloc
  | .blocked => .deferred

theorem kind_toX (f : QM.Fault) : kind (toX f) = some f := by cases f <;> rfl

/-- `_get_position` is the model's `need` -/
theorem position_eq {s : State} {a m : Nat} {u : List Nat} {ap : App} (hap : s.apps a = some ap)
    (hU : AbsU ap.unit m u) (v : Nat) : position s a v = (QM.need m u v).map toX := by
  simp only [position, hap, hU.1]
  by_cases hv : m ≤ v
  · rw [if_pos hv, QM.need_range hv]; rfl
  · rw [if_neg hv]
    by_cases hm : v ∈ u
    · rw [QM.need_none (Nat.lt_of_not_le hv) hm, if_pos ((hU.2 v).mp hm)]; rfl
    · rw [QM.need_notAlloc (Nat.lt_of_not_le hv) hm, absU_not_mem hU hm]; rfl

theorem stepLoc_qalloc (hw : Bool) (a : Nat) {l : Loc} {r : XReg} {v m : Nat} {u : List Nat} (pc : Int)
    (hr : l.ap.regs r = some (v : Int)) (hU : AbsU l.ap.unit m u) :
    stepLoc hw a (.qalloc r) l pc =
      if m ≤ v then .fault l .outsideUnit
      else if v ∈ u then .fault l .doubleAlloc
      else .ok { l with ap := { l.ap with unit := l.ap.unit.set v (some (firstUnused l.used)) },
                        used := sadd (firstUnused l.used) l.used } (pc + 1) := by
  simp only [stepLoc, hr, hU.1]
  by_cases hv : m ≤ v
  · rw [if_pos hv, if_pos (Int.ofNat_le.mpr hv)]
  · rw [if_neg hv, if_neg (fun h => hv (Int.ofNat_le.mp h)), pyIdx_nat (Nat.lt_of_not_le hv)]
    by_cases hm : v ∈ u
    · obtain ⟨q, hq⟩ := absU_mem hU hm
      simp only [hq, if_pos hm]
    · simp only [absU_not_mem hU hm, if_neg hm]

theorem ev_alloc {s : State} {a m : Nat} {u : List Nat} (hA : Abs s a m u) (v : Nat) :
    Refines a m u (.alloc v) (execEv a s (.alloc v)) := by
  obtain ⟨ap, hap, hU⟩ := hA
  simp only [execEv, stepF_set Q0 v hap, andThen]
  rw [stepF_loc (.qalloc Q0) (put_apps_self _ _ _),
    stepLoc_qalloc false a (u := u) 0 (setReg_get ap Q0 v) hU]
  by_cases hv : m ≤ v
  · rw [if_pos hv]; exact Refines.error (QM.step_alloc_range hv) rfl rfl
  · rw [if_neg hv]
    by_cases hm : v ∈ u
    · rw [if_pos hm]; exact Refines.error (QM.step_alloc_double (Nat.lt_of_not_le hv) hm) rfl rfl
    · rw [if_neg hm]
      exact Refines.ok (QM.step_alloc (Nat.lt_of_not_le hv) hm) rfl
        ⟨_, put_apps_self _ _ _, absU_set_some hU (Nat.lt_of_not_le hv)⟩

/-- `qfree` with the register read and the Python index resolved -/
theorem stepLoc_qfree (hw : Bool) (a : Nat) {l : Loc} {r : XReg} {v m : Nat} (pc : Int)
    (hr : l.ap.regs r = some (v : Int)) (hl : l.ap.unit.length = m) :
    stepLoc hw a (.qfree r) l pc =
      if m ≤ v then .fault l .unitIndex
      else match l.ap.unit[v]?.join with
        | none => .fault l .notAlloc
        | some q =>
          if q ∈ l.used then
            .ok { l with ap := { l.ap with unit := l.ap.unit.set v none }, used := srem q l.used } (pc + 1)
          else .fault { l with ap := { l.ap with unit := l.ap.unit.set v none } } .usedKey := by
  simp only [stepLoc, hr, hl]
  by_cases hv : m ≤ v
  · rw [if_pos hv, pyIdx_past_end (Int.ofNat_le.mpr hv)]
  · rw [if_neg hv, pyIdx_nat (Nat.lt_of_not_le hv)]; rfl

theorem ev_free {s : State} {a m : Nat} {u : List Nat} (hI : Inv s) (hA : Abs s a m u) (v : Nat) :
    Refines a m u (.free v) (execEv a s (.free v)) := by
  obtain ⟨ap, hap, hU⟩ := hA
  simp only [execEv, stepF_set Q0 v hap, andThen]
  rw [stepF_loc (.qfree Q0) (put_apps_self _ _ _), stepLoc_qfree false a 0 (setReg_get ap Q0 v) hU.1]
  by_cases hv : m ≤ v
  · rw [if_pos hv]; exact Refines.error (QM.step_free_error (QM.need_range hv)) rfl rfl
  · rw [if_neg hv]
    have hv := Nat.lt_of_not_le hv
    by_cases hm : v ∈ u
    · obtain ⟨q, hq⟩ := absU_mem hU hm
      -- the physical qubit is marked used (C13's invariant)
      have hqu : q ∈ s.used := (hI.used_iff q).2 (Or.inl ⟨a, v, by simp [phys, unitOf, hap, physU, hq]⟩)
      simp only [State.loc, setReg_unit, hq, State.put, hqu, if_true]
      exact Refines.ok (QM.step_free hv hm) rfl
        ⟨{ (ap.setReg Q0 (v : Int)) with unit := ap.unit.set v none }, by simp [upd], absU_set_none hU hv⟩
    · simp only [State.loc, setReg_unit, absU_not_mem hU hm]
      exact Refines.error (QM.step_free_error (QM.need_notAlloc hv hm)) rfl rfl

theorem ev_use {s : State} {a m : Nat} {u : List Nat} (hA : Abs s a m u) (v : Nat) :
    Refines a m u (.use v) (execEv a s (.use v)) := by
  obtain ⟨ap, hap, hU⟩ := hA
  simp only [execEv, position_eq hap hU]
  cases hn : QM.need m u v with
  | some f => exact Refines.error (QM.step_use_error hn) rfl (kind_toX f)
  | none =>
    obtain ⟨hv, hm⟩ := QM.need_eq_none hn
    simp only [Option.map_none, stepF_set Q0 v hap, andThen]
    rw [stepF_loc (.q1 "h" Q0) (put_apps_self _ _ _)]
    simp only [State.loc, stepLoc, setReg_get]
    exact Refines.ok (QM.step_use hv hm) rfl ⟨_, put_apps_self _ _ _, hU⟩

theorem ev_use2 {s : State} {a m : Nat} {u : List Nat} (hA : Abs s a m u) (x y : Nat) :
    Refines a m u (.use2 x y) (execEv a s (.use2 x y)) := by
  obtain ⟨ap, hap, hU⟩ := hA
  simp only [execEv, position_eq hap hU]
  cases hx : QM.need m u x with
  | some f => exact Refines.error (QM.step_use2_error (Or.inl hx)) rfl (kind_toX f)
  | none =>
    cases hy : QM.need m u y with
    | some f => exact Refines.error (QM.step_use2_error (Or.inr ⟨hx, hy⟩)) rfl (kind_toX f)
    | none =>
      obtain ⟨hx1, hx2⟩ := QM.need_eq_none hx
      obtain ⟨hy1, hy2⟩ := QM.need_eq_none hy
      simp only [Option.map_none, stepF_set Q0 x hap, andThen]
      rw [stepF_set Q1 y (put_apps_self _ _ _)]
      simp only
      rw [stepF_loc (.q2 "cnot" Q0 Q1) (put_apps_self _ _ _)]
      have h0 : ((ap.setReg Q0 (x : Int)).setReg Q1 (y : Int)).regs Q0 = some (x : Int) := by
        simp [App.setReg, upd, show Q0 ≠ Q1 by decide]
      simp only [State.loc, stepLoc, setReg_get, h0]
      exact Refines.ok (QM.step_use2 hx1 hx2 hy1 hy2) rfl ⟨_, put_apps_self _ _ _, hU⟩

theorem ev_deliver {s : State} {a m : Nat} {u : List Nat} (hA : Abs s a m u) (v : Nat) :
    Refines a m u (.deliver v) (execEv a s (.deliver v)) := by
  obtain ⟨ap, hap, hU⟩ := hA
  have hl := hU.1
  have hap1 : (reserveQ s).apps a = some ap := by simp [reserveQ, hap]
  simp only [execEv, hap1, hl]
  by_cases hm : v ∈ u
  · have hs := (hU.2 v).mp hm
    rw [if_pos ⟨absU_lt hU hm, hs⟩]
    exact Refines.error (QM.step_deliver_blocked hm) rfl rfl
  · have hn := absU_not_mem hU hm
    have hnone : ¬ (ap.unit[v]?.join).isSome = true := by rw [hn]; nofun
    rw [if_neg fun h => hnone h.2]
    have hcond : ¬ (0 ≤ (v : Int) ∧ (v : Int) < (m : Nat) ∧
        ((ap.unit[(v : Int).toNat]?.join).isSome = true)) := fun h =>
      hnone (Int.toNat_natCast v ▸ h.2.2)
    simp only [keepResp, hap1, hl, hcond, if_false]
    by_cases hv : m ≤ v
    · rw [if_pos (show ((v : Nat) : Int) ≥ (m : Nat) from Int.ofNat_le.mpr hv)]
      exact Refines.error (QM.step_deliver_range hm hv) rfl rfl
    · rw [if_neg (show ¬ ((v : Nat) : Int) ≥ (m : Nat) from fun h => hv (Int.ofNat_le.mp h))]
      simp only [pyIdx_nat (Nat.lt_of_not_le hv), hn]
      exact Refines.ok (QM.step_deliver (Nat.lt_of_not_le hv) hm) rfl
        ⟨{ ap with unit := ap.unit.set v (some (firstUnused s.used)) }, by simp [upd],
          absU_set_some hU (Nat.lt_of_not_le hv)⟩

/-- **event_step_refines_exec**: one event of C09's model is exactly the unit-module effect of the
corresponding executor instruction(s) / delivery: it succeeds iff the executor raises nothing, the
new id set is the abstraction of the new unit module, and an error is an executor fault of the
matching kind (`range` = outsideUnit/IndexError, `double` = already allocated, `notAlloc` = not
allocated, `blocked` = the delivery is deferred). -/
theorem event_step_refines_exec {s : State} {a m : Nat} {u : List Nat} (hI : Inv s) (hA : Abs s a m u)
    (e : QM.Ev) : Refines a m u e (execEv a s e) := by
  cases e with
  | alloc v => exact ev_alloc hA v
  | free v => exact ev_free hI hA v
  | use v => exact ev_use hA v
  | use2 x y => exact ev_use2 hA x y
  | deliver v => exact ev_deliver hA v

theorem inv_execEv {s : State} (a : Nat) (hI : Inv s) (e : QM.Ev) : Inv (execEv a s e).1 := by
  have h1 : ∀ i (r : State × Option XFault), Exec.Inv r.1 → Exec.Inv (andThen r (stepF a i)).1 := by
    intro i r hr
    unfold andThen
    split
    · exact inv_stepF a i hr
    · exact hr
  cases e with
  | alloc v => exact h1 _ _ (inv_stepF _ _ hI)
  | free v => exact h1 _ _ (inv_stepF _ _ hI)
  | use v =>
    simp only [execEv]
    split
    · exact hI
    · exact h1 _ _ (inv_stepF _ _ hI)
  | use2 x y =>
    simp only [execEv]
    split
    · exact hI
    · split
      · exact hI
      · exact h1 _ _ (h1 _ _ (inv_stepF _ _ hI))
  | deliver v =>
    simp only [execEv]
    split
    · exact inv_reserveQ s hI
    · split
      · exact inv_reserveQ s hI
      · exact inv_keepResp _ a v _ (inv_reserveQ s hI) (by simp [reserveQ])

theorem run_refines {a m : Nat} (evs : List QM.Ev) (s : State) (u : List Nat) (hI : Inv s)
    (hA : Abs s a m u) :
    (∀ u', QM.run m u evs = .ok u' →
      (execEvs a s evs).2 = none ∧ Abs (execEvs a s evs).1 a m u' ∧ Inv (execEvs a s evs).1) ∧
    (∀ f, QM.run m u evs = .error f → ∃ x, (execEvs a s evs).2 = some x ∧ kind x = some f) := by
  induction evs generalizing s u with
  | nil => exact ⟨fun u' h => (by cases h; exact ⟨rfl, hA, hI⟩), fun f h => by cases h⟩
  | cons e es ih =>
    have hr := event_step_refines_exec hI hA e
    have hI1 := inv_execEv a hI e
    simp only [QM.run, execEvs]
    generalize execEv a s e = r at hr hI1
    obtain ⟨s1, o⟩ := r
    cases hs : QM.step m u e with
    | error g =>
      obtain ⟨x, hx, hk⟩ := hr.2 g hs
      cases hx
      exact ⟨fun _ h => (by cases h), fun f h => by cases h; exact ⟨x, rfl, hk⟩⟩
    | ok u1 =>
      obtain ⟨h2, hA1⟩ := hr.1 u1 hs
      cases h2
      exact ih s1 u1 hI1 hA1

def Rel (c : QM.Cfg) (st : QM.St) (s : State) (a : Nat) : Prop :=
  Abs s a c.maxq st.unit ∧ Inv s

theorem flush_safe {c : QM.Cfg} {st : QM.St} {s : State} {a : Nat} (hi : QM.Inv c st) (hR : Rel c st s a) :
    (execEvs a s st.evs).2 = none ∧ Rel c (QM.flushSt c st).1 (execEvs a s st.evs).1 a := by
  obtain ⟨u, hu, _⟩ := hi.runs
  obtain ⟨h1, h2, h3⟩ := (run_refines st.evs s st.unit hR.2 hR.1).1 u hu
  refine ⟨h1, ?_, h3⟩
  simp only [QM.flushSt, hu]
  exact h2

/-- a history on model and executor side by side: host operations act on the model only; a flush
executes the pending events on the controller -/
def execHist (a : Nat) (c : QM.Cfg) : QM.St × State → List QM.Op → (QM.St × State) × Option XFault
  | x, [] => (x, none)
  | (st, s), op :: ops =>
    match op with
    | .flush =>
      match execEvs a s st.evs with
      | (s', none) => execHist a c ((QM.apply c st .flush).1, s') ops
      | (s', some f) => (((QM.apply c st .flush).1, s'), some f)
    | _ => execHist a c ((QM.apply c st op).1, s) ops

/-- the history has no `close` (which ends the application on the controller) -/
def noClose : List QM.Op → Bool
  | [] => true
  | .close :: _ => false
  | _ :: ops => noClose ops

theorem execHist_other (a : Nat) (c : QM.Cfg) (st : QM.St) (s : State) (op : QM.Op) (ops : List QM.Op)
    (h : op ≠ .flush) :
    execHist a c (st, s) (op :: ops) = execHist a c ((QM.apply c st op).1, s) ops := by
  cases op with
  | flush => exact absurd rfl h
  | _ => rfl

theorem hist_safe {a : Nat} {c : QM.Cfg} : ∀ (ops : List QM.Op) (st : QM.St) (s : State),
    QM.Inv c st → Rel c st s a → QM.good c st ops = true → noClose ops = true →
    (execHist a c (st, s) ops).2 = none ∧
      Rel c (execHist a c (st, s) ops).1.1 (execHist a c (st, s) ops).1.2 a ∧
      QM.Inv c (execHist a c (st, s) ops).1.1 := by
  intro ops
  induction ops with
  | nil => intro st s hi hR _ _; exact ⟨rfl, hR, hi⟩
  | cons op ops ih =>
    intro st s hi hR hg hc
    simp only [QM.good, Bool.and_eq_true] at hg
    have hi' := (QM.inv_apply hi hg.1).1
    by_cases hf : op = .flush
    · subst hf
      obtain ⟨h1, h2⟩ := flush_safe hi hR
      simp only [execHist]
      generalize hr : execEvs a s st.evs = r at h1 h2
      obtain ⟨s', o⟩ := r
      simp only at h1 h2
      subst h1
      exact ih _ s' hi' h2 hg.2 (by simpa [noClose] using hc)
    · have hcl : op ≠ .close := by intro e; subst e; simp [noClose] at hc
      rw [execHist_other a c st s op ops hf]
      have hR' : Rel c (QM.apply c st op).1 s a := by
        refine ⟨?_, hR.2⟩
        rw [QM.apply_unit c st op hf hcl]; exact hR.1
      refine ih _ s hi' hR' hg.2 ?_
      cases op with
      | close => exact absurd rfl hcl
      | _ => exact hc

theorem rel_init (c : QM.Cfg) (s : State) (a : Nat) (hI : Inv s) (ha : a ∉ s.registry) :
    Rel c QM.St.init (initApp s a c.maxq).1 a := by
  refine ⟨⟨freshApp c.maxq, ?_, ?_, ?_⟩, inv_initApp' s a c.maxq hI⟩
  · simp [initApp, ha, upd]
  · simp [freshApp]
  · intro v
    simp only [QM.St.init, List.not_mem_nil, false_iff, freshApp]
    rcases Nat.lt_or_ge v c.maxq with h | h
    · simp [h]
    · simp [h]

end NQ.Bridge9
