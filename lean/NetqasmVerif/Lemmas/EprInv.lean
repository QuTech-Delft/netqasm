/-
The invariants behind the clauses of C12, on the lists of the book (`Lemmas/EprBook.lean` holds them for every run
of either model), and what keeps them: (i) exactly once (`OnceL`); (ii)–(iv) oldest request first, pair order,
retirement (`AllQL`). (iii), (v) what one consumption writes (`Consumed.effect`); nothing pending is handleable after
a poll; unit-module entries are never overwritten.
-/
import NetqasmVerif.Lemmas.Epr
namespace NQ.Epr

/-- every delivered response is either pending or consumed, exactly once; response ids are consecutive -/
def OnceL (pending : List Resp) (log : List Event) (delivered : List Resp) (nextResp : Nat) : Prop :=
  (pending ++ log.map (·.resp)).Perm delivered ∧ delivered.map (·.id) = List.range nextResp

theorem onceL_deliver {p : List Resp} {log : List Event} {d : List Resp} {n : Nat} (r : Resp) (hid : r.id = n)
    (h : OnceL p log d n) : OnceL (p ++ [r]) log (d ++ [r]) (n + 1) := by
  refine ⟨?_, by rw [List.map_append, h.2, List.range_succ, List.map_singleton, hid]⟩
  rw [List.append_assoc]
  exact (List.perm_middle.trans (h.1.cons r)).trans (List.perm_append_singleton r d).symm

theorem onceL_consume {pre rest : List Resp} {log : List Event} {d : List Resp} {n : Nat} (e : Event)
    (h : OnceL (pre ++ e.resp :: rest) log d n) : OnceL (pre ++ rest) (log ++ [e]) d n := by
  refine ⟨?_, h.2⟩
  rw [List.map_append, ← List.append_assoc]
  refine ((List.perm_append_singleton e.resp _).trans ?_).trans h.1
  rw [List.append_assoc, List.append_assoc]
  exact List.perm_middle.symm

theorem Consumed.fields {okf : Nat} {s s' : State} {r : Resp} (h : Consumed okf s r s') :
    s'.pending = s.pending ∧ s'.nextReq = s.nextReq ∧ s'.nextResp = s.nextResp ∧ s'.issued = s.issued ∧
    s'.delivered = s.delivered ∧ s'.nodeId = s.nodeId ∧ s'.subs = s.subs ∧
    ∃ e : Event, s'.log = s.log ++ [e] ∧ e.resp = r ∧ e.key = keyOf s.nodeId r := by
  obtain ⟨hd, rest, app, m, m1, used1, vq, prev, arr, arr', c⟩ := h.parts
  have hs := c.eq
  subst hs
  exact ⟨rfl, rfl, rfl, rfl, rfl, rfl, rfl, _, rfl, rfl, rfl⟩

def reset (r : Req) : Req := { r with left := r.tot }

/-- the (request id, pair index) sequence in which a list of requests is served when each is served
completely before the next -/
def canon (rs : List Req) : List (Nat × Nat) :=
  rs.flatMap fun r => (List.range r.tot.toNat).map fun k => (r.id, k)

/-- what the head of a queue has consumed so far -/
def headPart : List Req → List (Nat × Nat)
  | [] => []
  | h :: _ => (List.range (h.tot - h.left).toNat).map fun k => (h.id, k)

/-- the consumption history of queue `κ`: (request id, pair index) -/
def doneForL (log : List Event) (κ : Key) : List (Nat × Nat) :=
  (log.filter (fun e => e.key = κ)).map fun e => (e.req, e.k)

def issuedForL (issued : List Req) (κ : Key) : List Req := issued.filter (fun r => r.key = κ)

def doneFor (s : State) (κ : Key) : List (Nat × Nat) := doneForL s.log κ

def issuedFor (s : State) (κ : Key) : List Req := issuedForL s.issued κ

def QWf (q : List Req) (κ : Key) : Prop :=
  (∀ r ∈ q, 1 ≤ r.left ∧ r.left ≤ r.tot ∧ r.key = κ) ∧ (∀ r ∈ q.tail, r.left = r.tot)

/-- The invariant of one queue behind (ii)–(iv), on plain lists: the requests `iss` issued for it are the retired
ones `fin`, in issue order, followed by the queue `q`; its history `done` serves `fin` completely, request after
request, and then the head of the queue as far as it got; only the head of the queue has been started. -/
def QInv1 (κ : Key) (iss : List Req) (done : List (Nat × Nat)) (q : List Req) : Prop :=
  ∃ fin : List Req, iss = fin ++ q.map reset ∧ done = canon fin ++ headPart q ∧ QWf q κ

def PosReqs (s : State) : Prop := ∀ r ∈ s.issued, 1 ≤ r.tot

/-- every queue is consistent with the history, provided every request asks for at least one pair -/
def AllQL (issued : List Req) (log : List Event) (queues : List (Key × List Req)) : Prop :=
  (∀ r ∈ issued, 1 ≤ r.tot) → ∀ κ, QInv1 κ (issuedForL issued κ) (doneForL log κ) (getQ queues κ)

theorem canon_append (a b : List Req) : canon (a ++ b) = canon a ++ canon b := by
  simp [canon, List.flatMap_append]

theorem canon_single (r : Req) : canon [r] = (List.range r.tot.toNat).map fun k => (r.id, k) := by
  simp [canon]

/-- a tail request has consumed nothing -/
theorem headPart_of_fresh {q : List Req} (h : ∀ r ∈ q, r.left = r.tot) : headPart q = [] := by
  cases q with
  | nil => rfl
  | cons r t => simp [headPart, h r (by simp)]

theorem QInv1.enq {κ : Key} {iss : List Req} {done : List (Nat × Nat)} {q : List Req} (rq : Req)
    (hkey : rq.key = κ) (hleft : rq.left = rq.tot) (hn : 1 ≤ rq.tot) (h : QInv1 κ iss done q) :
    QInv1 κ (iss ++ [rq]) done (q ++ [rq]) := by
  obtain ⟨fin, a, b, c1, c2⟩ := h
  have hreset : reset rq = rq := by cases rq; simp only [reset]; simp at hleft; simp [hleft]
  refine ⟨fin, by simp [a, hreset], ?_, fun r hr => ?_, fun r hr => ?_⟩
  · -- the head of a non-empty queue stays; a request entering an empty queue has consumed nothing
    cases q with
    | nil => simpa [headPart, hleft] using b
    | cons h t => exact b
  · rcases List.mem_append.1 hr with hr | hr
    · exact c1 r hr
    · rw [List.mem_singleton.1 hr]; exact ⟨by omega, by omega, hkey⟩
  · cases q with
    | nil => simp at hr
    | cons h t =>
      rcases List.mem_append.1 (show r ∈ t ++ [rq] from hr) with hr | hr
      · exact c2 r hr
      · rw [List.mem_singleton.1 hr]; exact hleft

theorem QInv1.consume {κ : Key} {iss : List Req} {done : List (Nat × Nat)} {hd : Req} {rest : List Req}
    (hk0 : 0 ≤ hd.tot - hd.left) (h : QInv1 κ iss done (hd :: rest)) :
    QInv1 κ iss (done ++ [(hd.id, (hd.tot - hd.left).toNat)])
      (if hd.left - 1 = 0 then rest else { hd with left := hd.left - 1 } :: rest) := by
  obtain ⟨fin, a, b, c1, c2⟩ := h
  have hh := c1 hd (by simp)
  have hrest : headPart rest = [] := headPart_of_fresh c2
  by_cases hl : hd.left - 1 = 0
  · -- last pair: the request is retired, its pairs `0 … tot-1` are complete
    rw [if_pos hl]
    have e1 : (hd.tot - hd.left).toNat + 1 = hd.tot.toNat := by omega
    refine ⟨fin ++ [reset hd], by simp [a], ?_, fun x hx => c1 x (List.mem_cons_of_mem _ hx),
      fun x hx => c2 x (List.mem_of_mem_tail hx)⟩
    rw [b, canon_append, canon_single, hrest]
    simp only [headPart, reset, List.append_nil, List.append_assoc]
    rw [← e1, List.range_succ, List.map_append]; rfl
  · rw [if_neg hl]
    have e1 : (hd.tot - (hd.left - 1)).toNat = (hd.tot - hd.left).toNat + 1 := by omega
    refine ⟨fin, by simp [a, reset], ?_, fun x hx => ?_, c2⟩
    · rw [b]; simp only [headPart, e1, List.range_succ, List.map_append, List.append_assoc]; rfl
    · rcases List.mem_cons.1 hx with hx | hx
      · subst hx; exact ⟨by simp only; omega, by simp only; omega, hh.2.2⟩
      · exact c1 x (List.mem_cons_of_mem _ hx)

theorem issuedForL_snoc (issued : List Req) (rq : Req) (κ : Key) :
    issuedForL (issued ++ [rq]) κ = issuedForL issued κ ++ (if rq.key = κ then [rq] else []) := by
  by_cases h : rq.key = κ <;> simp [issuedForL, List.filter_append, h]

theorem doneForL_snoc (log : List Event) (e : Event) (κ : Key) :
    doneForL (log ++ [e]) κ = doneForL log κ ++ (if e.key = κ then [(e.req, e.k)] else []) := by
  by_cases h : e.key = κ <;> simp [doneForL, List.filter_append, h]

theorem allQL_init : AllQL [] [] [] := fun _ _ =>
  ⟨[], by simp [issuedForL, getQ], by simp [doneForL, getQ, canon, headPart], by simp [QWf, getQ]⟩

/-- which queue a new request or a consumption concerns is read off the three projections -/
theorem allQL_enqueue {issued : List Req} {log : List Event} {queues : List (Key × List Req)} (rq : Req)
    (hleft : rq.left = rq.tot) (h : AllQL issued log queues) :
    AllQL (issued ++ [rq]) log (setQ queues rq.key (getQ queues rq.key ++ [rq])) := fun hpos κ => by
  have h' := h (fun r hr => hpos r (List.mem_append_left _ hr)) κ
  rw [issuedForL_snoc]
  by_cases hk : κ = rq.key
  · subst hk; rw [getQ_setQ_same, if_pos rfl]; exact h'.enq rq rfl hleft (hpos rq (by simp))
  · rw [getQ_setQ_ne _ _ _ _ hk, if_neg (Ne.symm hk), List.append_nil]; exact h'

theorem allQL_consume {issued : List Req} {log : List Event} {queues : List (Key × List Req)} {hd : Req}
    {rest : List Req} (e : Event) (hq : getQ queues e.key = hd :: rest) (hk0 : 0 ≤ hd.tot - hd.left)
    (her : e.req = hd.id) (hekk : e.k = (hd.tot - hd.left).toNat) (h : AllQL issued log queues) :
    AllQL issued (log ++ [e])
      (setQ queues e.key (if hd.left - 1 = 0 then rest else { hd with left := hd.left - 1 } :: rest)) :=
  fun hpos κ => by
  have h' := h hpos κ
  rw [doneForL_snoc]
  by_cases hk : κ = e.key
  · subst hk; rw [getQ_setQ_same, if_pos rfl, her, hekk]; exact (hq ▸ h').consume hk0
  · rw [getQ_setQ_ne _ _ _ _ hk, if_neg (Ne.symm hk), List.append_nil]; exact h'

/-- replacing the middle `X` of `P ++ X ++ S` by a list of the same length -/
theorem splice_spec {α} (P X X' S : List α) (hX : X'.length = X.length) :
    (P ++ (X' ++ S)).length = (P ++ (X ++ S)).length ∧
    (∀ j, j < X'.length → (P ++ (X' ++ S))[P.length + j]? = X'[j]?) ∧
    (∀ i, i < P.length ∨ P.length + X.length ≤ i → (P ++ (X' ++ S))[i]? = (P ++ (X ++ S))[i]?) := by
  refine ⟨by simp only [List.length_append, hX], fun j hj => ?_, fun i hi => ?_⟩
  · rw [List.getElem?_append_right (Nat.le_add_right _ _), Nat.add_sub_cancel_left,
      List.getElem?_append_left hj]
  · rcases hi with hi | hi
    · rw [List.getElem?_append_left hi, List.getElem?_append_left hi]
    · have h1 : P.length ≤ i := Nat.le_trans (Nat.le_add_right _ _) hi
      have h2 : X.length ≤ i - P.length := Nat.le_sub_of_add_le' hi
      rw [List.getElem?_append_right h1, List.getElem?_append_right (hX ▸ h2),
        List.getElem?_append_right h1, List.getElem?_append_right h2, hX]

theorem storeSlice_spec {okf : Nat} {arr arr' : Arr} {k : Nat} {vals : List Int}
    (h : storeSlice okf arr k vals = some arr') :
    arr'.length = arr.length ∧
    (∀ j, j < vals.length → arr'[k * okf + j]? = (vals[j]?).map some) ∧
    (∀ i, (i < k * okf ∨ k * okf + okf ≤ i) → arr'[i]? = arr[i]?) := by
  unfold storeSlice at h
  generalize k * okf = n at h ⊢
  split at h
  · rename_i hlen
    cases h
    by_cases hn : n ≤ arr.length
    · -- `arr` is `take n ++ middle ++ rest`, and `vals` has the length of the middle
      have hP : (arr.take n).length = n := List.length_take_of_le hn
      have hm := List.length_take_le okf (arr.drop n)
      obtain ⟨h1, h2, h3⟩ := splice_spec (arr.take n) ((arr.drop n).take okf) (vals.map some)
        ((arr.drop n).drop okf) (by rw [List.length_map, hlen])
      rw [List.take_append_drop, List.take_append_drop] at h1 h3
      rw [List.append_assoc, ← List.drop_drop]
      refine ⟨h1, fun j hj => ?_, fun i hi => h3 i (hi.imp (fun h => hP.symm ▸ h) fun h =>
        hP.symm ▸ Nat.le_trans (Nat.add_le_add_left hm _) h)⟩
      rw [← List.getElem?_map, ← h2 j (by rwa [List.length_map]), hP]
    · have hn' : arr.length ≤ n := Nat.le_of_lt (Nat.lt_of_not_le hn)
      have hv : vals = [] := List.eq_nil_of_length_eq_zero (by
        rw [← hlen, List.drop_of_length_le hn', List.take_nil]; rfl)
      subst hv
      rw [List.take_of_length_le hn', List.drop_of_length_le (Nat.le_trans hn' (Nat.le_add_right _ _))]
      simp
  · cases h

theorem allocPos_nonneg {m : AppMem} {v : Int} {i : Nat} (h : allocPos m v = some i) (hv : 0 ≤ v) :
    i = v.toNat := by
  obtain ⟨h1, h2, _⟩ := allocPos_some h
  rw [pyIdx_eq, Exec.pyIdx_nonneg hv (Int.not_le.mp h1)] at h2
  exact (Option.some.inj h2).symm

/-- what one consumption writes: the response's fields into the slice of pair `tot - left` of the
consuming request's result array, and for a keep response the physical qubit into the (free) unit-module
position named by the qubit array -/
theorem Consumed.effect {okf : Nat} {s s' : State} {r : Resp} (h : Consumed okf s r s') :
    ∃ (hd : Req) (rest : List Req) (app : Nat) (m m' : AppMem) (arr' : Arr),
      getQ s.queues (keyOf s.nodeId r) = hd :: rest ∧
      getSub s.subs hd.sub = some app ∧ getApp s.apps app = some m ∧ getApp s'.apps app = some m' ∧
      getArr m'.arrays hd.resAddr = some arr' ∧
      (∀ j, j < r.fields.length →
        arr'[(hd.tot - hd.left).toNat * okf + j]? = (r.fields[j]?).map some) ∧
      (r.ty = .M → m'.unit = m.unit) ∧
      (r.ty = .K → ∃ qa qarr v i, hd.qAddr = some qa ∧ getArr m.arrays qa = some qarr ∧
        qarr[(hd.tot - hd.left).toNat]? = some (some v) ∧ (0 ≤ v → i = v.toNat) ∧
        m.unit.getD i none = none ∧ m'.unit.getD i none = some r.phys ∧
        ∀ j, j ≠ i → m'.unit.getD j none = m.unit.getD j none) := by
  obtain ⟨hd, rest, app, m, m1, used1, vq, prev, arr, arr', c⟩ := h.parts
  refine ⟨hd, rest, app, m, { m1 with arrays := setArr m1.arrays hd.resAddr arr' }, arr', c.queue, c.sub, c.mem,
    by rw [c.eq]; exact getApp_setApp_same _ _ _, getArr_setArr_same _ _ _, (storeSlice_spec c.store).2.1, ?_, ?_⟩
  · intro hty; rw [(c.meas hty).1]
  · intro hty
    obtain ⟨qa, qarr, v, i, h1, h2, h3, _, hi, hm1, _, _, _⟩ := c.keep hty
    obtain ⟨hfree, hlt⟩ := allocPos_free hi
    refine ⟨qa, qarr, v, i, h1, h2, h3, ?_, hfree, ?_, ?_⟩
    · exact allocPos_nonneg hi
    · rw [hm1]; exact getD_set_self hlt
    · intro j hj; rw [hm1]; exact getD_set_ne hj

theorem handlePending_idle {okf : Nat} {s s' : State} (h : handlePending okf s = some s') :
    ∀ x ∈ s'.pending, tryHandle okf s' x = .no := by
  have := handlePendingFuel_idle (s.pending.length + 1) s s' (Nat.lt_succ_self _) h
  exact scan_idle _ _ this

theorem Consumed.keeps {okf : Nat} {s s' : State} {r : Resp} (h : Consumed okf s r s') : Keeps s s' := by
  obtain ⟨hd, rest, app, m, m1, used1, vq, prev, arr, arr', c⟩ := h.parts
  intro a i p hp
  rw [mapped_setApp (by rw [c.eq]) a i]
  by_cases ha : a = app
  · subst ha
    simp only [if_true]
    have hp' : m.unit.getD i none = some p := by
      unfold mapped at hp; rw [c.mem] at hp; exact hp
    cases hty : r.ty with
    | other => exact absurd hty c.ty
    | M => rw [(c.meas hty).1]; exact hp'
    | K =>
      obtain ⟨qa, qarr, v, j, _, _, _, _, hj, hm1, _, _, _⟩ := c.keep hty
      rw [hm1]
      simp only
      have hfree := (allocPos_free hj).1
      have : i ≠ j := by
        intro hij; subst hij; rw [hfree] at hp'; cases hp'
      rw [getD_set_ne this]; exact hp'
  · simp only [ha, if_false]; exact hp

theorem Micro.keeps {okf : Nat} {s s' : State} (h : Micro okf s s') : Keeps s s' := by
  obtain ⟨pre, r, rest, s1, _, hc, _, hs⟩ := h
  intro a i p hp
  have := hc.keeps a i p hp
  subst hs
  exact this

theorem Micros.keeps {okf : Nat} {s s' : State} (h : Micros okf s s') : Keeps s s' := by
  induction h with
  | refl => exact fun _ _ _ hp => hp
  | cons hm _ ih => exact fun a i p hp => ih a i p (hm.keeps a i p hp)

theorem step_noOverwrite {okf : Nat} {s s' : State} {a : Action} (h : step okf s a = some s') :
    NoOverwrite s s' := by
  cases step_shape h with
  | mem _ hno => exact hno
  | enq κ sub res q n h => subst h; exact (keeps_of_apps_eq rfl).noOverwrite
  | deliver r _ hm => exact fun a i p hp => .inl (hm.keeps a i p hp)
  | poll hm => exact hm.keeps.noOverwrite

end NQ.Epr
