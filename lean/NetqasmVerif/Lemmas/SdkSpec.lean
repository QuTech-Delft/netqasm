/-
What a successful run of the builder guarantees, function by function: `Spec` for `emit` (`emit_spec`, one induction
over `emit_induct`; the leaf `emitQop_spec`), `Init` for the array initialisations of a flush (`initArray_spec`,
`initArrays_spec`). The single properties (`emit_active`, `emit_stat`, `emit_lens`, `emit_fresh`, `emit_writes`,
`emit_ok`, `flush_active`) are read off these.
-/
import NetqasmVerif.Lemmas.SdkHelper
namespace NQ.Sdk

/-- what building `op` from `m` to `m'` with commands `cs` guarantees; the hypotheses under which a part holds
stand in front of it -/
structure Spec (m : Mem) (op : Host) (m' : Mem) (cs : List PCmd) : Prop where
  stat : Stat m m' op cs ∧ m'.arrLens = m.arrLens ++ (declsOf m.arrLens.length op).map (·.len)
  fresh : m.lbl.length = 5 → Fresh m m' cs
  act : Completed op → m'.active = m.active
  writes : Completed op → WritesOK m.active m'.handles (addTargets op) cs
  ok : MemOK m → MemOK m' ∧ CodeOK cs

theorem emitQop_spec {m m' : Mem} {g : List Nat} {tgt : MTgt} {cs : List PCmd}
    (h : emitQop m g tgt = .ok (m', cs)) : Spec m (.qop g tgt) m' cs := by
  rcases emitQop_eq_ok h with ⟨m0, f, m1, k, m2, st, h0, h1, h2, rfl, rfl⟩ | ⟨m1, k, rfl, h1, rfl, rfl⟩
  · obtain ⟨hk, rfl⟩ := firstUnusedMeas_spec h1
    have s2 := accessCmds_spec f h2
    have hm : (m2.measUsed.set k false) = m0.measUsed := by rw [s2.same.meas]; exact set_restore hk
    have e0 : m0.active = m.active ∧ m0.lbl = m.lbl ∧ m0.handles = m.handles := by
      rcases h0 with ⟨_, _, rfl⟩ | ⟨_, rfl⟩ <;> exact ⟨rfl, rfl, rfl⟩
    have ha : m2.active = m.active := (s2.took : m2.active = _).trans e0.1
    refine ⟨?_, fun hl => .nolabel hl (s2.same.lbl.trans e0.2.1)
        (by rw [labelsIn_append, measHead_nolab, s2.nolab]; rfl), fun _ => ha,
      fun _ => (WritesOK.of_bank (measHead_writes g _)).append (.of_tmp_dst (e0.1 ▸ s2.writes) (.inl (by simp [M]))),
      fun ok => ?_⟩
    · rcases h0 with ⟨rfl, _, rfl⟩ | ⟨rfl, rfl⟩
      · exact ⟨⟨⟨[], by simp [s2.same.handles], rfl⟩, ⟨[1], by simp [s2.same.lens], rfl⟩, by simp [s2.same.aret, declsOf],
          by simp [emits, measHead], fun _ => ⟨hm, s2.same.rret⟩⟩, by simp [s2.same.lens, declsOf]⟩
      · exact ⟨⟨⟨[], by simp [s2.same.handles], rfl⟩, ⟨[], by simp [s2.same.lens], rfl⟩, by simp [s2.same.aret, declsOf],
          by simp [emits, measHead], fun _ => ⟨hm, s2.same.rret⟩⟩, by simp [s2.same.lens, declsOf]⟩
    · have ok0 : MemOK m0 := by
        rcases h0 with ⟨_, _, rfl⟩ | ⟨_, rfl⟩
        · exact ok.withArr _ _
        · exact ok
      obtain ⟨ok1, hk⟩ := ok0.firstUnusedMeas h1
      exact ⟨(s2.memOK ok1).clearMeas k,
        (measHead_ok g hk).append (s2.plain ok1 fun x e => Option.some.inj e ▸ regOK_M hk).code⟩
  · obtain ⟨hk, rfl⟩ := firstUnusedMeas_spec h1
    refine ⟨⟨⟨⟨[(M k, true)], rfl, rfl⟩, ⟨[], by simp [bindHandle], rfl⟩, by simp [bindHandle, declsOf],
        by simp [emits, measHead], fun hb => absurd rfl hb⟩, by simp [bindHandle, declsOf]⟩,
      fun hl => .nolabel hl rfl (measHead_nolab g _), fun _ => rfl, fun _ => .of_bank (measHead_writes g _), fun ok => ?_⟩
    obtain ⟨ok1, hk⟩ := ok.firstUnusedMeas h1
    exact ⟨(ok1.withRet (regOK_M hk)).bind (regOK_M hk) true, measHead_ok g hk⟩

/-- the tables after one of the three counted loops, from those after its body -/
theorem loopShape_stat {m m1 m2 m4 : Mem} {i : Nat} {s e d : Int} {cs : List PCmd} {b : Bool}
    {body op : Host} {rg : Option Nat} (h1 : takeAt m rg = .ok (m1, i))
    (ih : Stat (bindHandle m1 (R i) b) m2 body cs ∧ m2.arrLens = (bindHandle m1 (R i) b).arrLens ++
      (declsOf (bindHandle m1 (R i) b).arrLens.length body).map (·.len))
    (h4 : release (buildLoop m2 s e d (R i) cs).1 i = .ok m4)
    (hh : hCount op = 1 + hCount body) (hd : ∀ n, declsOf n op = declsOf n body)
    (he : emits op = emits body) (hb : BodyOK op → BodyOK body) :
    Stat m m4 op (buildLoop m2 s e d (R i) cs).2 ∧
      m4.arrLens = m.arrLens ++ (declsOf m.arrLens.length op).map (·.len) := by
  have s1 := takeAt_same h1
  have sl := buildLoop_sameL m2 s e d (R i) cs
  have s4 := release_same h4
  obtain ⟨t, ht, htl⟩ := ih.1.handles
  refine Stat.of_lens ?_ ⟨(R i, b) :: t, ?_, by simp [hh, htl]; omega⟩ ?_ ?_ ?_
  · rw [s4.lens, sl.lens, ih.2, hd]; simp [bindHandle, s1.lens]
  · rw [s4.handles, sl.handles, ht]; simp [bindHandle, s1.handles]
  · rw [s4.aret, sl.aret, ih.1.aret, hd]; simp [bindHandle, s1.aret, s1.lens]
  · rw [buildLoop_nil, ih.1.empty, he]
  · intro hbo
    have := ih.1.body (hb hbo)
    exact ⟨by rw [s4.meas, sl.meas, this.1]; exact s1.meas, by rw [s4.rret, sl.rret, this.2]; exact s1.rret⟩

theorem emit_spec (op : Host) {m m' : Mem} {cs : List PCmd} (h : emit m op = .ok (m', cs)) : Spec m op m' cs := by
  refine emit_induct (P := Spec) ?skip ?seq ?newArray ?newReg ?qop ?addF ?addR ?ifc ?loop ?untilNil ?untilBody
    ?tryUntil ?epr op h
  case skip =>
    exact fun m => ⟨Stat.of_same (.refl _) rfl (fun _ => rfl) (by simp [emits]), fun hl => .nolabel hl rfl rfl,
      fun _ => rfl, fun _ _ hc => (nomatch hc), fun ok => ⟨ok, .nil⟩⟩
  case seq =>
    intro m m1 m2 a b ca cb _ _ sa sb
    obtain ⟨t, ht, htl⟩ := sa.stat.1.handles
    obtain ⟨t2, ht2, htl2⟩ := sb.stat.1.handles
    refine ⟨Stat.of_lens ?_ ⟨t ++ t2, by rw [ht2, ht]; simp, by simp [hCount, htl, htl2]⟩ ?_ ?_ ?_,
      fun hl => (sa.fresh hl).seq (sb.fresh (sa.fresh hl).len), fun hc => (sb.act hc.2).trans (sa.act hc.1),
      fun hc => ?_, fun ok => ⟨(sb.ok (sa.ok ok).1).1, (sa.ok ok).2.append (sb.ok (sa.ok ok).1).2⟩⟩
    · rw [sb.stat.2, sa.stat.2]; simp [declsOf, declsOf_length]
    · rw [sb.stat.1.aret, sa.stat.1.aret, sa.stat.2]; simp [declsOf, declsOf_length]
    · simp [emits, sa.stat.1.empty, sb.stat.1.empty]
    · exact fun hb => ⟨((sb.stat.1.body hb.2).1).trans (sa.stat.1.body hb.1).1,
        ((sb.stat.1.body hb.2).2).trans (sa.stat.1.body hb.1).2⟩
    · have wb := sb.writes hc.2
      rw [sa.act hc.1] at wb
      exact ((sa.writes hc.1).mono (Sub.refl _) (ht2 ▸ Ext.append _ _)
        fun k hk => List.mem_append_left _ hk).append
        (wb.mono (Sub.refl _) (Ext.refl _) fun k hk => List.mem_append_right _ hk)
  case newArray =>
    intro m len init n _ hn
    subst hn
    exact ⟨Stat.of_lens (by cases init <;> simp [declsOf]) ⟨[], by simp, rfl⟩ (by cases init <;> rfl)
      (by simp [emits]) fun _ => ⟨rfl, rfl⟩, fun hl => .nolabel hl rfl rfl, fun _ => rfl,
      fun _ _ hc => (nomatch hc), fun ok => ⟨ok.withArr _ _, .nil⟩⟩
  case newReg =>
    intro m m1 i v h1
    have s1 := takeReg_same h1
    refine ⟨Stat.of_lens (by simp [bindHandle, s1.lens, declsOf])
      ⟨[(R i, true)], by simp [bindHandle, s1.handles], rfl⟩ (by simp [bindHandle, s1.aret, declsOf])
      (by simp [emits]) fun hb => hb.elim, fun hl => .nolabel hl s1.lbl rfl, False.elim, False.elim, fun ok => ?_⟩
    obtain ⟨ok1, hi⟩ := ok.takeReg h1
    have hr := regOK_R hi
    exact ⟨(ok1.withRet hr).bind hr true, Plain.code (by simp [cmdOK, isQCmd, isQ, hr, shapeOK])⟩
  case qop =>
    exact emitQop_spec
  case addF =>
    intro m m' f o md cs h
    have s := emitAddF_spec h
    refine ⟨Stat.of_same s.same.toL rfl (fun _ => rfl) ?_, fun hl => .nolabel hl s.same.lbl s.nolab, fun _ => s.took,
      fun _ => .of_tmp s.writes, fun ok => ⟨s.memOK ok, (s.plain ok nofun).code⟩⟩
    obtain ⟨_, _, _, _, _, _, _, _, _, _, _, _, _, _, _, _, _, rfl⟩ := emitAddF_eq_ok h
    simp [emits]
  case addR =>
    intro m m' hh o md cs h
    obtain ⟨r, hr, s⟩ := emitAddR_spec h
    refine ⟨Stat.of_same s.same.toL rfl (fun _ => rfl) ?_, fun hl => .nolabel hl s.same.lbl s.nolab, fun _ => s.took,
      fun _ c hc x hx _ _ => ?_, fun ok => ⟨s.memOK ok, (s.plain ok fun x e => Option.some.inj e ▸ ok.handle hr).code⟩⟩
    · obtain ⟨_, _, _, _, _, _, _, _, rfl⟩ := emitAddR_eq_ok h
      simp [emits]
    · -- an active register that is written is the register of the handle: the `add` of `RegFuture.add`
      rcases s.writes c hc x hx with e | e
      · refine ⟨hh, List.mem_singleton.mpr rfl, true, ?_⟩
        rw [s.same.handles, Option.some.inj e]
        exact handle_get hr
      · exact absurd ‹_› e.not_active
  case ifc =>
    intro m m1 m' cb c a b body bc cs _ sb h
    rcases buildCondition_eq_ok h with ⟨rfl, rfl, rfl⟩ | ⟨hne, st, l, h1, rfl⟩
    · exact ⟨⟨⟨sb.stat.1.handles, sb.stat.1.lens, sb.stat.1.aret, sb.stat.1.empty, sb.stat.1.body⟩, sb.stat.2⟩,
        sb.fresh, sb.act, sb.writes, sb.ok⟩
    · obtain ⟨k, rfl⟩ := branchCmds_spec h1
      obtain ⟨t, ht, htl⟩ := sb.stat.1.handles
      have hem : emits body = true := by
        cases he : emits body with
        | true => rfl
        | false => exact absurd (sb.stat.1.empty.mpr he) hne
      refine ⟨Stat.of_lens (k.same.lens.trans sb.stat.2) ⟨t, k.same.handles.trans ht, htl⟩
        (k.same.aret.trans sb.stat.1.aret) (by simp [emits, hem])
        fun hb => ⟨k.same.meas.trans (sb.stat.1.body hb).1, k.same.rret.trans (sb.stat.1.body hb).2⟩,
        fun hl => ((sb.fresh hl).seq (Fresh.label m1 0 (sb.fresh hl).len (by omega))).congr k.same.lbl
          (by simp [labelsIn_append, labelsIn, k.nolab]),
        fun hc => (k.took : m'.active = _).trans (sb.act hc), fun hc => ?_, fun ok => ?_⟩
      · rw [k.same.handles]
        have ws : WritesTmp m1.active none st := k.writes
        rw [sb.act hc] at ws
        exact ((WritesOK.of_tmp ws).append (sb.writes hc)).append
          (.nowrite fun c hc => by cases List.mem_singleton.mp hc; rfl)
      · obtain ⟨ok1, c1⟩ := sb.ok ok
        exact ⟨k.memOK (ok1.newLabel 0), ((k.plain (ok1.newLabel 0) nofun).code.append c1).append
          (Plain.code (by simp [cmdOK, isQCmd, show (newLabel m1 0).2.kind = 0 from rfl]))⟩
  case loop =>
    intro m op rg b s e d body hop m1 i m2 cs m4 h1 _ ih h4
    have s1 := takeAt_spec h1
    have e1 : m.lbl = (bindHandle m1 (R i) b).lbl := (takeAt_same h1).lbl.symm
    refine ⟨by cases hop <;> exact loopShape_stat h1 ih.stat h4 rfl (fun _ => rfl) rfl id,
      fun hl => (buildLoop_fresh s e d (R i) ((ih.fresh (e1 ▸ hl)).congr_left e1)).congr (release_same h4).lbl rfl,
      fun hc => release_after_take s1.1 (by rw [buildLoop_active, ih.act (hop.completed hc)]; exact s1.2.1) h4,
      fun hc => ?_, fun ok => ?_⟩
    · rw [(release_same h4).handles, (buildLoop_sameL _ _ _ _ _ _).handles]
      refine buildLoop_writes m2 s e d i cs ⟨rfl, s1.1⟩ ?_
      have hb := ih.writes (hop.completed hc)
      cases hop <;> exact hb.mono (active_after_take h1 : Sub m.active m1.active) (Ext.refl _) (fun _ h => h)
    · obtain ⟨ok1, hi⟩ := ok.takeAt h1
      obtain ⟨ok2, c2⟩ := ih.ok (ok1.bind (regOK_R hi) _)
      exact ⟨(ok2.buildLoop _ _ _ _ _).release h4,
        buildLoop_ok (fun _ => Plain.code) (fun _ _ => CodeOK.append) _ _ _ _ (regOK_R hi) c2⟩
  case untilNil =>
    intro m m1 i m2 m3 n body ef ev cl h1 _ sb h3
    have s1 := takeReg_same h1
    have s3 := release_same h3
    have t1 := takeReg_spec h1
    have hem : emits body = false := sb.stat.1.empty.mp rfl
    have e1 : m.lbl = (bindHandle m1 (R i) true).lbl := s1.lbl.symm
    obtain ⟨t, ht, htl⟩ := sb.stat.1.handles
    refine ⟨Stat.of_lens ?_ ⟨(R i, true) :: t, ?_, by simp [hCount, hem, htl]; omega⟩ ?_ (by simp [emits, hem]) ?_,
      fun hl => ((sb.fresh (e1 ▸ hl)).congr_left e1).congr s3.lbl rfl,
      fun hc => release_after_take t1.1 (by rw [sb.act hc.1]; exact t1.2.1) h3,
      fun _ _ hc => (nomatch hc), fun ok => ?_⟩
    · rw [s3.lens, sb.stat.2]; simp [bindHandle, s1.lens, declsOf, hem]
    · rw [s3.handles, ht]; simp [bindHandle, s1.handles]
    · rw [s3.aret, sb.stat.1.aret]; simp [bindHandle, s1.aret, s1.lens, declsOf, hem]
    · intro hb
      have := sb.stat.1.body hb.1
      exact ⟨by rw [s3.meas, this.1]; exact s1.meas, by rw [s3.rret, this.2]; exact s1.rret⟩
    · obtain ⟨ok1, hi⟩ := ok.takeReg h1
      exact ⟨(sb.ok (ok1.bind (regOK_R hi) true)).1.release h3, CodeOK.nil⟩
  case untilBody =>
    intro m m1 i m2 cs m5 brk m6 clc m7 n body ef ev cl h1 _ hne sb h5 _ sc h7
    have s1 := takeReg_same h1
    have t1 := takeReg_spec h1
    have k5 := breakCmds_spec (by decide : 4 < 5) h5
    -- the two `newLabel`s between body and break commands touch the label counters only
    have s5 : SameButL m2 m5 := ((newLabel_sameL m2 3).trans (newLabel_sameL _ 4)).trans k5.same.toL
    have s7 := release_same h7
    have hem : emits body = true := by
      cases he : emits body with
      | true => rfl
      | false => exact absurd (sb.stat.1.empty.mpr he) hne
    have e1 : m.lbl = (bindHandle m1 (R i) true).lbl := s1.lbl.symm
    have hi : TmpIn m.active (R i) := ⟨rfl, t1.1⟩
    have up := active_after_take (rg := none) h1
    obtain ⟨t, ht, htl⟩ := sb.stat.1.handles
    obtain ⟨t2, ht2, htl2⟩ := sc.stat.1.handles
    refine ⟨Stat.of_lens ?_ ⟨(R i, true) :: (t ++ t2), ?_, by simp [hCount, hem, htl, htl2]; omega⟩ ?_
      (by simp [emits, hem, loopUntilEntry]) ?_, fun hl => ?_, fun hc => ?_, fun hc => ?_, fun ok => ?_⟩
    · rw [s7.lens, sc.stat.2, s5.lens, sb.stat.2]
      simp [bindHandle, s1.lens, declsOf, hem, declsOf_length]
    · rw [s7.handles, ht2, s5.handles, ht]; simp [bindHandle, s1.handles]
    · rw [s7.aret, sc.stat.1.aret, s5.aret, s5.lens, sb.stat.1.aret, sb.stat.2]
      simp [bindHandle, s1.aret, s1.lens, declsOf, hem, declsOf_length]
    · intro hb
      have x := sb.stat.1.body hb.1
      have y := sc.stat.1.body hb.2
      exact ⟨by rw [s7.meas, y.1, s5.meas, x.1]; exact s1.meas, by rw [s7.rret, y.2, s5.rret, x.2]; exact s1.rret⟩
    · have fb := (sb.fresh (e1 ▸ hl)).congr_left e1
      have f3 := Fresh.label m2 3 fb.len (by omega)
      have f4 := Fresh.label (newLabel m2 3).1 4 f3.len (by omega)
      have e5 : m5.lbl = (newLabel (newLabel m2 3).1 4).1.lbl := k5.same.lbl
      have fc := (sc.fresh (by rw [e5]; exact f4.len)).congr_left e5.symm
      refine ((((fb.seq f3).seq f4).seq fc).congr s7.lbl rfl).perm ?_
      -- the labels are generated after the body but `LOOP` is placed in front of it
      simp only [labelsIn_append, labelsIn, loopUntilEntry, loopUntilExit, k5.nolab,
        List.nil_append, List.cons_append, List.append_nil]
      have p1 : ([(newLabel m2 3).2] ++ labelsIn cs).Perm (labelsIn cs ++ [(newLabel m2 3).2]) :=
        List.perm_append_comm
      have p2 : (labelsIn clc ++ [(newLabel (newLabel m2 3).1 4).2]).Perm
          ([(newLabel (newLabel m2 3).1 4).2] ++ labelsIn clc) := List.perm_append_comm
      simpa [List.append_assoc] using List.Perm.append p1 p2
    · refine release_after_take t1.1 ?_ h7
      rw [sc.act hc.2, (k5.took : m5.active = _)]
      exact (sb.act hc.1).trans t1.2.1
    · have a2 : m2.active = m1.active := sb.act hc.1
      have wc := sc.writes hc.2
      rw [(k5.took : m5.active = _)] at wc
      rw [s7.handles]
      refine ((((WritesOK.of_only hi (loopEntry_only _ _ _ _ _)).append ?_).append ?_).append ?_).append
        (.of_only hi (loopExit_only _ _ _ _))
      · exact (sb.writes hc.1).mono up (s5.handles ▸ ht2 ▸ Ext.append _ _) fun k hk => List.mem_append_left _ hk
      · exact (WritesOK.of_tmp k5.writes).mono (a2 ▸ up) (Ext.refl _) (fun _ h => h)
      · exact wc.mono (a2 ▸ up) (Ext.refl _) fun k hk => List.mem_append_right _ hk
    · obtain ⟨ok1, hi⟩ := ok.takeReg h1
      have hr := regOK_R hi
      obtain ⟨ok2, c2⟩ := sb.ok (ok1.bind hr true)
      have ok4 := (ok2.newLabel 3).newLabel 4
      obtain ⟨ok6, c6⟩ := sc.ok (k5.memOK ok4)
      exact ⟨ok6.release h7,
        ((((plain_loopEntry hr 0 _ (by decide : 4 < 5) (by decide : 3 < 5)).code.append c2).append
          (k5.plain ok4 nofun).code).append c6).append (plain_loopExit hr 1 (by decide : 4 < 5) (by decide : 3 < 5)).code⟩
  case tryUntil =>
    exact fun _ sb => ⟨⟨⟨sb.stat.1.handles, sb.stat.1.lens, sb.stat.1.aret, sb.stat.1.empty, sb.stat.1.body⟩, sb.stat.2⟩,
      sb.fresh, sb.act, sb.writes, sb.ok⟩
  case epr =>
    intro m m1 evs held h1
    obtain ⟨hinv, _, s1⟩ := emitEprH_inv _ _ _ _ _ (eprInv_base m) h1
    exact ⟨Stat.of_same s1.toL rfl (fun _ => rfl) (by simp [emits]), fun hl => .nolabel hl s1.lbl rfl,
      fun hc => emitEprH_balanced hc h1, fun _ _ hc => (nomatch hc),
      fun ok => ⟨ok.of_same s1 hinv.len, .nil⟩⟩

theorem emit_active (op : Host) (m m' : Mem) (cs : List PCmd) (hc : Completed op)
    (h : emit m op = .ok (m', cs)) : m'.active = m.active := (emit_spec op h).act hc

theorem emit_stat (op : Host) (m m' : Mem) (cs : List PCmd) (h : emit m op = .ok (m', cs)) :
    Stat m m' op cs := (emit_spec op h).stat.1

theorem emit_lens (op : Host) (m m' : Mem) (cs : List PCmd) (h : emit m op = .ok (m', cs)) :
    m'.arrLens = m.arrLens ++ (declsOf m.arrLens.length op).map (·.len) := (emit_spec op h).stat.2

theorem emit_fresh (op : Host) (m m' : Mem) (cs : List PCmd) (hl : m.lbl.length = 5)
    (h : emit m op = .ok (m', cs)) : Fresh m m' cs := (emit_spec op h).fresh hl

theorem emit_writes (op : Host) (m m' : Mem) (cs : List PCmd) (hc : Completed op)
    (h : emit m op = .ok (m', cs)) : WritesOK m.active m'.handles (addTargets op) cs := (emit_spec op h).writes hc

theorem emit_ok (op : Host) (m m' : Mem) (cs : List PCmd) (ok : MemOK m) (h : emit m op = .ok (m', cs)) :
    MemOK m' ∧ CodeOK cs := (emit_spec op h).ok ok

/-- what initialising arrays around the pending commands `pend` guarantees -/
structure Init (m m' : Mem) (pend out : List PCmd) : Prop where
  act : m'.active = m.active
  same : SameButL m m'
  fresh : ∀ {m0}, Fresh m0 m pend → Fresh m0 m' out
  ok : MemOK m → Plain pend → MemOK m' ∧ Plain out

theorem Init.trans {m m1 m2 : Mem} {pend p1 out : List PCmd} (h1 : Init m m1 pend p1) (h2 : Init m1 m2 p1 out) :
    Init m m2 pend out :=
  ⟨h2.act.trans h1.act, h1.same.trans h2.same, fun hp => h2.fresh (h1.fresh hp),
    fun ok hp => h2.ok (h1.ok ok hp).1 (h1.ok ok hp).2⟩

theorem initArray_spec {m m' : Mem} {pend out : List PCmd} {d : ArrDecl}
    (h : initArray m pend d = .ok (m', out)) : Init m m' pend out := by
  have hdecl : Plain [.instr .array [.lit d.len, .addr d.addr]] := by simp [cmdOK, isQCmd, isQ, shapeOK]
  rcases initArray_eq_ok h with ⟨rfl, cs, rfl, hcs⟩ | ⟨vs, v, i, m1, _, hi, h1, h3, rfl⟩
  · have hn : labelsIn cs = [] ∧ Plain cs := by
      rcases hcs with rfl | ⟨vs, rfl⟩
      · exact ⟨rfl, Plain.nil⟩
      · exact ⟨storeInits_nolab _ _ _, storeInits_ok d.addr vs 0⟩
    exact ⟨rfl, .refl _, fun hp => hp.congr rfl (by simp [labelsIn_append, labelsIn, hn.1]),
      fun ok hp => ⟨ok, hp.append (hdecl.append hn.2)⟩⟩
  · have a1 := activate_spec h1
    refine ⟨release_after_take a1.1 (by rw [buildLoop_active, a1.2.1]) h3,
      ((activate_same h1).toL.trans (buildLoop_sameL _ _ _ _ _ _)).trans (release_same h3).toL, fun hp => ?_, fun ok hp => ?_⟩
    · have fl := buildLoop_fresh (0 : Int) (vs.length : Int) 1 (R i)
        (Fresh.nolabel hp.len (activate_same h1).lbl (rfl : labelsIn [PCmd.instr .store [.lit v, .entryR d.addr (R i)]] = []))
      exact (hp.seq fl).congr (release_same h3).lbl (by simp [labelsIn_append, labelsIn])
    · have hr := regOK_R (getInactive_lt ok hi)
      exact ⟨((ok.activate h1).buildLoop _ _ _ _ _).release h3, hdecl.append (hp.append
        (buildLoop_ok (fun _ => id) (fun _ _ => Plain.append) m1 0 vs.length 1 hr
          (by simp [cmdOK, isQCmd, isQ, hr, shapeOK])))⟩

theorem initArrays_spec : ∀ (ds : List ArrDecl) {m m' : Mem} {pend out : List PCmd},
    initArrays m pend ds = .ok (m', out) → Init m m' pend out
  | [], m, m', pend, out, h => by
    cases h; exact ⟨rfl, .refl _, id, fun ok hp => ⟨ok, hp⟩⟩
  | d :: ds, m, m', pend, out, h => by
    simp only [initArrays] at h
    split at h
    · cases h
    · rename_i m1 p1 h1
      exact (initArray_spec h1).trans (initArrays_spec ds h)

theorem flush_active {m m' : Mem} {pend : List PCmd} {sub : Option (List PCmd)}
    (h : flush m pend = .ok (m', sub)) : m'.active = m.active := by
  obtain ⟨m1, _, h1, ⟨rfl, _⟩ | ⟨rfl, _⟩⟩ := flush_eq_ok h <;> exact ((initArrays_spec _ h1).act :)

end NQ.Sdk
