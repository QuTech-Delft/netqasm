/- The composed controller refines the book machine of `Lemmas/EprBook.lean`. -/
import NetqasmVerif.Lemmas.Controller
import NetqasmVerif.Lemmas.EprBook
namespace NQ.Ctl
open NQ NQ.Exec

theorem handleOne_book {cfg : Cfg} {c c1 : CState} (h : handleOne cfg c = .did c1) : Book.Step c.book c1.book := by
  obtain ⟨pre, r, rest, cy, hl, hy, hc1⟩ := scan_did _ _ h
  obtain ⟨hd, _, app, ap, e', _, _, _, _, hh⟩ := tryHandle_yes hy
  -- the view carries the controller's book, and `commit` takes over the book of the EPR model's post-state
  obtain ⟨hd', tl, e, hb⟩ := (Epr.tryHandle_yes hh.epr).book
  subst hc1
  rw [hh.eq]
  exact .consume pre rest hl hb

/-- the response loop, from a book `b` on -/
theorem handlePendingFuel_book {cfg : Cfg} {b : Book} {n : Nat} {c c' : CState} (hb : Book.Steps b c.book)
    (h : handlePendingFuel cfg n c = some c') : Book.Steps b c'.book :=
  handlePendingFuel_induct (fun c1 => Book.Steps b c1.book) (fun _ _ h1 hd => h1.tail (handleOne_book hd)) n c c' hb h

theorem tick_book (cfg : Cfg) (c : CState) (i : Nat) : Book.Steps c.book (tick cfg c i).book := by
  unfold tick
  split
  · exact .refl _
  · split
    · exact .refl _
    · split
      · exact .refl _
      · split
        · exact .refl _
        · split <;> exact .refl _
        · split
          · exact .refl _
          · rename_i c1 pc1 he
            show Book.Steps c.book c1.book
            rcases (eprStep_ok he).2 with h | ⟨κ, res, q, n, h⟩ <;> rw [h]
            · exact .refl _
            · exact .one (.enq c.book κ i res q n)
          · exact .refl _

theorem apply_book {cfg : Cfg} {c c' : CState} {a : CAction} (h : Ctl.apply cfg c a = some c') :
    Book.Steps c.book c'.book := by
  cases a with
  | base op => cases h; exact .refl _
  | spawn a prog => cases h; exact .refl _
  | stackFault i =>
    cases h
    unfold stackFault
    split
    · exact .refl _
    · split <;> exact .refl _
  | tick i => cases h; exact tick_book cfg c i
  | deliver ty remote purpose dir phys fields =>
    exact handlePendingFuel_book (.one (.deliver c.book _ rfl)) h
  | poll => exact handlePendingFuel_book (.refl _) h

theorem Reach.book {cfg : Cfg} {node : Int} {c : CState} (h : Reach cfg node c) : Book.Reach node c.book := by
  induction h with
  | init => exact .init
  | step _ hs ih => exact ih.steps (apply_book hs)

end NQ.Ctl
