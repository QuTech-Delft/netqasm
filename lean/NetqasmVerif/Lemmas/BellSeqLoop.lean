/-
Lemmas (C10): the WHOLE per-pair loop of the post-routine / sequential path and of the
move-to-memory path:

  request; set L 0; l3: beq L n l4;  <wait for pair L>  <correction block>  <post>  <move>
  add L L 1; jmp l3; l4:

with the user's post routine as an arbitrary command list satisfying `PostOk`.
-/
import NetqasmVerif.Lemmas.BellLoopSpec
namespace NQ.Bell
open C10 (ResultsHold)

section templates
variable {code : List Cmd} {mem : Mem} {o : Nat}

/-- `J` times: `s := s + addend` (the multiplication loops of `_add_wait_for_ent_info_cmd`) -/
def mulLoopCode (J s : Nat) (addend : Opd) (K : Int) (a1 a2 : String) : List Cmd :=
  [ .set J 0, .label a1, .beq (.r J) (.imm K) a2, .add s s addend, .add J J (.imm 1), .jmp a1, .label a2 ]

theorem mulLoop_spec {J s : Nat} {addend : Opd} {K : Int} {a1 a2 : String}
    (h : Frag code o (mulLoopCode J s addend K a1 a2)) {k : Nat} (hK : K = (k : Int)) (hsJ : s ≠ J)
    (regs : Nat → Int) (tr : List Ev) :
    ∃ regs', Reaches code mem ⟨o, regs, tr⟩ ⟨o + 7, regs', tr⟩ ∧ (∀ x, x ≠ s → x ≠ J → regs' x = regs x) := by
  -- invariant: the trace and every register but `s`, `J` are as at the start
  obtain ⟨r, _, hr, rfl, hf⟩ := counted_loop (mem := mem) (h.get (j := 0) rfl) (h.get (j := 1) rfl)
    (h.get (j := 2) rfl) (h.get (j := 4) rfl) (h.get (j := 5) rfl) (h.get (j := 6) rfl)
    (h.label (j := 1) rfl) (h.label (j := 6) rfl)
    (fun _ r t => t = tr ∧ ∀ x, x ≠ s → x ≠ J → r x = regs x) (fun _ _ _ _ => hK)
    (fun j _ r t hJ ⟨ht, hf⟩ => ⟨_, t, .head (step_silent (h.get (j := 3) rfl) rfl) (.refl _),
      by rw [upd_other _ _ _ _ hsJ.symm, hJ], ht,
      fun x hs hJ => by rw [upd_other _ _ _ _ hJ, upd_other _ _ _ _ hs, hf x hs hJ]⟩)
    regs tr ⟨rfl, fun x _ hJ => upd_other _ _ _ _ hJ⟩
  exact ⟨r, hr, hf⟩

/-- `_add_wait_for_ent_info_cmd` anywhere in a program: it falls through (the `wait_all` being a
no-op of the semantics) and changes only its four scratch registers -/
theorem waitBlock_spec {ly : Layout} {L s t e J : Nat} {a1 a2 b1 b2 : String} {res : Int}
    (h : Frag code o (waitBlockCode ly L s t e J a1 a2 b1 b2 res))
    {k : Nat} (hK : ly.okFields = (k : Int)) (hsJ : s ≠ J) (heJ : e ≠ J) (regs : Nat → Int) (tr : List Ev) :
    ∃ regs', Reaches code mem ⟨o, regs, tr⟩ ⟨o + 19, regs', tr⟩ ∧
      (∀ x, x ≠ s → x ≠ t → x ≠ e → x ≠ J → regs' x = regs x) := by
  have h' : Frag code o ([.set s 0, .set t 0, .set e 0] ++ (mulLoopCode J s (.r L) ly.okFields a1 a2 ++
    ([.add t L (.imm 1)] ++ (mulLoopCode J e (.r t) ly.okFields b1 b2 ++ [.waitAllReg res s e])))) := h
  obtain ⟨r1, hr1, hf1⟩ := mulLoop_spec (mem := mem) h'.right.left hK hsJ (upd (upd (upd regs s 0) t 0) e 0) tr
  obtain ⟨r2, hr2, hf2⟩ := mulLoop_spec (mem := mem) h'.right.right.right.left hK heJ
    (upd r1 t (r1 L + (Opd.imm 1).val r1)) tr
  refine ⟨r2, ?_, fun x hs ht he hJ => ?_⟩
  · refine .head (step_silent (h.get (j := 0) rfl) rfl) (.head (step_silent (h.get (j := 1) rfl) rfl)
      (.head (step_silent (h.get (j := 2) rfl) rfl) (.trans hr1 (.head (step_silent (h.get (j := 10) rfl) rfl)
      (.trans hr2 (.head (step_silent (h.get (j := 18) rfl) rfl) (.refl _)))))))
  · rw [hf2 x he hJ, upd_other _ _ _ _ ht, hf1 x hs hJ, upd_other _ _ _ _ he, upd_other _ _ _ _ ht,
      upd_other _ _ _ _ hs]

/-- the code of `with loop_reg.if_ne(number - 1): …` -/
def moveTailCode (L r0 r1 : Nat) (n : Int) (x4 : String) : List Cmd :=
  [ .beq (.r L) (.imm (n - 1)) x4, .sub r0 (.imm (n - 1)) (.r L), .set r1 0, .mov r1 r0, .qfree r1,
    .label x4 ]

/-- what it does in iteration `i`: nothing for the last pair, otherwise move the state from the
communication qubit 0 to memory qubit `n − 1 − i` and free qubit 0 -/
def moveEvents (n i : Int) : List Ev := if i = n - 1 then [] else [.mov 0 (n - 1 - i), .qfree 0]

/-- the move code (`mv = true`) or nothing (post-routine path), anywhere in a program -/
theorem moveTail_spec {L r0 r1 : Nat} {n : Int} {x4 : String} (mv : Bool)
    (h : Frag code o (if mv then moveTailCode L r0 r1 n x4 else []))
    (hr : mv = true → r0 ≠ L ∧ r1 ≠ L ∧ r0 ≠ r1) {i : Int} {regs : Nat → Int} (tr : List Ev) (hL : regs L = i) :
    ∃ regs', Reaches code mem ⟨o, regs, tr⟩
        ⟨o + (if mv then moveTailCode L r0 r1 n x4 else []).length, regs',
          tr ++ (if mv then moveEvents n i else [])⟩ ∧ regs' L = i := by
  cases mv
  · exact ⟨regs, (List.append_nil tr).symm ▸ .refl _, hL⟩
  obtain ⟨h0L, h1L, h01⟩ := hr rfl
  have tx := h.label (j := 5) rfl
  by_cases hi : i = n - 1
  · have hv : (Opd.r L).val regs = (Opd.imm (n - 1)).val regs := hL.trans hi
    refine ⟨regs, ?_, hL⟩
    rw [show (if true = true then moveEvents n i else []) = [] from if_pos hi, List.append_nil]
    exact .head (step_beq_taken (h.get (j := 0) rfl) hv tx)
      (.head (step_silent (h.get (j := 5) rfl) rfl) (.refl _))
  · have hv : (Opd.r L).val regs ≠ (Opd.imm (n - 1)).val regs := fun e => hi (hL.symm.trans e)
    let rb := upd (upd regs r0 ((Opd.imm (n - 1)).val regs - (Opd.r L).val regs)) r1 0
    have e1 : rb r1 = 0 := upd_same ..
    have e0 : rb r0 = n - 1 - i := by show upd _ r1 0 r0 = _; rw [upd_other _ _ _ _ h01, upd_same, Opd.val, Opd.val, hL]
    refine ⟨rb, ?_, by show upd _ r1 0 L = _; rw [upd_other _ _ _ _ h1L.symm, upd_other _ _ _ _ h0L.symm, hL]⟩
    rw [show (if true = true then moveEvents n i else []) = [.mov (rb r1) (rb r0)] ++ [.qfree (rb r1)] by
      rw [e1, e0]; exact if_neg hi, ← List.append_assoc]
    exact .head (step_beq_not (h.get (j := 0) rfl) hv) (.head (step_silent (h.get (j := 1) rfl) rfl)
      (.head (step_silent (h.get (j := 2) rfl) rfl) (.head (step_effect (h.get (j := 3) rfl) rfl)
      (.head (step_effect (h.get (j := 4) rfl) rfl) (.head (step_silent (h.get (j := 5) rfl) rfl) (.refl _))))))

end templates

/-- the emitted program of the post-routine / sequential path (`T = []`) and of the move-to-memory
path (`T` = move code), with the user's post routine `post` behind the correction block -/
abbrev seqLoopCode (head : Cmd) (L : Nat) (n : Int) (l3 l4 : String) (W B post T : List Cmd) : List Cmd :=
  [head, .set L 0, .label l3, .beq (.r L) (.imm n) l4] ++ (W ++ (B ++ (post ++ (T ++ loopEnd L l3 l4))))

/-- **What the user's post routine must respect.** Run in place (from its first command `p`, in the
program `code`) in iteration `i`, it arrives at the command behind it (`p + m`) without having changed
the pair register `L`; `Q i` describes the quantum events it produced. Branches inside the routine are
allowed. (That it does not redefine the loop's labels is a separate, syntactic hypothesis.) -/
def PostOk (code : List Cmd) (mem : Mem) (p m L : Nat) (Q : Nat → List Ev → Prop) : Prop :=
  ∀ (i : Nat) (regs : Nat → Int) (tr : List Ev), regs L = (i : Int) →
    ∃ regs' evs, Reaches code mem ⟨p, regs, tr⟩ ⟨p + m, regs', tr ++ evs⟩ ∧ regs' L = (i : Int) ∧ Q i evs

/-- events of iteration `i`: pair i's rotations on `t.pick (ids[i])`, then what the post routine did,
then (move path) the move of the state to its memory qubit -/
def SeqIter (sp : SinglePair) (t : Target) (Q : Nat → List Ev → Prop) (mv : Bool) (n : Nat)
    (bvs idv : List Int) (i : Nat) (evs : List Ev) : Prop :=
  ∃ pe, Q i pe ∧ evs = corrEvents sp (bvs.getD i 0) (t.pick (idv.getD i 0)) ++ pe ++
    (if mv then moveEvents n i else [])

structure SeqWf (mv : Bool) (L q b I J' s t' e J r0 r1 : Nat) : Prop where
  blk : RegsDistinct q b L I J'
  sJ : s ≠ J
  eJ : e ≠ J
  Ls : L ≠ s
  Lt : L ≠ t'
  Le : L ≠ e
  LJ : L ≠ J
  move : mv = true → r0 ≠ L ∧ r1 ≠ L ∧ r0 ≠ r1

theorem seqLoopCode_split (head : Cmd) (L : Nat) (n : Int) (l3 l4 : String) (W B post T : List Cmd) :
    seqLoopCode head L n l3 l4 W B post T =
      ([head, .set L 0, .label l3, .beq (.r L) (.imm n) l4] ++ (W ++ B)) ++ (post ++ (T ++ loopEnd L l3 l4)) := by
  simp only [seqLoopCode, List.append_assoc]

/-- where the post routine starts: 43 = 4 (request, loop head) + 19 (wait code) + 20 (correction block) -/
theorem seqLoop_post_pos {head : Cmd} {L : Nat} {n : Int} {l3 l4 : String} {W B : List Cmd}
    (hW : W.length = 19) (hB : B.length = 20) :
    ([head, .set L 0, .label l3, .beq (.r L) (.imm n) l4] ++ (W ++ B)).length = 43 := by
  rw [List.length_append, List.length_append, hW, hB]; rfl

/-- the correction block (any `B`) in the emitted loop, whatever follows it; `hN` speaks of the program
as emitted, without a post routine -/
theorem seqLoop_block {head : Cmd} {L : Nat} {n : Int} {l3 l4 : String} {W B T : List Cmd}
    (hN : (labelsOf (seqLoopCode head L n l3 l4 W B [] T)).Nodup) (rest : List Cmd) :
    Frag (([head, .set L 0, .label l3, .beq (.r L) (.imm n) l4] ++ W) ++ (B ++ rest))
      ([head, Cmd.set L 0, .label l3, .beq (.r L) (.imm n) l4] ++ W).length B := by
  have : seqLoopCode head L n l3 l4 W B [] T =
      (([head, .set L 0, .label l3, .beq (.r L) (.imm n) l4] ++ W) ++ B) ++ (T ++ loopEnd L l3 l4) := by
    simp only [seqLoopCode, List.append_assoc, List.nil_append]
  rw [this, labelsOf_append] at hN
  exact .of_nodup rest (List.nodup_append.mp hN).1

/-- **The whole per-pair loop, for every number of pairs.** Hypotheses: the labels of the program without the
post routine are pairwise different; the post routine defines neither the exit label nor a label of the move
code, and satisfies `PostOk` where it stands (position 43, `seqLoop_post_pos`). Then the program, run from its first
command, arrives behind its last one, and its events are those of the iterations 0 … n−1 in order, each as `SeqIter`
describes. -/
theorem seq_loop_runs {t : Target} {ly : Layout} {sp : SinglePair} {L q b I J' s t' e J r0 r1 : Nat}
    {l3 l4 a1 a2 b1 b2 l1 l2 x1 x2 x3 x4 : String} {ids res rem sock : Int} {mem : Mem}
    (mv : Bool) (post : List Cmd) {bvs idv resv : List Int}
    (hwf : SeqWf mv L q b I J' s t' e J r0 r1) {k : Nat} (hK : ly.okFields = (k : Int))
    (hmi : mem ids = some idv) (hmr : mem res = some resv) (hlen : idv.length = bvs.length)
    (hres : ResultsHold ly resv bvs) :
    let n := bvs.length
    let W := waitBlockCode ly L s t' e J a1 a2 b1 b2 res
    let B := corrBlockCode t ly sp q b L I J' l1 l2 x1 x2 x3 ids res
    let T := if mv then moveTailCode L r0 r1 n x4 else []
    let code := seqLoopCode (.recvEpr rem sock (some ids) res) L n l3 l4 W B post T
    (labelsOf (seqLoopCode (.recvEpr rem sock (some ids) res) L n l3 l4 W B [] T)).Nodup →
    (∀ l ∈ labelsOf (T ++ loopEnd L l3 l4), l ∉ labelsOf post) →
    ∀ (Q : Nat → List Ev → Prop), PostOk code mem 43 post.length L Q →
    ∀ (regs : Nat → Int), ∃ regs' all, Reaches code mem ⟨0, regs, []⟩ ⟨code.length, regs', all⟩ ∧
      IterEvents (SeqIter sp t Q mv n bvs idv) 0 n all := by
  intro n W B T code hN hP Q hpost regs
  let P : List Cmd := [.recvEpr rem sock (some ids) res, .set L 0, .label l3, .beq (.r L) (.imm n) l4]
  -- `X` = loop head, wait code, block; then `post`; then `Y` = move code, loop end
  have hc : code = (P ++ (W ++ B)) ++ (post ++ ((T ++ loopEnd L l3 l4) ++ [])) := by
    rw [List.append_nil]; exact seqLoopCode_split ..
  have hX : (P ++ (W ++ B)).length = 43 := seqLoop_post_pos rfl (corrBlockCode_length ..)
  have hN' : (labelsOf (P ++ (W ++ B)) ++ labelsOf (T ++ loopEnd L l3 l4)).Nodup := by
    rw [← labelsOf_append, List.append_assoc, List.append_assoc]; exact hN
  obtain ⟨nX, nY, dXY⟩ := List.nodup_append.mp hN'
  have fX : Frag code 0 (P ++ (W ++ B)) := by
    rw [hc]; exact .intro [] _ nX (fun _ _ h => nomatch h)
  have fY : Frag code (43 + post.length) (T ++ loopEnd L l3 l4) := by
    rw [hc, ← hX, ← List.length_append, ← List.append_assoc]
    refine .intro _ _ nY (fun l hl hp => ?_)
    rcases List.mem_append.mp (labelsOf_append .. ▸ hp) with hp | hp
    · exact dXY l hp l hl rfl
    · exact hP l hl hp
  have fH := fX.left
  have fW := fX.right.left
  have fB := fX.right.right
  have fT := fY.left
  have fE := fY.right
  have body : ∀ i, i < n → ∀ (regs : Nat → Int) (tr : List Ev), regs L = (i : Int) →
      ∃ regs' evs, Reaches code mem ⟨1 + 2 + 1, regs, tr⟩ ⟨43 + post.length + T.length, regs', tr ++ evs⟩ ∧
        regs' L = (i : Int) ∧ SeqIter sp t Q mv n bvs idv i evs := by
    intro i hi regs tr hL
    obtain ⟨kk, hk, hbv', hid⟩ := pair_data hlen hres hi
    obtain ⟨r1, hw, hf1⟩ := waitBlock_spec (mem := mem) fW hK hwf.sJ hwf.eJ regs tr
    have hL1 : r1 L = (i : Int) := (hf1 L hwf.Ls hwf.Lt hwf.Le hwf.LJ).trans hL
    obtain ⟨r2, hb, hL2, -⟩ := block_at (mem := mem) fB hwf.blk hmi hmr hid hk hbv' tr hL1
    obtain ⟨r3, pe, hp, hL3, hQ⟩ := hpost i r2 _ hL2
    obtain ⟨r4, ht, hL4⟩ := moveTail_spec (mem := mem) mv fT hwf.move _ hL3
    refine ⟨r4, _, ?_, hL4, pe, hQ, rfl⟩
    rw [← List.append_assoc, ← List.append_assoc]
    exact .trans hw (.trans hb (.trans hp ht))
  obtain ⟨r, all, hr, hI⟩ := loop_skeleton (mem := mem) (fH.get (j := 1) rfl) (fH.get (j := 2) rfl)
    (fH.get (j := 3) rfl) (fE.get (j := 0) rfl) (fE.get (j := 1) rfl) (fE.get (j := 2) rfl)
    (fH.label (j := 2) rfl) (fE.label (j := 2) rfl) _ body regs []
  have hlenc : code.length = 43 + post.length + T.length + 2 + 1 := by
    rw [hc, List.length_append, hX, List.length_append, List.append_nil, List.length_append]
    exact (Nat.add_assoc ..).symm.trans (Nat.add_assoc ..).symm
  rw [hlenc]
  exact ⟨r, all, .head (step_silent (fH.get (j := 0) rfl) rfl) hr, hI⟩

/-- straight-line commands that do not write the register `L`: classical writes to other registers,
gates, moves, frees, waits, requests (no labels, no branches, no array loads) -/
def Cmd.simpleFor (L : Nat) : Cmd → Bool
  | .set r _ => r != L
  | .add d _ _ => d != L
  | .sub d _ _ => d != L
  | .rot _ _ => true
  | .mov _ _ => true
  | .qfree _ => true
  | .waitAllImm _ _ _ => true
  | .waitAllReg _ _ _ => true
  | .recvEpr _ _ _ _ => true
  | .createEpr _ _ _ _ _ => true
  | _ => false

theorem simple_no_label {L : Nat} {post : List Cmd} (h : post.all (Cmd.simpleFor L) = true) (l : String) :
    Cmd.label l ∉ post := by
  intro hm
  have := List.all_eq_true.mp h _ hm
  simp [Cmd.simpleFor] at this

/-- straight-line code as a function: the fold of `Cmd.effect` over the commands -/
def effects (mem : Mem) : List Cmd → (Nat → Int) → Option ((Nat → Int) × List Ev)
  | [], r => some (r, [])
  | c :: cs, r => match c.effect mem r with
    | none => none
    | some (r1, e1) => match effects mem cs r1 with
      | none => none
      | some (r2, e2) => some (r2, e1 ++ e2)

/-- commands standing at `o, o + 1, …` of a program run as `effects` says -/
theorem run_straight {code : List Cmd} {mem : Mem} {cs : List Cmd} :
    ∀ {o : Nat} {r r' : Nat → Int} {e : List Ev}, (∀ j c, cs[j]? = some c → code[o + j]? = some c) →
      effects mem cs r = some (r', e) → ∀ tr, Reaches code mem ⟨o, r, tr⟩ ⟨o + cs.length, r', tr ++ e⟩ := by
  induction cs with
  | nil =>
    intro o r r' e _ he tr
    obtain ⟨rfl, rfl⟩ := Prod.mk.inj (Option.some.inj he)
    exact (List.append_nil tr).symm ▸ .refl _
  | cons c cs ih =>
    intro o r r' e hg he tr
    unfold effects at he
    split at he
    · cases he
    rename_i r1 e1 h1
    split at he
    · cases he
    rename_i r2 e2 h2
    obtain ⟨rfl, rfl⟩ := Prod.mk.inj (Option.some.inj he)
    have := ih (o := o + 1) (fun j c' hj => by rw [Nat.add_assoc, Nat.add_comm 1]; exact hg (j + 1) c' hj) h2
      (tr ++ e1)
    rw [List.append_assoc, Nat.add_right_comm] at this
    exact .head (step_effect (hg 0 c rfl) h1) this

theorem simple_effect {mem : Mem} {L : Nat} {c : Cmd} (hs : c.simpleFor L = true) (r : Nat → Int) :
    ∃ r' e, c.effect mem r = some (r', e) ∧ r' L = r L := by
  -- a simple command writes no register, or one other than `L`
  cases c <;> simp [Cmd.simpleFor] at hs <;>
    first | exact ⟨_, _, rfl, rfl⟩ | exact ⟨_, _, rfl, upd_other _ _ _ _ (Ne.symm hs)⟩

theorem simple_effects {mem : Mem} {L : Nat} {post : List Cmd} (h : post.all (Cmd.simpleFor L) = true)
    (r : Nat → Int) : ∃ r' e, effects mem post r = some (r', e) ∧ r' L = r L := by
  induction post generalizing r with
  | nil => exact ⟨r, [], rfl, rfl⟩
  | cons c cs ih =>
    rw [List.all_cons, Bool.and_eq_true] at h
    obtain ⟨r1, e1, h1, hL1⟩ := simple_effect (mem := mem) h.1 r
    obtain ⟨r2, e2, h2, hL2⟩ := ih h.2 r1
    exact ⟨r2, e1 ++ e2, by simp only [effects, h1, h2], hL2.trans hL1⟩

theorem PostOk.mono {code : List Cmd} {mem : Mem} {p m L : Nat} {Q Q' : Nat → List Ev → Prop}
    (h : PostOk code mem p m L Q) (hQ : ∀ i e, Q i e → Q' i e) : PostOk code mem p m L Q' :=
  fun i regs tr hL =>
    let ⟨r, e, hr, hL', hq⟩ := h i regs tr hL
    ⟨r, e, hr, hL', hQ i e hq⟩

/-- a straight-line post routine that does not write `L` satisfies `PostOk`; its events are those
`effects` computes -/
theorem simple_postOk {head : Cmd} {L p : Nat} {n : Int} {l3 l4 : String} {W B post T : List Cmd} {mem : Mem}
    (hp : ([head, .set L 0, .label l3, .beq (.r L) (.imm n) l4] ++ (W ++ B)).length = p)
    (h : post.all (Cmd.simpleFor L) = true) :
    PostOk (seqLoopCode head L n l3 l4 W B post T) mem p post.length L
      (fun _ pe => ∃ r r', effects mem post r = some (r', pe)) := by
  intro i regs tr hL
  obtain ⟨r', e, he, hL'⟩ := simple_effects (mem := mem) h regs
  exact ⟨r', e, run_straight (fun j c hj => by rw [seqLoopCode_split, ← hp]; exact getElem?_in_place hj) he tr,
    hL'.trans hL, regs, r', he⟩

end NQ.Bell
