/-
C03, part 2: inversion lemmas for `step`, position-map arithmetic, label lookup (`labelIdx` as `List.idxOf?`).
-/
import NetqasmVerif.Lemmas.AsmBasic
namespace NQ.Asm
open NQ

theorem step_label {M : Type} {mc : Machine M} {P : List PCmd} {s : State M} {pc : Nat} {l : String}
    (h : P[pc]? = some (.label l)) : step mc P s pc = .next s (pc + 1) := by
  simp only [step, h]

/-- `step` looks at the machine only through the roles and the `exec` of the mnemonic at `pc` -/
theorem step_machine_congr {M : Type} {mc mc' : Machine M} {P : List PCmd} {s : State M} {pc : Nat}
    {mn : String} {args : List Int} {ops : List POperand} (hg : P[pc]? = some (.instr mn args ops))
    (hr : mc.roles mn = mc'.roles mn) (he : mc.exec mn = mc'.exec mn) :
    step mc P s pc = step mc' P s pc := by
  simp only [step, hg, hr, he]

structure InstrStep {M : Type} (mc : Machine M) (P : List PCmd) (s : State M) (pc : Nat)
    (mn : String) (args : List Int) (ops : List POperand) (s' : State M) (pc' : Nat) : Prop where
  ex : ∃ rs vals out m jump,
    mc.roles mn = some rs ∧ evalOps s.regs rs (allOps args ops) = some vals ∧
    mc.exec mn vals s.mem = .ok out m jump ∧
    s' = ⟨writeBack s.regs out (dstOf rs (allOps args ops)), m⟩ ∧
    ((jump = true ∧ jumpTarget P rs (allOps args ops) = some pc') ∨ (jump = false ∧ pc' = pc + 1))

theorem step_instr {M : Type} {mc : Machine M} {P : List PCmd} {s : State M} {pc : Nat}
    {mn : String} {args : List Int} {ops : List POperand} {rs : List Role} {vals : List Val}
    (hg : P[pc]? = some (.instr mn args ops)) (hr : mc.roles mn = some rs)
    (he : evalOps s.regs rs (allOps args ops) = some vals) :
    step mc P s pc =
      match mc.exec mn vals s.mem with
      | .fault k => .fault k
      | .ok out m jump =>
        if jump then
          match jumpTarget P rs (allOps args ops) with
          | some t => .next ⟨writeBack s.regs out (dstOf rs (allOps args ops)), m⟩ t
          | none => .stuck
        else .next ⟨writeBack s.regs out (dstOf rs (allOps args ops)), m⟩ (pc + 1) := by
  simp only [step, hg, hr, he]
  rfl

/-- What a step at `pc` can be, one constructor per way `step` ends (`stuck` carries nothing: no proof
inverts it).  Proved of `step` once (`step_is`); an inversion is then `cases` on it. -/
inductive StepIs {M : Type} (mc : Machine M) (P : List PCmd) (s : State M) (pc : Nat) : Outcome M → Prop
  | halt : P.length ≤ pc → StepIs mc P s pc .halt
  | label {l : String} : P[pc]? = some (.label l) → StepIs mc P s pc (.next s (pc + 1))
  | stuck : StepIs mc P s pc .stuck
  | fault {mn args ops rs vals k} : P[pc]? = some (.instr mn args ops) → mc.roles mn = some rs →
      evalOps s.regs rs (allOps args ops) = some vals → mc.exec mn vals s.mem = .fault k →
      StepIs mc P s pc (.fault k)
  | instr {mn args ops rs vals out m jump pc'} : P[pc]? = some (.instr mn args ops) → mc.roles mn = some rs →
      evalOps s.regs rs (allOps args ops) = some vals → mc.exec mn vals s.mem = .ok out m jump →
      ((jump = true ∧ jumpTarget P rs (allOps args ops) = some pc') ∨ (jump = false ∧ pc' = pc + 1)) →
      StepIs mc P s pc (.next ⟨writeBack s.regs out (dstOf rs (allOps args ops)), m⟩ pc')

theorem step_is {M : Type} (mc : Machine M) (P : List PCmd) (s : State M) (pc : Nat) :
    StepIs mc P s pc (step mc P s pc) := by
  unfold step
  cases hg : P[pc]? with
  | none => exact .halt (List.getElem?_eq_none_iff.1 hg)
  | some c =>
    cases c with
    | label l => exact .label hg
    | instr mn args ops =>
      dsimp only
      cases hr : mc.roles mn with
      | none => exact .stuck
      | some rs =>
        dsimp only
        cases he : evalOps s.regs rs (allOps args ops) with
        | none => exact .stuck
        | some vals =>
          dsimp only
          cases hx : mc.exec mn vals s.mem with
          | fault k => exact .fault hg hr he hx
          | ok out m jump =>
            cases jump with
            | false => exact .instr hg hr he hx (Or.inr ⟨rfl, rfl⟩)
            | true =>
              dsimp only
              rw [if_pos rfl]
              cases hj : jumpTarget P rs (allOps args ops) with
              | none => exact .stuck
              | some t => exact .instr hg hr he hx (Or.inl ⟨rfl, hj⟩)

theorem step_next_inv {M : Type} {mc : Machine M} {P : List PCmd} {s s' : State M} {pc pc' : Nat}
    (h : step mc P s pc = .next s' pc') :
    (∃ l, P[pc]? = some (.label l) ∧ s' = s ∧ pc' = pc + 1) ∨
    (∃ mn args ops, P[pc]? = some (.instr mn args ops) ∧ InstrStep mc P s pc mn args ops s' pc') := by
  have := step_is mc P s pc
  rw [h] at this
  cases this with
  | label hg => exact Or.inl ⟨_, hg, rfl, rfl⟩
  | instr hg hr he hx hj => exact Or.inr ⟨_, _, _, hg, ⟨_, _, _, _, _, hr, he, hx, rfl, hj⟩⟩

theorem step_fault_inv {M : Type} {mc : Machine M} {P : List PCmd} {s : State M} {pc k : Nat}
    (h : step mc P s pc = .fault k) :
    ∃ mn args ops rs vals, P[pc]? = some (.instr mn args ops) ∧ mc.roles mn = some rs ∧
      evalOps s.regs rs (allOps args ops) = some vals ∧ mc.exec mn vals s.mem = .fault k := by
  have := step_is mc P s pc
  rw [h] at this
  cases this with
  | fault hg hr he hx => exact ⟨_, _, _, _, _, hg, hr, he, hx⟩

theorem step_halt_inv {M : Type} {mc : Machine M} {P : List PCmd} {s : State M} {i : Nat}
    (hh : step mc P s i = .halt) : P.length ≤ i := by
  have := step_is mc P s i
  rw [hh] at this
  cases this with
  | halt h => exact h

theorem step_halt_of_ge {M : Type} {mc : Machine M} {P : List PCmd} {s : State M} {i : Nat}
    (h : P.length ≤ i) : step mc P s i = .halt := by
  have : P[i]? = none := List.getElem?_eq_none_iff.2 h
  simp only [step, this]

/-- the three position maps are sums over a prefix; one more command adds its length -/
theorem sum_take_succ {f : PCmd → Nat} {P : List PCmd} {i : Nat} {x : PCmd} (h : P[i]? = some x) :
    ((P.take (i + 1)).map f).sum = ((P.take i).map f).sum + f x := by
  induction P generalizing i with
  | nil => simp at h
  | cons y ys ih =>
    cases i with
    | zero => simp at h; subst h; simp
    | succ k =>
      simp at h
      simp only [List.take_succ_cons, List.map_cons, List.sum_cons, ih h]; omega

theorem sum_take_mono {α : Type} (f : α → Nat) (P : List α) {a b : Nat} (h : a ≤ b) :
    ((P.take a).map f).sum ≤ ((P.take b).map f).sum := by
  obtain ⟨d, rfl⟩ := Nat.exists_eq_add_of_le h
  rw [List.take_add, List.map_append, List.sum_append]
  exact Nat.le_add_right _ _

theorem sum_take_of_length_le {α : Type} (f : α → Nat) {P : List α} {i : Nat} (h : P.length ≤ i) :
    ((P.take i).map f).sum = ((P.take P.length).map f).sum := by
  rw [List.take_of_length_le h, List.take_length]

theorem tpos1_zero (exc : List (String × Nat)) (P : List PCmd) : tpos1 exc P 0 = 0 := by simp [tpos1]

theorem tpos1_cons_succ (exc : List (String × Nat)) (x : PCmd) (xs : List PCmd) (k : Nat) :
    tpos1 exc (x :: xs) (k + 1) = len1 exc x + tpos1 exc xs k := by
  simp [tpos1]

theorem tpos1_succ {exc : List (String × Nat)} {P : List PCmd} {i : Nat} {x : PCmd} (h : P[i]? = some x) :
    tpos1 exc P (i + 1) = tpos1 exc P i + len1 exc x := sum_take_succ h

theorem tpos2_cons_succ (x : PCmd) (xs : List PCmd) (k : Nat) :
    tpos2 (x :: xs) (k + 1) = len2 x + tpos2 xs k := by
  simp [tpos2]

theorem tpos2_succ {P : List PCmd} {i : Nat} {x : PCmd} (h : P[i]? = some x) :
    tpos2 P (i + 1) = tpos2 P i + len2 x := sum_take_succ h

theorem tpos_cons_succ (exc : List (String × Nat)) (x : PCmd) (xs : List PCmd) (k : Nat) :
    tpos exc (x :: xs) (k + 1) = lenA exc x + tpos exc xs k := by
  simp [tpos]

theorem tpos_succ {exc : List (String × Nat)} {P : List PCmd} {i : Nat} {x : PCmd} (h : P[i]? = some x) :
    tpos exc P (i + 1) = tpos exc P i + lenA exc x := sum_take_succ h

/-- `labelIdx` is the library's "first position of", so what follows comes from its lemmas -/
theorem labelIdx_eq_idxOf? (P : List PCmd) (l : String) : labelIdx P l = P.idxOf? (.label l) := by
  induction P with
  | nil => rfl
  | cons x xs ih =>
    rw [List.idxOf?_cons, ← ih]
    cases x with
    | label l' => simp only [labelIdx, beq_iff_eq, PCmd.label.injEq]
    | instr mn a o => simp [labelIdx]

theorem labelIdx_none_iff {P : List PCmd} {l : String} : labelIdx P l = none ↔ PCmd.label l ∉ P := by
  rw [labelIdx_eq_idxOf?, List.idxOf?_eq_none_iff]

theorem labelIdx_some_iff {P : List PCmd} {l : String} {k : Nat} :
    labelIdx P l = some k ↔ P[k]? = some (.label l) ∧ ∀ j, j < k → P[j]? ≠ some (.label l) := by
  rw [labelIdx_eq_idxOf?, List.idxOf?_eq_some_iff]
  constructor
  · rintro ⟨h, e, hj⟩
    exact ⟨List.getElem?_eq_some_iff.2 ⟨h, e⟩, fun j hjk hx => hj j hjk (List.getElem?_eq_some_iff.1 hx).2⟩
  · rintro ⟨hk, hj⟩
    obtain ⟨h, e⟩ := List.getElem?_eq_some_iff.1 hk
    exact ⟨h, e, fun j hjk hx => hj j hjk (List.getElem?_eq_some_iff.2 ⟨Nat.lt_trans hjk h, hx⟩)⟩

theorem labelIdx_spec {P : List PCmd} {l : String} {k : Nat} (h : labelIdx P l = some k) :
    P[k]? = some (.label l) :=
  (labelIdx_some_iff.1 h).1

theorem labelIdx_append_nolabel (code rest : List PCmd) (l : String)
    (h : ∀ x ∈ code, ∀ l', x ≠ .label l') :
    labelIdx (code ++ rest) l = (labelIdx rest l).map (· + code.length) := by
  have : code.idxOf? (.label l) = none := List.idxOf?_eq_none_iff.2 fun hm => h _ hm l rfl
  simp only [labelIdx_eq_idxOf?, List.idxOf?] at this ⊢
  rw [List.findIdx?_append, this, Option.none_or]

end NQ.Asm
