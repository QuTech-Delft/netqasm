/-
Purity of the pass. In /repo the output buffer, the index map and the debug-marker counter are
LOCALS of `transpile()`; only `_register_values` and `_used_registers` are instance attributes.
`transpileObj` models a call on an object whose attributes hold `rv0`, `used0`; a fresh object is
`transpile`. The loop consults the attributes only at two-qubit gates (`SameAtGates`,
`transpileObj_same`), and there only through look-ups / membership (`transpileObj_congr`); so a retry
after a call that raised before any two-qubit gate gives what a fresh object gives
(`transpileObj_retry`).
-/
import NetqasmVerif.Lemmas.Transpile
namespace NQ.Tr
open NQ

/-- the second half of `transpile()`: retargeting and padding -/
def finish (cfg : Cfg) (n : Nat) : Except Err PState → Except Err (List Instr)
  | .error e => .error e
  | .ok st =>
    match retargetAll cfg n st.idx (st.out.length - st.nDebug) st.out with
    | .error e => .error e
    | .ok (out, addNoOp) => .ok (if addNoOp then out ++ [cfg.pad] else out)

def transpileObj (cfg : Cfg) (rv0 : List (Reg × Int)) (used0 : List Reg) (S : List Instr) :
    Except Err (List Instr) :=
  finish cfg S.length (passLoop cfg ⟨rv0, used0, [], [], 0⟩ S)

theorem transpileObj_fresh (cfg : Cfg) (S : List Instr) : transpileObj cfg [] [] S = transpile cfg S := by
  unfold transpileObj transpile finish PState.init
  cases passLoop cfg ⟨[], [], [], [], 0⟩ S <;> rfl

theorem getUnused_congr {used used' : List Reg} (h : ∀ r, r ∈ used ↔ r ∈ used') :
    getUnused used = getUnused used' := by
  unfold getUnused
  have : (fun (k : Nat) => !(used.contains (⟨bankQ, (k : Int)⟩ : Reg)))
       = (fun (k : Nat) => !(used'.contains (⟨bankQ, (k : Int)⟩ : Reg))) := by
    funext k
    congr 1
    rw [Bool.eq_iff_iff, List.contains_iff_mem, List.contains_iff_mem]
    exact h _
  rw [this]

theorem expandGate2_congr {cfg info} {rv rv' : List (Reg × Int)} {used used' : List Reg} (g : Instr)
    (hl : ∀ r, rv.lookup r = rv'.lookup r) (hu : ∀ r, r ∈ used ↔ r ∈ used') :
    expandGate2 cfg info rv used g = expandGate2 cfg info rv' used' g := by
  unfold expandGate2
  split
  · rename_i r0 r1 _
    rw [hl r0, hl r1, getUnused_congr hu]
  · rfl

theorem updRegVals_append (info : ClsInfo) (i : Instr) (rv : List (Reg × Int)) :
    updRegVals info i rv = updRegVals info i [] ++ rv := by
  unfold updRegVals
  split
  · split
    · split <;> rfl
    · rfl
  · rfl

theorem updRegVals_look {info : ClsInfo} (i : Instr) {rv rv' : List (Reg × Int)}
    (hl : ∀ r, rv.lookup r = rv'.lookup r) :
    ∀ r, (updRegVals info i rv).lookup r = (updRegVals info i rv').lookup r := by
  intro r
  rw [updRegVals_append info i rv, updRegVals_append info i rv', List.lookup_append, List.lookup_append, hl r]

theorem lookup_append_self (l : List (Reg × Int)) (r : Reg) : (l ++ l).lookup r = l.lookup r := by
  rw [List.lookup_append]; cases l.lookup r <;> rfl

/-- two results of the loop that differ at most in the two attributes: what `finish` looks at is equal -/
def ROut : Except Err PState → Except Err PState → Prop
  | .ok a, .ok b => a.out = b.out ∧ a.idx = b.idx ∧ a.nDebug = b.nDebug
  | .error e, .error e' => e = e'
  | _, _ => False

/-- Two attribute pairs `(rv, used)`, `(rv', used')` give `_handle_two_qubit_gate` the same answer at
every two-qubit gate of the text `S`. The attributes evolve by themselves (`updRegVals`,
`++ topRegs i`) and nothing else in the loop reads them, so this is all a call depends on them for
(`passLoop_same`); it is stated along the text because the pairs change from one instruction to the next. -/
def SameAtGates (cfg : Cfg) : List (Reg × Int) → List Reg → List (Reg × Int) → List Reg → List Instr → Prop
  | _, _, _, _, [] => True
  | rv, used, rv', used', i :: rest => ∀ info, infoOf cfg i.cls = some info →
    (info.gate2 = true → expandGate2 cfg info (updRegVals info i rv) (used ++ topRegs i) i
      = expandGate2 cfg info (updRegVals info i rv') (used' ++ topRegs i) i) ∧
    SameAtGates cfg (updRegVals info i rv) (used ++ topRegs i) (updRegVals info i rv') (used' ++ topRegs i) rest

theorem passLoop_same {cfg : Cfg} : ∀ (S : List Instr) {st st' : PState},
    st.out = st'.out → st.idx = st'.idx → st.nDebug = st'.nDebug →
    SameAtGates cfg st.regVals st.used st'.regVals st'.used S →
    ROut (passLoop cfg st S) (passLoop cfg st' S)
  | [], st, st', h1, h2, h3, _ => ⟨h1, h2, h3⟩
  | i :: rest, st, st', h1, h2, h3, hs => by
    unfold passLoop passStep
    cases hi : infoOf cfg i.cls with
    | none => exact rfl
    | some info =>
      obtain ⟨hg, hrest⟩ := hs info hi
      have hex : expandInstr cfg info (updRegVals info i st.regVals) (st.used ++ topRegs i) i
          = expandInstr cfg info (updRegVals info i st'.regVals) (st'.used ++ topRegs i) i := by
        unfold expandInstr
        by_cases h2 : info.gate2 = true
        · rw [hg h2]
        · simp [h2]
      simp only [hex]
      cases expandInstr cfg info (updRegVals info i st'.regVals) (st'.used ++ topRegs i) i with
      | error e => exact rfl
      | ok ex => exact passLoop_same rest (by simp [h1]) (by simp [h1, h2, h3]) (by simp [h3]) hrest

theorem sameAtGates_of_look {cfg : Cfg} : ∀ (S : List Instr) {rv rv' : List (Reg × Int)} {used used' : List Reg},
    (∀ r, rv.lookup r = rv'.lookup r) → (∀ r, r ∈ used ↔ r ∈ used') → SameAtGates cfg rv used rv' used' S
  | [], _, _, _, _, _, _ => trivial
  | i :: rest, _, _, _, _, hl, hu => fun info _ =>
    have hl' := updRegVals_look (info := info) i hl
    have hu' : ∀ r, r ∈ _ ++ topRegs i ↔ r ∈ _ ++ topRegs i := fun r => by simp [hu r]
    ⟨fun _ => expandGate2_congr i hl' hu', sameAtGates_of_look rest hl' hu'⟩

/-- over a stretch without two-qubit gates nothing is asked -/
theorem sameAtGates_append {cfg : Cfg} (R : List Instr) : ∀ (P : List Instr) {rv rv' : List (Reg × Int)}
    {used used' : List Reg}, (∀ x ∈ P, isGate2 cfg x = false) →
    SameAtGates cfg (rvAfter cfg rv P) (used ++ P.flatMap topRegs) (rvAfter cfg rv' P) (used' ++ P.flatMap topRegs) R →
    SameAtGates cfg rv used rv' used' (P ++ R)
  | [], _, _, _, _, _, h => by simpa [rvAfter] using h
  | x :: xs, _, _, _, _, hf, h => fun info hi =>
    ⟨fun h2 => by simp [isGate2, hi, h2] at hf,
     sameAtGates_append R xs (fun y hy => hf y (List.mem_cons_of_mem _ hy))
       (by simpa [rvAfter, hi, List.append_assoc] using h)⟩

theorem finish_same {cfg : Cfg} {n : Nat} : ∀ {a b : Except Err PState}, ROut a b → finish cfg n a = finish cfg n b
  | .ok _, .ok _, ⟨h1, h2, h3⟩ => by simp only [finish, h1, h2, h3]
  | .error _, .error _, h => by rw [show _ = _ from h]
  | .ok _, .error _, h => h.elim
  | .error _, .ok _, h => h.elim

theorem transpileObj_same (cfg : Cfg) {rv rv' : List (Reg × Int)} {used used' : List Reg} {S : List Instr}
    (h : SameAtGates cfg rv used rv' used' S) : transpileObj cfg rv used S = transpileObj cfg rv' used' S :=
  finish_same (passLoop_same S (st := ⟨rv, used, [], [], 0⟩) (st' := ⟨rv', used', [], [], 0⟩) rfl rfl rfl h)

theorem transpileObj_congr (cfg : Cfg) {rv rv' : List (Reg × Int)} {used used' : List Reg}
    (hl : ∀ r, rv.lookup r = rv'.lookup r) (hu : ∀ r, r ∈ used ↔ r ∈ used') (S : List Instr) :
    transpileObj cfg rv used S = transpileObj cfg rv' used' S :=
  transpileObj_same cfg (sameAtGates_of_look S hl hu)

/-- the attributes on the left are those left behind by a call that got through `P` and then raised -/
theorem transpileObj_retry (cfg : Cfg) (P R : List Instr) (hfree : ∀ x ∈ P, isGate2 cfg x = false) :
    transpileObj cfg (rvAfter cfg [] P) (P.flatMap topRegs) (P ++ R) = transpile cfg (P ++ R) := by
  rw [← transpileObj_fresh]
  refine transpileObj_same cfg (sameAtGates_append R P hfree (sameAtGates_of_look R (fun r => ?_) fun r => ?_))
  · rw [rvAfter_base]; exact lookup_append_self _ r
  · simp

end NQ.Tr
