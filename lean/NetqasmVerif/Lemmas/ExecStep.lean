/-
Lemmas about one instruction (`stepLoc`): its footprint, and `StepSpec`, the one case analysis of `stepLoc`
from which the facts about faults, frames, the program counter and the qubit bookkeeping are read off.
-/
import NetqasmVerif.Lemmas.Exec
namespace NQ.Exec

/-- the register an instruction may write -/
def Instr.wreg : Instr → Option XReg
  | .set r _ | .load r _ _ | .lea r _ => some r
  | .add d _ _ | .sub d _ _ | .addm d _ _ _ | .subm d _ _ _ => some d
  | .meas _ c => some c
  | _ => none

def Instr.warr : Instr → Option Int
  | .store _ a _ | .undef a _ | .array _ a => some a
  | _ => none

def Instr.wshmReg : Instr → Option XReg
  | .retReg r => some r
  | _ => none

def Instr.wshmArr : Instr → Option Int
  | .retArr a | .array _ a => some a
  | _ => none

def Instr.isAlloc : Instr → Bool
  | .qalloc _ | .qfree _ => true
  | _ => false

def Instr.isBranch : Instr → Bool
  | .jmp _ | .bez _ _ | .bnz _ _ | .beq _ _ _ | .bne _ _ _ | .blt _ _ _ | .bge _ _ _ => true
  | _ => false

def Instr.isQuantum : Instr → Bool
  | .meas _ _ | .q1 _ _ | .rot _ _ _ _ | .q2 _ _ _ | .crot _ _ _ _ _ => true
  | _ => false

theorem wr_fault {hw l pc r v l' f} (h : wr hw l pc r v = .fault l' f) : l' = l ∧ f = .overflow := by
  unfold wr at h; split at h
  · cases h
  · cases h; exact ⟨rfl, rfl⟩

theorem wr_ok {hw l pc r v l' pc'} (h : wr hw l pc r v = .ok l' pc') :
    l' = { l with ap := l.ap.setReg r v } ∧ pc' = pc + 1 ∧ fits hw v = true := by
  unfold wr at h; split at h
  · cases h; exact ⟨rfl, rfl, by assumption⟩
  · cases h

theorem arith_fault {hw l pc d x y g l' f} (h : arith hw l pc d x y g = .fault l' f) : l' = l := by
  unfold arith at h; split at h
  · exact (wr_fault h).1
  · cases h; rfl

theorem arithm_fault {hw l pc d x y m g l' f} (h : arithm hw l pc d x y m g = .fault l' f) : l' = l := by
  unfold arithm at h; split at h
  · split at h
    · cases h; rfl
    · split at h
      · exact (wr_fault h).1
      · cases h; rfl
  · cases h; rfl

theorem arith_ok {hw l pc d x y g l' pc'} (h : arith hw l pc d x y g = .ok l' pc') :
    ∃ a b, x = some a ∧ y = some b ∧ l' = { l with ap := l.ap.setReg d (g a b) } ∧ pc' = pc + 1 := by
  unfold arith at h; split at h
  · rename_i a b; exact ⟨a, b, rfl, rfl, (wr_ok h).1, (wr_ok h).2.1⟩
  · cases h

theorem arithm_ok {hw l pc d x y m g l' pc'} (h : arithm hw l pc d x y m g = .ok l' pc') :
    ∃ a b mv, x = some a ∧ y = some b ∧ m = some mv ∧ 1 ≤ mv ∧
      l' = { l with ap := l.ap.setReg d (g a b % mv) } ∧ pc' = pc + 1 := by
  unfold arithm at h; split at h
  · rename_i mv
    split at h
    · cases h
    · split at h
      · rename_i a b; exact ⟨a, b, mv, rfl, rfl, rfl, Int.not_lt.mp ‹_›, (wr_ok h).1, (wr_ok h).2.1⟩
      · cases h
  · cases h

theorem br_ok {l pc c t} : br l pc c t = .ok l (if c then t else pc + 1) := rfl

structure Frame (i : Instr) (l l' : Loc) : Prop where
  regs : ∀ r, i.wreg ≠ some r → l'.ap.regs r = l.ap.regs r
  arrays : ∀ ad, i.warr ≠ some ad → l'.ap.arrays ad = l.ap.arrays ad
  shmRegs : ∀ r, i.wshmReg ≠ some r → l'.ap.shmRegs r = l.ap.shmRegs r
  shmArrs : ∀ ad, i.wshmArr ≠ some ad → l'.ap.shmArrs ad = l.ap.shmArrs ad
  qubits : i.isAlloc = false → l'.ap.unit = l.ap.unit ∧ l'.used = l.used
  quantum : i.isQuantum = false → l'.trace = l.trace ∧ l'.oracle = l.oracle

/-- a write at the key an instruction declares is invisible at every other key -/
theorem upd_frame {α β} [DecidableEq α] {f : α → β} {k k' : α} {v : β} {o : Option α} (ho : o = some k)
    (h : o ≠ some k') : upd f k v k' = f k' :=
  upd_other _ _ _ _ fun e => h (e ▸ ho)

theorem frame_setReg (i : Instr) (l : Loc) (d : XReg) (v : Int) (hd : i.wreg = some d) :
    Frame i l { l with ap := l.ap.setReg d v } :=
  ⟨fun _ => upd_frame hd, fun _ _ => rfl, fun _ _ => rfl, fun _ _ => rfl, fun _ => ⟨rfl, rfl⟩, fun _ => ⟨rfl, rfl⟩⟩

/-- What a successful `qalloc`/`qfree` does to the unit module and the used set (`_allocate_physical_qubit`: a free
slot receives the smallest unused physical qubit, which is marked used; `_free_physical_qubit`: the slot is cleared
and its qubit, which was marked used, is unmarked).  No other instruction is constrained. -/
def QEff : Instr → Loc → Loc → Prop
  | .qalloc _, l, l' => ∃ p, p < l.ap.unit.length ∧ l.ap.unit[p]?.join = none ∧
      l'.ap.unit = l.ap.unit.set p (some (firstUnused l.used)) ∧ l'.used = sadd (firstUnused l.used) l.used
  | .qfree _, l, l' => ∃ p q, l.ap.unit[p]?.join = some q ∧ q ∈ l.used ∧
      l'.ap.unit = l.ap.unit.set p none ∧ l'.used = srem q l.used
  | _, _, _ => True

/-- What one instruction may do.  Success: the footprint, the next line unless it is a branch, a written register
holds a value that passed the width check, and `qalloc`/`qfree` did `QEff`.  Fault: registers, arrays, shared memory,
unit module and used set are as before, and so is everything else unless the instruction is `meas`, whose hook has
consumed the outcome and logged the event by the time the outcome is found not to fit; the one exception is the
`set.remove` KeyError of `qfree`, raised after the slot was cleared, which needs a mapped qubit that is not
marked used. -/
def StepSpec (hw : Bool) (i : Instr) (l : Loc) (pc : Int) : LRes → Prop
  | .ok l' pc' => Frame i l l' ∧ (i.isBranch = false → pc' = pc + 1) ∧
      (∀ r, i.wreg = some r → ∃ v, l'.ap.regs r = some v ∧ fits hw v = true) ∧ QEff i l l'
  | .fault l' f => (f ≠ .usedKey ∧ l'.ap = l.ap ∧ l'.used = l.used ∧ ((∀ q c, i ≠ .meas q c) → l' = l)) ∨
      (f = .usedKey ∧ ∃ (p q : Nat), l.ap.unit[p]?.join = some q ∧ q ∉ l.used)

theorem StepSpec.fault {hw i l pc f} (hf : f ≠ .usedKey) : StepSpec hw i l pc (.fault l f) :=
  Or.inl ⟨hf, rfl, rfl, fun _ => rfl⟩

/-- The footprint is found by inspection when `l'` is written out as an update of `l`: each component is
untouched, or written at the key the (concrete) instruction declares, or the instruction is exempt. -/
theorem StepSpec.ok {hw i l pc l' pc'} (hpc : i.isBranch = false → pc' = pc + 1)
    (hv : ∀ r, i.wreg = some r → ∃ v, l'.ap.regs r = some v ∧ fits hw v = true)
    (hq : QEff i l l' := by trivial)
    (hF : Frame i l l' := by
      constructor <;> intros <;> first | rfl | exact ⟨rfl, rfl⟩ | exact upd_frame rfl ‹_› | cases ‹_ = false›) :
    StepSpec hw i l pc (.ok l' pc') :=
  ⟨hF, hpc, hv, hq⟩

/-- an instruction that is neither `qalloc` nor `qfree` has no qubit effect to account for -/
theorem QEff.of_not_alloc {i l l'} (h : i.isAlloc = false) : QEff i l l' := by
  cases i <;> first | trivial | cases h

theorem StepSpec.wr {hw i l pc r v} (hr : i.wreg = some r) (ha : i.isAlloc = false := by rfl) :
    StepSpec hw i l pc (wr hw l pc r v) := by
  unfold Exec.wr
  split
  · refine .ok (fun _ => rfl) (fun r' h => ?_) (.of_not_alloc ha) (frame_setReg i l r v hr)
    cases hr.symm.trans h
    exact ⟨v, upd_same _ _ _, ‹_›⟩
  · exact .fault (by decide)

theorem StepSpec.arith {hw i l pc d x y g} (hr : i.wreg = some d) (ha : i.isAlloc = false := by rfl) :
    StepSpec hw i l pc (arith hw l pc d x y g) := by
  unfold Exec.arith
  split
  · exact .wr hr ha
  · exact .fault (by decide)

theorem StepSpec.arithm {hw i l pc d x y m g} (hr : i.wreg = some d) (ha : i.isAlloc = false := by rfl) :
    StepSpec hw i l pc (arithm hw l pc d x y m g) := by
  unfold Exec.arithm
  repeat' split
  all_goals first | exact .wr hr ha | exact .fault (by decide)

theorem StepSpec.br {hw i l pc c t} (hb : i.isBranch = true) (hr : i.wreg = none)
    (ha : i.isAlloc = false := by rfl) : StepSpec hw i l pc (br l pc c t) :=
  .ok (fun h => by rw [hb] at h; cases h) (fun r h => by rw [hr] at h; cases h) (.of_not_alloc ha)

theorem stepLoc_spec (hw : Bool) (a : Nat) (i : Instr) (l : Loc) (pc : Int) :
    StepSpec hw i l pc (stepLoc hw a i l pc) := by
  cases i with
  | set r v | lea r ad => exact .wr rfl
  | add d x y | sub d x y => exact .arith rfl
  | addm d x y m | subm d x y m => exact .arithm rfl
  | bez r t | bnz r t | beq x y t | bne x y t => exact .br rfl rfl
  | jmp t => exact .ok (fun h => nomatch h) (fun _ h => nomatch h)
  | qalloc r =>
    simp only [stepLoc]
    repeat' split
    all_goals first
      | exact .fault (by decide)
      | exact .ok (fun _ => rfl) (fun _ h => nomatch h) ⟨_, pyIdx_lt ‹_›, ‹_›, rfl, rfl⟩
  | qfree r =>
    simp only [stepLoc]
    repeat' split
    all_goals first
      | exact .fault (by decide)
      | exact .ok (fun _ => rfl) (fun _ h => nomatch h) ⟨_, _, ‹_›, ‹_›, rfl, rfl⟩
      | exact .inr ⟨rfl, _, _, ‹_›, ‹_›⟩
  | meas q c =>
    simp only [stepLoc]
    repeat' split
    · exact .fault (by decide)
    · exact .ok (fun _ => rfl) (fun _ h => by cases h; exact ⟨_, upd_same _ _ _, ‹_›⟩)
    · exact .inl ⟨by decide, rfl, rfl, fun h => absurd rfl (h _ _)⟩
  | blt x y t | bge x y t =>
    simp only [stepLoc]
    split
    · exact .br rfl rfl
    · exact .fault (by decide)
  | load r ad ix =>
    simp only [stepLoc]
    repeat' split
    all_goals first | exact .fault (by decide) | exact .wr rfl
  | _ =>
    simp only [stepLoc]
    repeat' split
    all_goals first | exact .fault (by decide) | exact .ok (fun _ => rfl) (fun _ h => nomatch h)

theorem stepLoc_ok {hw a i l pc l' pc'} (h : stepLoc hw a i l pc = .ok l' pc') :
    StepSpec hw i l pc (.ok l' pc') := h ▸ stepLoc_spec hw a i l pc

theorem stepLoc_fault {hw a i l pc l' f} (h : stepLoc hw a i l pc = .fault l' f) :
    StepSpec hw i l pc (.fault l' f) := h ▸ stepLoc_spec hw a i l pc

theorem stepLoc_frame {hw a i l pc l' pc'} (h : stepLoc hw a i l pc = .ok l' pc') : Frame i l l' :=
  (stepLoc_ok h).1

end NQ.Exec
