/-
Source lines (C03's proto commands without label definition / args / macros / comments):
`parseLine` reads `mnemonic op₁ … opₙ` back for every SOURCE operand form — registers,
literals, label operands, `@a`, `@a[Rn]`, `@a[5]`, `@a[Rn:3]`, … — as the second instance of
`parseLine_words` (`showPOp_word`: the text of a source operand is a `LineWord`); and the assembler's
tokeniser `group_by_word` cuts the same words.  Source operands (`Asm.POperand`), their text
`showPOp`, their token `tokOfP` and the side condition `pOpOk` are those of
`Lemmas/AsmTextOperand.lean`.
-/
import NetqasmVerif.Lemmas.TextLine
import NetqasmVerif.Lemmas.AsmTextOperand
namespace NQ.Text
open NQ
open NQ.AsmText (joinWith join_words)
open NQ.AsmFront (HeadOk)

variable {S : Syms}

/-- what source lines need beyond `symsOk`: the syntax symbols are no letters / underscore, so
they cannot be confused with a label operand; and the closing index bracket is none of the six
blanks of `AsmText.isSpace` (`symsOk` only excludes the four of `Text.isSpace`), so
`group_by_word`'s strip keeps a line that ends in it -/
def srcSymsOk (S : Syms) : Bool :=
  let bad := fun c => isAlpha c || c = '_'
  !bad S.argOpen && !bad S.macroStart && !bad S.branchEnd && !bad S.addrStart
    && !AsmText.isSpace S.idxClose

theorem srcSymsOk_iff : srcSymsOk S = true ↔
    (isAlpha S.argOpen = false ∧ S.argOpen ≠ '_') ∧ (isAlpha S.macroStart = false ∧ S.macroStart ≠ '_') ∧
    (isAlpha S.branchEnd = false ∧ S.branchEnd ≠ '_') ∧ (isAlpha S.addrStart = false ∧ S.addrStart ≠ '_') ∧
    AsmText.isSpace S.idxClose = false := by
  simp only [srcSymsOk, Bool.and_eq_true, Bool.not_eq_true', Bool.or_eq_false_iff,
    decide_eq_false_iff_not, and_assoc]

def showSrcOps (S : Syms) : List Asm.POperand → List Char
  | [] => []
  | o :: os => ' ' :: showPOp S o ++ showSrcOps S os

def srcChar (S : Syms) (c : Char) : Bool := wordChar S c || isAlpha c || c = '_'

theorem isVarName_chars {l : List Char} (h : isVarName l = true) :
    ∀ c ∈ l, (isAlpha c || isDigit c || c = '_') = true := by
  cases l with
  | nil => simp [isVarName] at h
  | cons d ds =>
    simp only [isVarName, Bool.and_eq_true, List.all_eq_true] at h
    exact h.2

theorem showPOp_chars (o : Asm.POperand) (ho : pOpOk S o) :
    ∀ c ∈ showPOp S o, srcChar S c = true := by
  have ow : ∀ {l : List Char}, (∀ c ∈ l, opChar S c = true) → ∀ c ∈ l, srcChar S c = true :=
    fun h c hc => by simp [srcChar, wordChar, h c hc]
  obtain ⟨wa, wo, wc, wd⟩ : srcChar S S.addrStart = true ∧ srcChar S S.idxOpen = true ∧
      srcChar S S.idxClose = true ∧ srcChar S S.sliceDelim = true := by simp [srcChar, wordChar]
  cases o <;> simp only [showPOp, showEntry, showSlice, List.forall_mem_cons, List.forall_mem_append,
    List.not_mem_nil, false_imp_iff, implies_true, and_true, and_assoc]
  · exact ow (showReg_chars _ ho)
  · exact ow (showInt_opChars _)
  · intro c hc
    have := isVarName_chars ho.2.2.1 c hc
    simp only [Bool.or_eq_true, decide_eq_true_eq] at this
    rcases this with (h | h) | h
    · simp [srcChar, h]
    · simp [srcChar, wordChar, opChar, h]
    · simp [srcChar, h]
  · exact ho.elim
  · exact ⟨wa, ow (showInt_opChars _)⟩
  · exact ⟨wa, ow (showInt_opChars _), wo, ow (showVal_chars _ ho), wc⟩
  · exact ⟨wa, ow (showInt_opChars _), wo, ow (showVal_chars _ ho.1), wd,
      ow (showVal_chars _ ho.2), wc⟩

theorem alpha_not_space {c : Char} (h : (isAlpha c || c = '_') = true) : isSpace c = false :=
  not_space_of_class (p := fun c => isAlpha c || decide (c = '_')) (by decide) h

theorem srcChar_not_space (hS : SOk S) {c : Char} (h : srcChar S c = true) : isSpace c = false := by
  simp only [srcChar, Bool.or_eq_true, decide_eq_true_eq] at h
  rcases h with (h | h) | h
  · exact wordChar_not_space hS h
  · exact alpha_not_space (by simp [h])
  · exact alpha_not_space (by simp [h])

def srcLineChar (S : Syms) (c : Char) : Bool := lineChar S c || isAlpha c || c = '_'

theorem srcChar_lineChar {c : Char} (h : srcChar S c = true) : srcLineChar S c = true := by
  simp only [srcChar, Bool.or_eq_true, decide_eq_true_eq] at h
  rcases h with (h | h) | h <;> simp [srcLineChar, h, wordChar_lineChar]

/-- the symbols as source lines need them -/
structure SrcSyms (S : Syms) : Prop where
  sok : SOk S
  src : srcSymsOk S = true

/-- the last character of a written source operand is no blank and not `:` -/
theorem showPOp_end (hX : SrcSyms S) (o : Asm.POperand) (ho : pOpOk S o) :
    ∃ l d, showPOp S o = l ++ [d] ∧ AsmText.isSpace d = false ∧ d ≠ S.branchEnd := by
  obtain ⟨_, _, hXb, _, hXc⟩ := srcSymsOk_iff.1 hX.src
  have dig : ∀ d, isDigit d = true → AsmText.isSpace d = false ∧ d ≠ S.branchEnd := fun d hd =>
    ⟨not_asmSpace_of_class (p := isDigit) (by decide) hd, fun h => by rw [h, hX.sok.branch.1] at hd; cases hd⟩
  have cl : AsmText.isSpace S.idxClose = false ∧ S.idxClose ≠ S.branchEnd :=
    ⟨hXc, fun h => hX.sok.branch.2.1 h.symm⟩
  cases o with
  | reg r => exact last_append dig [bankChar S r.bank] (showInt_last r.idx)
  | lit v => exact last_append dig [] (showInt_last v)
  | tmpl n => exact ho.elim
  | addr a => exact last_append dig [S.addrStart] (showInt_last a)
  | entry a i => exact ⟨_, S.idxClose, rfl, cl⟩
  | slice a s e => exact ⟨_, S.idxClose, rfl, cl⟩
  | lab l =>
    rcases List.eq_nil_or_concat l.toList with h | ⟨l', d, h⟩
    · exact absurd h ho.2.2.2.1
    · refine ⟨l', d, by simpa [showPOp] using h, ?_⟩
      have := isVarName_chars ho.2.2.1 d (by rw [h]; simp)
      simp only [Bool.or_eq_true, decide_eq_true_eq] at this
      rcases this with (h' | h') | h'
      · exact ⟨not_asmSpace_of_class (p := isAlpha) (by decide) h',
          fun e => by rw [e, hXb.1] at h'; cases h'⟩
      · exact dig d h'
      · exact ⟨by rw [h']; decide, fun e => hXb.2 (e ▸ h')⟩

theorem showPOp_word (hX : SrcSyms S) (o : Asm.POperand) (ho : pOpOk S o) :
    LineWord S (showPOp S o) :=
  have ⟨hXa, hXm, _⟩ := srcSymsOk_iff.1 hX.src
  have ⟨l, d, hl, _, hd⟩ := showPOp_end hX o ho
  lineWord_of_class (D := srcLineChar S) (fun _ => srcChar_lineChar) (fun _ => srcChar_not_space hX.sok)
    (by simp [srcLineChar, hX.sok.argOpen, hXa.1, hXa.2]) (by simp [srcLineChar, hX.sok.macroS, hXm.1, hXm.2])
    (showPOp_chars o ho) ⟨l, d, hl, hd⟩

theorem srcLine_join (w : List Char) (ops : List Asm.POperand) :
    w ++ showSrcOps S ops = joinWith ' ' (w :: ops.map (showPOp S)) :=
  join_words (showPOp S) (showSrcOps S) rfl (fun _ _ => rfl) _ ops

theorem parseOperands_src (hS : SOk S) (ops : List Asm.POperand) (ho : ∀ o ∈ ops, pOpOk S o) :
    parseOperands S (ops.map (showPOp S)) = .ok (ops.map tokOfP) :=
  parseOperands_map _ _ ops fun o h => by
    rw [strip_of_all fun c hc => srcChar_not_space hS (showPOp_chars o (ho o h) c hc),
      parseOperand_showPOp hS o (ho o h)]

theorem parseLine_source (hX : SrcSyms S) {generic : List String} {mn : String} (hh : HeadOk generic mn)
    (ops : List Asm.POperand) (ho : ∀ o ∈ ops, pOpOk S o) (cb : Char) :
    parseLine S generic (mn.toList ++ showSrcOps S ops) = .ok ⟨mn, ops.map tokOfP⟩ ∧
    AsmText.groupByWord S.argOpen cb (mn.toList ++ showSrcOps S ops)
      = some (mn.toList :: ops.map (showPOp S)) := by
  rw [srcLine_join]
  have hw := fun o h => showPOp_word hX o (ho o h)
  exact ⟨parseLine_words hX.sok hh.known (mn_word hX.sok hh) _ tokOfP ops hw
      fun o h => parseOperand_showPOp hX.sok o (ho o h),
    groupByWord_line hX.sok cb hh _ ops hw fun o h =>
      have ⟨l, d, hl, hd, _⟩ := showPOp_end hX o (ho o h)
      ⟨l, d, hl, hd⟩⟩

end NQ.Text
