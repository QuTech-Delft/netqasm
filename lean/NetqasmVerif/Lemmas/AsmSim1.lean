/-
C03, part 3: `_replace_constants` is a simulation (every source step = the inserted `set`s + the
patched instruction; states agree off the scratch set): `localSim_rcAll`.
-/
import NetqasmVerif.Lemmas.AsmBasic
import NetqasmVerif.Lemmas.AsmSimulation
namespace NQ.Asm
open NQ

theorem evalRI_patched {sets : List (Reg × Int)} {x x' : RI} {ρs ρt : Regs}
    (hp : RIPatched sets x x') (hnd : (sets.map Prod.fst).Nodup)
    (hreg : ∀ r ∈ riRegs x, ρs r = ρt r ∧ r ∉ sets.map Prod.fst) :
    evalRI (applySets sets ρt) x' = evalRI ρs x := by
  cases hp with
  | same r =>
    have := hreg r (by simp [riRegs])
    simp only [evalRI]
    rw [applySets_not_mem _ _ _ this.2, this.1]
  | mat v r hm =>
    simp only [evalRI]
    exact applySets_mem _ _ _ _ hm hnd

theorem evalOp_patched {sets : List (Reg × Int)} {keep : Bool} {op op' : POperand} {role : Role}
    {ρs ρt : Regs} {val : Val}
    (hp : OpPatched sets keep op op') (hnd : (sets.map Prod.fst).Nodup)
    (hreg : ∀ r ∈ opRegs op, ρs r = ρt r ∧ r ∉ sets.map Prod.fst)
    (hkeep : keep = false → role ≠ .imm ∧ role ≠ .tgt)
    (he : evalOp ρs role op = some val) :
    evalOp (applySets sets ρt) role op' = some val := by
  cases hp with
  | reg r =>
    have := hreg r (by simp [opRegs])
    cases role <;> simp only [evalOp] at he ⊢ <;> try (exact he)
    all_goals (rw [applySets_not_mem _ _ _ this.2, ← this.1]; exact he)
  | litKeep v hk => cases role <;> simp only [evalOp] at he ⊢ <;> exact he
  | litMat v r hk hm =>
    have hr := hkeep hk
    cases role <;> simp only [evalOp] at he ⊢
    · rw [applySets_mem _ _ _ _ hm hnd]; exact he
    · cases he
    · cases he
    · exact absurd rfl hr.1
    · exact absurd rfl hr.2
    · cases he
    · cases he
    · cases he
  | lab l => cases role <;> simp only [evalOp] at he ⊢ <;> exact he
  | tmpl l => cases role <;> simp only [evalOp] at he ⊢ <;> exact he
  | addr a => cases role <;> simp only [evalOp] at he ⊢ <;> exact he
  | entry a i i' hi =>
    have := evalRI_patched (ρs := ρs) (ρt := ρt) hi hnd (fun r hr => hreg r (by simpa [opRegs] using hr))
    cases role <;> simp only [evalOp] at he ⊢ <;> try (exact he)
    rw [this]; exact he
  | slice a s s' e e' h1 h2 =>
    have a1 := evalRI_patched (ρs := ρs) (ρt := ρt) h1 hnd
      (fun r hr => hreg r (by simp only [opRegs, List.mem_append]; exact Or.inl hr))
    have a2 := evalRI_patched (ρs := ρs) (ρt := ρt) h2 hnd
      (fun r hr => hreg r (by simp only [opRegs, List.mem_append]; exact Or.inr hr))
    cases role <;> simp only [evalOp] at he ⊢ <;> try (exact he)
    rw [a1, a2]; exact he

theorem CoversFrom.tail {exc mn j r rs} (h : CoversFrom exc mn j (r :: rs)) : CoversFrom exc mn (j + 1) rs := by
  intro k role hk hr
  have := h (k + 1) role (by simpa using hk) hr
  have e : j + (k + 1) = j + 1 + k := by omega
  rw [e] at this; exact this

theorem CoversFrom.head {exc mn j r rs} (h : CoversFrom exc mn j (r :: rs)) :
    exc.contains (mn, j) = false → r ≠ .imm ∧ r ≠ .tgt := by
  intro hk
  constructor
  · intro hr; have := h 0 r (by simp) (Or.inl hr); simp at this; simp_all
  · intro hr; have := h 0 r (by simp) (Or.inr hr); simp at this; simp_all

/-- Patched operands evaluate, after the `set`s, to the same values, and name the same destination and
target: only a literal is replaced by a register, a `dst` position that evaluates holds a register, and a
`tgt` position is in the exception table, so what it holds (a label or a literal) is kept. -/
theorem opsPatched_sem {exc : List (String × Nat)} {mn : String} {sets : List (Reg × Int)} {j : Nat}
    {ops ops' : List POperand} {rs : List Role} {ρs ρt : Regs} {vals : List Val}
    (hp : OpsPatched exc mn sets j ops ops') (hnd : (sets.map Prod.fst).Nodup)
    (hreg : ∀ o ∈ ops, ∀ r ∈ opRegs o, ρs r = ρt r ∧ r ∉ sets.map Prod.fst)
    (hk : CoversFrom exc mn j rs) (he : evalOps ρs rs ops = some vals) :
    evalOps (applySets sets ρt) rs ops' = some vals ∧ dstOf rs ops' = dstOf rs ops ∧
      tgtOf rs ops' = tgtOf rs ops := by
  induction hp generalizing rs vals with
  | nil j =>
    cases rs with
    | nil => exact ⟨he, rfl, rfl⟩
    | cons _ _ => cases he
  | @cons j o o' os os' h1 _ ih =>
    cases rs with
    | nil => cases he
    | cons r rs' =>
      obtain ⟨v, vs, e1, e2, rfl⟩ := evalOps_cons_some he
      obtain ⟨b, hd, ht⟩ := ih (fun o' ho' => hreg o' (by simp [ho'])) hk.tail e2
      have a := evalOp_patched (ρt := ρt) h1 hnd (hreg o (by simp)) hk.head e1
      refine ⟨by simp only [evalOps, a, b], ?_, ?_⟩
      · by_cases hr : r = .dst
        · subst hr
          cases h1 <;> first | rfl | cases e1
        · rw [dstOf_cons_skip (fun h => hr h.1), dstOf_cons_skip (fun h => hr h.1), hd]
      · by_cases hr : r = .tgt
        · subst hr
          rw [show exc.contains (mn, j) = true from hk 0 .tgt rfl (Or.inr rfl)] at h1
          cases h1 with
          | litKeep | lab => rfl
          | litMat _ _ hf => cases hf
          | _ => cases e1
        · rw [tgtOf_cons_skip hr, tgtOf_cons_skip hr, ht]

theorem tgtOf_patched_lit {exc : List (String × Nat)} {mn : String} {sets : List (Reg × Int)} {j : Nat}
    {ops ops' : List POperand} {rs : List Role} {v : Int}
    (hp : OpsPatched exc mn sets j ops ops') (h : tgtOf rs ops' = some (.lit v)) :
    tgtOf rs ops = some (.lit v) := by
  induction hp generalizing rs with
  | nil j => exact h
  | @cons j o o' os os' h1 _ ih =>
    cases rs with
    | nil => exact h
    | cons r rs' =>
      by_cases hr : r = .tgt
      · subst hr
        cases Option.some.inj h
        cases h1; rfl
      · rw [tgtOf_cons_skip hr] at h ⊢
        exact ih h

theorem step_setCmd {M : Type} {mc : Machine M} (hs : SetOk mc) {P : List PCmd} {t : State M} {pc : Nat}
    {rv : Reg × Int} (h : P[pc]? = some (setCmd rv)) :
    step mc P t pc = .next ⟨upd t.regs rv.1 (some rv.2), t.mem⟩ (pc + 1) := by
  simp only [step, h, setCmd, hs.roles_set, allOps, List.map_nil, List.nil_append, evalOps, evalOp,
    hs.exec_set, dstOf, writeBack]
  simp

theorem steps_sets {M : Type} {mc : Machine M} (hs : SetOk mc) (P : List PCmd)
    (sets : List (Reg × Int)) (pre post : List PCmd) (t : State M)
    (hP : P = pre ++ sets.map setCmd ++ post) :
    Steps mc P (t, pre.length) (⟨applySets sets t.regs, t.mem⟩, pre.length + sets.length) := by
  induction sets generalizing pre t with
  | nil => exact .refl _
  | cons x xs ih =>
    have hget : P[pre.length]? = some (setCmd x) := by
      subst hP
      simp
    have h1 := step_setCmd hs hget (t := t)
    have hP' : P = (pre ++ [setCmd x]) ++ xs.map setCmd ++ post := by
      subst hP; simp
    have h2 := ih (pre ++ [setCmd x]) ⟨upd t.regs x.1 (some x.2), t.mem⟩ hP'
    simp only [List.length_append, List.length_cons, List.length_nil] at h2
    have e : pre.length + (xs.length + 1) = pre.length + (0 + 1) + xs.length := by omega
    simp only [List.length_cons, e]
    exact .step h1 (by simpa [applySets] using h2)

theorem rcCmd_instr_spec {c : RcCfg} {mn : String} {args : List Int} {ops : List POperand} {code : List PCmd}
    (h : rcCmd c (.instr mn args ops) = .ok code) :
    ∃ sets ops' tmp', rcOps c mn 0 ops [] = .ok (sets, ops', tmp') ∧
      code = sets.map setCmd ++ [.instr mn args ops'] := by
  simp only [rcCmd] at h
  cases hr : rcOps c mn 0 ops [] with
  | error e => simp [hr] at h
  | ok res =>
    obtain ⟨sets, ops', tmp'⟩ := res
    simp only [hr, Except.ok.injEq] at h
    exact ⟨sets, ops', tmp', rfl, h.symm⟩

theorem rcCmd_length {c : RcCfg} {x : PCmd} {code : List PCmd} (h : rcCmd c x = .ok code) :
    code.length = len1 c.exc x := by
  cases x with
  | label l => cases h; rfl
  | instr mn args ops =>
    obtain ⟨sets, ops', tmp', hr, rfl⟩ := rcCmd_instr_spec h
    have := (rcOps_spec hr).2.2
    simp [len1, this]

theorem rcCmd_nolabel {c : RcCfg} {mn : String} {args : List Int} {ops : List POperand} {code : List PCmd}
    (h : rcCmd c (.instr mn args ops) = .ok code) : ∀ x ∈ code, ∀ l', x ≠ .label l' := by
  obtain ⟨sets, ops', tmp', _, rfl⟩ := rcCmd_instr_spec h
  intro x hx l'
  simp only [List.mem_append, List.mem_map, List.mem_singleton] at hx
  rcases hx with ⟨rv, _, rfl⟩ | rfl <;> simp [setCmd]

theorem rcAll_cons {c : RcCfg} {x : PCmd} {xs : List PCmd} {P1 : List PCmd} (h : rcAll c (x :: xs) = .ok P1) :
    ∃ code R, rcCmd c x = .ok code ∧ rcAll c xs = .ok R ∧ P1 = code ++ R := by
  simp only [rcAll] at h
  cases h1 : rcCmd c x with
  | error e => simp [h1] at h
  | ok code =>
    simp only [h1] at h
    cases h2 : rcAll c xs with
    | error e => simp [h2] at h
    | ok R =>
      simp only [h2, Except.ok.injEq] at h
      exact ⟨code, R, rfl, rfl, h.symm⟩

theorem rcAll_decomp {c : RcCfg} {P P1 : List PCmd} {i : Nat} {x : PCmd}
    (h : rcAll c P = .ok P1) (hi : P[i]? = some x) :
    ∃ pre code post, P1 = pre ++ code ++ post ∧ rcCmd c x = .ok code ∧ pre.length = tpos1 c.exc P i := by
  induction P generalizing i P1 with
  | nil => simp at hi
  | cons y ys ih =>
    obtain ⟨cy, R, h1, h2, rfl⟩ := rcAll_cons h
    cases i with
    | zero =>
      simp at hi; subst hi
      exact ⟨[], cy, R, by simp, h1, by simp [tpos1]⟩
    | succ k =>
      simp at hi
      obtain ⟨pre, code, post, rfl, hc, hl⟩ := ih h2 hi
      refine ⟨cy ++ pre, code, post, by simp, hc, ?_⟩
      rw [tpos1_cons_succ, List.length_append, hl, rcCmd_length h1]

theorem rcAll_length {c : RcCfg} {P P1 : List PCmd} (h : rcAll c P = .ok P1) :
    P1.length = tpos1 c.exc P P.length := by
  induction P generalizing P1 with
  | nil => cases h; simp [tpos1]
  | cons y ys ih =>
    obtain ⟨cy, R, h1, h2, rfl⟩ := rcAll_cons h
    rw [List.length_cons, tpos1_cons_succ, List.length_append, ih h2, rcCmd_length h1]

theorem labelIdx_rcAll {c : RcCfg} {P P1 : List PCmd} (l : String) (h : rcAll c P = .ok P1) :
    labelIdx P1 l = (labelIdx P l).map (tpos1 c.exc P) := by
  induction P generalizing P1 with
  | nil => cases h; simp [labelIdx]
  | cons y ys ih =>
    obtain ⟨cy, R, h1, h2, rfl⟩ := rcAll_cons h
    cases y with
    | label l' =>
      cases h1
      simp only [List.cons_append, List.nil_append, labelIdx]
      by_cases e : l' = l
      · simp [e, tpos1]
      · simp only [e, if_false, ih h2, Option.map_map]
        congr 1
        funext k
        simp [tpos1_cons_succ, len1]; omega
    | instr mn a o =>
      rw [labelIdx_append_nolabel _ _ _ (rcCmd_nolabel h1), ih h2]
      simp only [labelIdx, Option.map_map]
      congr 1
      funext k
      simp [tpos1_cons_succ, rcCmd_length h1]; omega

theorem dstOf_mem {rs : List Role} {ops : List POperand} {r : Reg} (h : dstOf rs ops = some r) :
    POperand.reg r ∈ ops := by
  induction ops generalizing rs with
  | nil => rw [dstOf_nil] at h; cases h
  | cons o os ih =>
    cases rs with
    | nil => cases h
    | cons ro rs' =>
      by_cases e : ro = .dst ∧ ∃ r', o = .reg r'
      · obtain ⟨rfl, r', rfl⟩ := e
        cases Option.some.inj h
        exact List.mem_cons_self
      · rw [dstOf_cons_skip e] at h
        exact List.mem_cons_of_mem _ (ih h)

theorem mem_of_getElem? {α : Type} {l : List α} {i : Nat} {x : α} (h : l[i]? = some x) : x ∈ l :=
  List.mem_of_getElem? h

theorem agree_applySets {M : Type} {n : Nat} {cur : List Reg} {s t : State M} {sets : List (Reg × Int)}
    (hag : Agree n cur s t) (hsc : ∀ rv ∈ sets, IsScratch n cur rv.1) :
    Agree n cur s ⟨applySets sets t.regs, t.mem⟩ := by
  refine ⟨hag.1, fun r hr => ?_⟩
  have : r ∉ sets.map Prod.fst := by
    intro hm
    obtain ⟨rv, hrv, rfl⟩ := List.mem_map.1 hm
    exact hr (hsc rv hrv)
  simp only [applySets_not_mem _ _ _ this]
  exact hag.2 r hr

theorem agree_writeBack {M : Type} {n : Nat} {cur : List Reg} {s t : State M} {out : Option Int}
    {d : Option Reg} {m : M} (hag : Agree n cur s t) :
    Agree n cur ⟨writeBack s.regs out d, m⟩ ⟨writeBack t.regs out d, m⟩ := by
  refine ⟨rfl, fun r hr => ?_⟩
  cases out <;> cases d <;> simp only [writeBack, upd]
  all_goals first | exact hag.2 r hr | (split <;> first | rfl | exact hag.2 r hr)

/-- An instruction `P[i]` whose operands evaluate to `vals` in `s`: from the image of `i` the output
runs the inserted `set`s and then stands, one position before the image of `i + 1`, at the instruction
with patched operands; these evaluate to the same `vals` and give the same destination and target. -/
theorem sim1_instr {M : Type} {mc : Machine M} (hs : SetOk mc) {c : RcCfg} (hcov : ExcCovers mc c.exc)
    {P P1 : List PCmd} (hcur : ∀ r, NamedIn P r → r ∈ c.cur) (h1 : rcAll c P = .ok P1)
    {s t : State M} {i : Nat} {mn : String} {ops : List POperand} {rs : List Role} {vals : List Val}
    (hg : P[i]? = some (.instr mn [] ops)) (hr : mc.roles mn = some rs)
    (he : evalOps s.regs rs ops = some vals) (hag : Agree c.nreg c.cur s t) :
    ∃ tk j ops', Steps mc P1 (t, tpos1 c.exc P i) (tk, j) ∧ Agree c.nreg c.cur s tk ∧
      P1[j]? = some (.instr mn [] ops') ∧ evalOps tk.regs rs ops' = some vals ∧
      dstOf rs ops' = dstOf rs ops ∧ tgtOf rs ops' = tgtOf rs ops ∧
      tpos1 c.exc P i ≤ j ∧ j + 1 = tpos1 c.exc P (i + 1) := by
  obtain ⟨pre, code, post, rfl, hc, hl⟩ := rcAll_decomp h1 hg
  obtain ⟨sets, ops', tmp', hro, rfl⟩ := rcCmd_instr_spec hc
  obtain ⟨hinv, hpat, hlen⟩ := rcOps_spec hro
  -- registers named by the instruction are not scratch, and agree
  have hreg : ∀ o ∈ ops, ∀ r ∈ opRegs o, s.regs r = t.regs r ∧ r ∉ sets.map Prod.fst := by
    intro o ho r hro'
    have hin : r ∈ c.cur := hcur r ⟨mn, [], ops, o, List.mem_of_getElem? hg, ho, hro'⟩
    have hns : ¬ IsScratch c.nreg c.cur r := fun ⟨_, _, _, h⟩ => h hin
    refine ⟨hag.2 r hns, fun hm => ?_⟩
    obtain ⟨rv, hrv, rfl⟩ := List.mem_map.1 hm
    exact hns (hinv.scratch rv hrv)
  have hrun := steps_sets hs (pre ++ (sets.map setCmd ++ [PCmd.instr mn [] ops']) ++ post) sets pre
    ([PCmd.instr mn [] ops'] ++ post) t (by simp)
  obtain ⟨hev, hd, ht⟩ := opsPatched_sem (ρt := t.regs) hpat hinv.nodup_sets hreg (hcov mn rs hr) he
  refine ⟨⟨applySets sets t.regs, t.mem⟩, pre.length + sets.length, ops', hl ▸ hrun,
    agree_applySets hag hinv.scratch, by simp, hev, hd, ht, by omega, ?_⟩
  rw [tpos1_succ hg, ← hl]; simp only [len1, hlen]; omega

theorem jumpTarget_some {P : List PCmd} {rs : List Role} {ops : List POperand} {n : Nat}
    (h : jumpTarget P rs ops = some n) :
    (∃ l k, tgtOf rs ops = some (.lab l) ∧ labelIdx P l = some k ∧ n = k + 1) ∨
      ∃ v, tgtOf rs ops = some (.lit v) := by
  unfold jumpTarget at h
  split at h
  · rename_i l htg
    obtain ⟨k, hk, rfl⟩ := Option.map_eq_some_iff.1 h
    exact Or.inl ⟨l, k, htg, hk, rfl⟩
  · rename_i v htg; exact Or.inr ⟨v, htg⟩
  · cases h

/-- `_replace_constants`, command by command: a label stays, an instruction becomes its `set`s and the patched
instruction (`sim1_instr`); a taken branch goes to a label, whose index moves with the position map -/
theorem localSim_rcAll {M : Type} {mc : Machine M} (hs : SetOk mc) {c : RcCfg} (hcov : ExcCovers mc c.exc) {P P1 : List PCmd} (hna : NoArgs P)
    (hlt : LabelTargets mc P) (hcur : ∀ r, NamedIn P r → r ∈ c.cur) (h1 : rcAll c P = .ok P1) :
    LocalSim mc (Agree c.nreg c.cur) P P1 (tpos1 c.exc P) where
  mem h := h.1
  wb _ _ _ h := agree_writeBack h
  label l t hg := by
    obtain ⟨pre, code, post, rfl, hc, hl⟩ := rcAll_decomp h1 hg
    cases hc
    rw [tpos1_succ hg, ← hl]
    exact .single (step_label (l := l) (by simp))
  instr := @fun s t i mn args ops rs vals hg hr he hag => by
    cases hna _ _ _ (List.mem_of_getElem? hg)
    obtain ⟨tk, j, ops', hrun, hagk, hgk, hek, hd, ht, hlo, hj1⟩ := sim1_instr hs hcov hcur h1 hg hr he hag
    refine ⟨tk, j, [], ops', hrun, hagk, hlo, hj1, hgk, hek, hd, fun n hn => ?_⟩
    rcases jumpTarget_some hn with ⟨l, k, htg, hk, rfl⟩ | ⟨v, htg⟩
    · replace htg : tgtOf rs ops = _ := htg
      simp only [jumpTarget, show allOps [] ops' = ops' from rfl, ht, htg, labelIdx_rcAll l h1, hk, Option.map_some,
        tpos1_succ (labelIdx_spec hk), len1]
    · exact absurd htg (hlt _ _ _ _ v (List.mem_of_getElem? hg) hr)

end NQ.Asm
