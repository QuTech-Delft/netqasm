/-
Lemmas for C06 (model `Model/Template.lean`): template substitution commutes with the assembler's
constant replacement (`replCmd_subst`), with the builder operations and with a flush
(`build_subst`, `flushOp_subst`; `compileOp` IS `flushOp`: `compileOp_eq_flushOp`); one segment and
a whole history of the pre-compiled flow against the program written with the values
(`endSeg_direct`, `runH_direct`); `instantiate?` with complete values is `instantiate`.
-/
import NetqasmVerif.Model.Template
namespace NQ.Tpl

/-- the assembler's constant replacement commutes with template substitution when the
templates sit at exception positions -/
theorem replOps_subst (exc : List (String × Nat)) (name : String) (σ : String → Int) :
    ∀ (os : List POp) (fresh : List String) (j : Nat), templatesExempt exc name j os = true →
      replOps exc name fresh j (os.map (substOp σ)) =
        ((replOps exc name fresh j os).1.map (substCmd σ), (replOps exc name fresh j os).2.map (substOp σ)) := by
  intro os
  induction os with
  | nil => intro fresh j _; rfl
  | cons o os ih =>
    intro fresh j h
    simp only [templatesExempt, Bool.and_eq_true] at h
    have ih := fun fr => ih fr (j + 1) h.2
    cases o with
    | txt s => simp only [List.map_cons, substOp, replOps, ih]
    | tmpl n =>
      -- an exempt template becomes an exempt constant: kept, before and after
      have he : exc.contains (name, j) = true := h.1
      cases fresh with
      | nil => simp only [List.map_cons, substOp, replOps, ih]
      | cons r fresh' => simp only [List.map_cons, substOp, replOps, ih, he, if_true]
    | int v =>
      cases fresh with
      | nil => simp only [List.map_cons, substOp, replOps, ih]
      | cons r fresh' =>
        by_cases he : exc.contains (name, j) = true
        · simp only [List.map_cons, substOp, replOps, ih, he, if_true]
        · simp only [List.map_cons, substOp, replOps, ih, he, Bool.false_eq_true, if_false, substCmd,
            List.map_nil]

theorem replCmd_subst (exc : List (String × Nat)) (fresh : List String) (σ : String → Int) (c : PCmd)
    (h : templatesExempt exc c.name 0 c.ops = true) :
    replCmd exc fresh (substCmd σ c) = (replCmd exc fresh c).map (substCmd σ) := by
  simp only [replCmd, substCmd]
  rw [replOps_subst exc c.name σ c.ops fresh 0 h]
  simp [substCmd]

/-- the bookkeeping of the program written with the values: only the pending commands mention
templates -/
def substBk (σ : String → Int) (b : Bk) : Bk := { b with pending := b.pending.map (substCmd σ) }

theorem build_subst (σ : String → Int) (b : Bk) (op : BOp) :
    build (substBk σ b) (substBOp σ op) = substBk σ (build b op) := by
  cases op with
  | meas m cs =>
    cases m with
    | array => simp [build, substBk, substBOp]
    | reg =>
      simp only [build, substBk, substBOp]
      cases firstUnused b.meas 0 with
      | none => rfl
      | some i => simp
  | _ => simp [build, substBk, substBOp]

theorem buildAll_subst (σ : String → Int) : ∀ (body : List BOp) (b : Bk),
    buildAll (substBk σ b) (body.map (substBOp σ)) = substBk σ (buildAll b body) := by
  intro body
  induction body with
  | nil => intro b; rfl
  | cons op ops ih =>
    intro b
    simp only [buildAll, List.map_cons, List.foldl_cons] at ih ⊢
    rw [build_subst, ih]

theorem substCmd_decl (σ : String → Int) (a : Arr) : substCmd σ (declCmd a) = declCmd a := rfl
theorem substCmd_retArr (σ : String → Int) (a : Arr) : substCmd σ (retArrCmd a) = retArrCmd a := rfl
theorem substCmd_retReg (σ : String → Int) (i : Nat) : substCmd σ (retRegCmd i) = retRegCmd i := rfl

theorem allCmds_subst (σ : String → Int) (b : Bk) :
    allCmds (substBk σ b) = (allCmds b).map (substCmd σ) := by
  simp only [allCmds, substBk, List.map_append, List.map_map]
  rfl

theorem popSub_subst (σ : String → Int) (b : Bk) :
    popSub (substBk σ b) = ((popSub b).1.map (fun cs => cs.map (substCmd σ)), (popSub b).2) := by
  simp only [popSub, allCmds_subst]
  cases allCmds b <;> simp [substBk]

/-- `flush()` without the nested matches -/
theorem flushOp_eq (b : Bk) : flushOp b =
    if allCmds b = [] then (none, { b with pending := [] })
    else (some (allCmds b), reset { b with pending := [] }) := by
  unfold flushOp popSub; cases allCmds b <;> rfl

theorem flushOp_subst (σ : String → Int) (b : Bk) :
    flushOp (substBk σ b) = ((flushOp b).1.map (fun cs => cs.map (substCmd σ)), (flushOp b).2) := by
  rw [flushOp_eq, flushOp_eq, allCmds_subst]
  by_cases h : allCmds b = [] <;> simp [h, substBk, reset]

theorem flushOp_pending (b : Bk) : (flushOp b).2.pending = [] := by
  rw [flushOp_eq]; split <;> rfl

theorem substBk_of_pending_nil (σ : String → Int) (b : Bk) (h : b.pending = []) : substBk σ b = b := by
  cases b; simp_all [substBk]

theorem compileOp_eq_flushOp (b : Bk) : compileOp b = flushOp b := rfl

theorem endSeg_pending (b : Bk) (t : Term) : (endSeg compileOp b t).2.pending = [] := by
  cases t with
  | flush => exact flushOp_pending b
  | pre σ =>
    simp only [endSeg, compileOp_eq_flushOp]
    exact flushOp_pending b

theorem endSeg_direct (b : Bk) (hb : b.pending = []) (s : Seg) :
    endSeg compileOp (buildAll b (directSeg s).body) (directSeg s).term =
      endSeg compileOp (buildAll b s.body) s.term := by
  cases s with
  | mk body term =>
    cases term with
    | flush => rfl
    | pre σ =>
      simp only [directSeg, endSeg, compileOp_eq_flushOp]
      conv => lhs; rw [← substBk_of_pending_nil σ b hb]
      rw [buildAll_subst, flushOp_subst]

/-- `substBk` with the values of the next `compile` of the history, if there is one -/
def substBk? (σ : Option (String → Int)) (b : Bk) : Bk :=
  match σ with
  | some f => substBk f b
  | none => b

theorem substBk?_of_pending_nil (σ : Option (String → Int)) (b : Bk) (h : b.pending = []) :
    substBk? σ b = b := by
  cases σ with
  | none => rfl
  | some f => exact substBk_of_pending_nil f b h

theorem build_subst? (σ : Option (String → Int)) (b : Bk) (op : BOp) :
    build (substBk? σ b) (substBOp? σ op) = substBk? σ (build b op) := by
  cases σ with
  | none => rfl
  | some f => exact build_subst f b op

/-- a flush with nothing uncommitted, and a `compile`, without the case split on whether
there was anything to send -/
theorem stepH_flush (r : Bool) (b : Bk) (snt : List (List PCmd)) :
    stepH r ⟨b, [], snt⟩ .flush = some ⟨(flushOp b).2, [], snt ++ (flushOp b).1.toList⟩ := by
  simp only [stepH, List.isEmpty_nil, if_true]
  rcases flushOp b with ⟨_ | cs, b'⟩ <;> simp

theorem stepH_compile (s : HSt) (σ : String → Int) :
    stepH false s (.compile σ) = some { s with bk := (flushOp s.bk).2, queue := s.queue ++
      ((flushOp s.bk).1.map (fun cs => cs.map (substCmd σ))).toList } := by
  simp only [stepH, Bool.false_eq_true, if_false, compileOp_eq_flushOp]
  rcases flushOp s.bk with ⟨_ | cs, b'⟩ <;> simp

/-- simulation: the direct program, started in the substituted bookkeeping with everything the
pre-compiled flow has sent or compiled so far already sent, ends in the same bookkeeping having
sent what the pre-compiled flow sent plus what it still holds compiled -/
theorem runH_direct : ∀ (es : List HEv) (s s' : HSt),
    runH false s es = some s' →
    runH false ⟨substBk? (nextσ es) s.bk, [], s.sent ++ s.queue⟩ (directH es) =
      some ⟨s'.bk, [], s'.sent ++ s'.queue⟩ := by
  intro es
  induction es with
  | nil => intro s s' h; cases h; rfl
  | cons e es ih =>
    intro s s' h
    rw [runH] at h
    cases hs : stepH false s e with
    | none => rw [hs] at h; cases h
    | some s1 =>
      -- one event: both sides of the relation move to the states related for `s1`, `es`
      rw [hs] at h
      rw [← ih s1 s' h]
      cases e with
      | build op => cases hs; simp only [directH, nextσ, runH, stepH, build_subst?]
      | commit =>
        rcases s with ⟨b, _ | ⟨c, q⟩, snt⟩ <;> cases hs
        simp only [directH, nextσ, List.append_assoc, List.singleton_append, Bool.false_eq_true,
          if_false]
      | flush =>
        rcases s with ⟨b, _ | ⟨c, q⟩, snt⟩
        · rw [stepH_flush] at hs; cases hs
          rw [substBk?_of_pending_nil _ _ (flushOp_pending b)]
          simp only [directH, nextσ, substBk?, runH, stepH_flush, List.append_nil]
        · cases hs
      | compile σ =>
        rw [stepH_compile] at hs; cases hs
        rw [substBk?_of_pending_nil _ _ (flushOp_pending _)]
        simp only [directH, nextσ, substBk?, runH, stepH_flush, flushOp_subst, List.append_assoc]

theorem instOp?_total (σ : String → Int) (o : TOperand) :
    instOp? (fun n => some (σ n)) o = some (instOp σ o) := by
  cases o <;> rfl

theorem mapM_instOp?_total (σ : String → Int) : ∀ (os : List TOperand),
    os.mapM (instOp? (fun n => some (σ n))) = some (os.map (instOp σ)) := by
  intro os
  induction os with
  | nil => rfl
  | cons o os ih => simp [List.mapM_cons, instOp?_total, ih]

theorem instantiate?_total (σ : String → Int) : ∀ (t : List TInstr),
    instantiate? (fun n => some (σ n)) t = some (instantiate σ t) := by
  intro t
  induction t with
  | nil => rfl
  | cons i is ih =>
    simp only [instantiate?, List.mapM_cons, instInstr?, mapM_instOp?_total] at ih ⊢
    simp [ih, instantiate]

end NQ.Tpl
