/-
Invariant preservation for the model's operations (instruction, subroutine, life cycle, environment).
-/
import NetqasmVerif.Lemmas.ExecInv
namespace NQ.Exec

theorem unitOf_put (s : State) (a : Nat) (l : Loc) :
    unitOf (s.put a l) = upd (unitOf s) a (some l.ap.unit) := by
  funext b
  simp only [unitOf, State.put, upd]
  split <;> simp

theorem step_st_put {hw a i s pc ap} (h : s.apps a = some ap) :
    (step hw a i s pc).st = s.put a (stepLoc hw a i (s.loc ap) pc).loc := by
  rcases hl : stepLoc hw a i (s.loc ap) pc with ⟨l, pc'⟩ | ⟨l, f⟩
  · rw [step_ok_of_loc h hl]; rfl
  · rw [step_fault_of_loc h hl]; rfl

theorem step_st_none {hw a i s pc} (h : s.apps a = none) : (step hw a i s pc).st = s := by
  unfold step
  simp only [h]
  split <;> rfl

theorem inv_step (hw : Bool) (a : Nat) (i : Instr) (s : State) (pc : Int) (hI : Inv s) :
    Inv (step hw a i s pc).st := by
  rcases hap : s.apps a with _ | ap
  · rw [step_st_none hap]; exact hI
  · have hu := unitOf_of_apps hap
    have hsame : ∀ l' : Loc, l'.ap.unit = ap.unit → l'.used = s.used → Inv (s.put a l') := fun l' h1 h2 => by
      refine inv_same hI ?_ (by simp [State.put, h2]) rfl rfl
      rw [unitOf_put, h1, ← hu, upd_eq_self]
    rw [step_st_put hap]
    rcases h : stepLoc hw a i (s.loc ap) pc with ⟨l', pc'⟩ | ⟨l', f⟩ <;> simp only [LRes.loc]
    · obtain ⟨hF, _, _, hq⟩ := stepLoc_ok h
      cases i with
      | qalloc r =>
        obtain ⟨p, hp, hn, h1, h2⟩ := hq
        have hq := firstUnused_not_mem s.used
        refine inv_alloc hI hu hp hn (.inl hq) ?_ ?_ (fun x => ⟨fun h => ⟨h, ?_⟩, And.left⟩) rfl
        · rw [unitOf_put, h1]; rfl
        · intro x; simp [State.put, h2, State.loc, mem_sadd]
        · rintro rfl; exact hq ((hI.used_iff _).2 (.inr h))
      | qfree r =>
        obtain ⟨p, q, hq, _, h1, h2⟩ := hq
        refine inv_free hI hu hq ?_ ?_ rfl rfl
        · rw [unitOf_put, h1]; rfl
        · intro x; simp [State.put, h2, State.loc, mem_srem]
      | _ => exact hsame l' (hF.qubits rfl).1 (hF.qubits rfl).2
    · rcases stepLoc_fault h with ⟨_, h1, h2, _⟩ | ⟨_, p, q, hq, hm⟩
      · exact hsame l' (congrArg App.unit h1) h2
      -- the KeyError of `qfree` needs a mapped qubit that is not marked used
      · exact absurd (hI.used_of_slot hu hq) hm

theorem inv_run (hw : Bool) (a : Nat) (prog : List Instr) (fuel : Nat) (s : State) (pc : Int)
    (hI : Inv s) : Inv (run hw a prog fuel s pc).s :=
  run_preserves Inv (fun i s pc => inv_step hw a i s pc) prog fuel s pc hI

theorem unitOf_upd_apps (s : State) (a : Nat) (o : Option App) (f g h k) :
    unitOf { s with apps := upd s.apps a o, used := f, reserved := g, registry := h, oracle := k } =
      upd (unitOf s) a (o.map (·.unit)) := by
  funext b
  simp only [unitOf, upd]
  split <;> simp

theorem inv_initApp' (s : State) (a n : Nat) (hI : Inv s) : Inv (initApp s a n).1 := by
  unfold initApp
  split
  · exact hI
  · rename_i ha
    exact inv_initApp (n := n) hI ha (unitOf_upd_apps ..) rfl rfl (by intro b; simp)

theorem inv_stopApp' (s : State) (a : Nat) (hI : Inv s) : Inv (stopApp s a).1 := by
  unfold stopApp
  split
  · exact hI
  · rename_i ap hap
    have hu := unitOf_of_apps hap
    refine inv_stopApp hI hu (unitOf_upd_apps ..) ?_ rfl ?_
    · intro x; simp [List.mem_filter]
    · intro b; simp [List.mem_filter]

theorem inv_reserveQ (s : State) (hI : Inv s) : Inv (reserveQ s) := by
  unfold reserveQ
  refine inv_reserve hI (firstUnused_not_mem s.used) rfl ?_ ?_ rfl
  · intro x; simp [mem_sadd]
  · intro x; simp

/-- What a keep response does to the state: nothing (unknown application, or parked); or the qubit is marked
used and the handler raises; or it is delivered into a free slot. -/
def KeepSpec (s : State) (a p : Nat) (r : ORes) : Prop :=
  r.1 = s ∨ (r.1 = { s with used := sadd p s.used } ∧ r.2 ≠ none) ∨
  ∃ ap k, s.apps a = some ap ∧ k < ap.unit.length ∧ ap.unit[k]?.join = none ∧
    r = ({ s with used := sadd p s.used,
                  apps := upd s.apps a (some { ap with unit := ap.unit.set k (some p) }),
                  reserved := s.reserved.filter (fun q => q != p) }, none)

theorem keepResp_spec (s : State) (a : Nat) (v : Int) (p : Nat) : KeepSpec s a p (keepResp s a v p) := by
  simp only [keepResp]
  split
  · exact .inl rfl
  · split
    · exact .inl rfl
    · split
      · exact .inr (.inl ⟨rfl, nofun⟩)
      · split
        · exact .inr (.inl ⟨rfl, nofun⟩)
        · split
          · exact .inr (.inl ⟨rfl, nofun⟩)
          · exact .inr (.inr ⟨_, _, ‹_›, pyIdx_lt ‹_›, ‹_›, rfl⟩)

/-- keep-response under the environment hypothesis: the delivered physical qubit is one the link
layer holds (`p ∈ reserved`) -/
theorem inv_keepResp (s : State) (a : Nat) (v : Int) (p : Nat) (hI : Inv s) (hp : p ∈ s.reserved) :
    Inv (keepResp s a v p).1 := by
  rcases keepResp_spec s a v p with h | ⟨h, _⟩ | ⟨ap, k, hap, hk, hn, h⟩ <;> rw [h]
  · exact hI
  · have hpu : p ∈ s.used := (hI.used_iff p).2 (Or.inr hp)
    exact inv_same hI rfl (by intro x; simp [mem_sadd]; intro e; subst e; exact hpu) rfl rfl
  · have hu := unitOf_of_apps hap
    refine inv_alloc hI hu hk hn (.inr hp) (unitOf_upd_apps ..) ?_ ?_ rfl
    · intro x; simp [mem_sadd]
    · intro x; simp [List.mem_filter]

theorem inv_keepAt (s : State) (a : Nat) (qa : Int) (p : Nat) (hI : Inv s) (hp : p ∈ s.reserved) :
    Inv (keepAt s a qa p).1 := by
  unfold keepAt
  repeat' split
  all_goals first | exact hI | exact inv_keepResp s a _ p hI hp

/-- under the invariant `qfree` never hits the `set.remove` KeyError -/
theorem no_usedKey (hw : Bool) (a : Nat) (i : Instr) (s s' : State) (pc : Int) (hI : Inv s) :
    step hw a i s pc ≠ .fault s' .usedKey := by
  intro h
  rcases step_fault_inv h with ⟨_, _, e⟩ | ⟨ap, l, hap, hl, _⟩
  · cases e
  · -- a mapped physical qubit is marked used
    rcases stepLoc_fault hl with ⟨hk, _⟩ | ⟨_, p, q, hq, hm⟩
    · exact hk rfl
    · exact hm (hI.used_of_slot (unitOf_of_apps hap) hq)

end NQ.Exec
