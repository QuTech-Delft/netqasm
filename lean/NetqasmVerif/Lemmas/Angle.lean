/-
Helper lemmas for C19 (angle expansion).  Values are read in an arbitrary linearly ordered field
`K` (ℚ, ℝ …): `rest = r / 2^E`, a step `(n, d)` is worth `n / 2^d` (in units of π).
-/
import NetqasmVerif.Model.Angle
import Mathlib.Tactic.Ring
import Mathlib.Tactic.Positivity
import Mathlib.Tactic.LinearCombination
import Mathlib.Algebra.Order.Field.Basic
import Mathlib.Algebra.Order.BigOperators.Group.List
namespace NQ.Angle

theorem restAfter_mul_lt (E r d : Nat) : restAfter E r d * 2 ^ d < 2 ^ E := by
  rw [restAfter_mul]; exact Nat.mod_lt _ (Nat.two_pow_pos E)

/-- `Allowed` without the division: `127 ≤ rest·2^d < 256` -/
theorem allowed_iff (E r d : Nat) :
    Allowed E r d ↔ 127 * 2 ^ E ≤ r * 2 ^ d ∧ r * 2 ^ d < 256 * 2 ^ E :=
  and_congr (Nat.le_div_iff_mul_le (Nat.two_pow_pos E))
    (Nat.lt_succ_iff.symm.trans (Nat.div_lt_iff_lt_mul (Nat.two_pow_pos E)))

/-- with `rest ≤ 2` an allowed exponent is at least 6 -/
theorem allowed_d_ge (E r d : Nat) (h2 : r ≤ 2 * 2 ^ E) (ha : Allowed E r d) : 6 ≤ d := by
  have h1 := ((allowed_iff E r d).mp ha).1
  have h3 : r * 2 ^ d ≤ 2 * 2 ^ E * 2 ^ d := Nat.mul_le_mul_right _ h2
  have h4 : 127 ≤ 2 * 2 ^ d :=
    Nat.le_of_mul_le_mul_right (by rw [Nat.mul_right_comm]; omega) (Nat.two_pow_pos E)
  exact (Nat.pow_lt_pow_iff_right (by decide)).mp (by omega : 2 ^ 5 < 2 ^ d)

/-- with `tol_pi ≥ 2^-247` an allowed exponent fits the 8-bit field:
`t·2^d < rest·2^d < 256·2^E ≤ 2^8·t·2^247` -/
theorem allowed_d_le (E t r d : Nat) (ht : 2 ^ E ≤ t * 2 ^ 247) (hr : t < r) (ha : Allowed E r d) :
    d ≤ 254 := by
  have h : t * 2 ^ d < t * 2 ^ 255 :=
    calc t * 2 ^ d < r * 2 ^ d := Nat.mul_lt_mul_of_pos_right hr (Nat.two_pow_pos d)
      _ < 2 ^ 8 * 2 ^ E := ((allowed_iff E r d).mp ha).2
      _ ≤ 2 ^ 8 * (t * 2 ^ 247) := Nat.mul_le_mul_left _ ht
      _ = t * 2 ^ 255 := by rw [Nat.mul_left_comm, ← Nat.pow_add]
  exact Nat.lt_succ_iff.mp
    ((Nat.pow_lt_pow_iff_right (by decide)).mp (Nat.lt_of_mul_lt_mul_left h))

/-- the last clause is the exit condition of the fixed code's loop: numerator odd or exponent 0 -/
theorem simplify_spec (n d : Nat) :
    (simplify n d).1 ≤ n ∧ (simplify n d).2 ≤ d ∧ (0 < n → 0 < (simplify n d).1) ∧
    ((simplify n d).1 % 2 = 1 ∨ (simplify n d).2 = 0) := by
  fun_induction simplify n d with
  | case1 n => exact ⟨Nat.le_refl n, Nat.le_refl 0, id, .inr rfl⟩
  | case2 n d h ih =>
    exact ⟨Nat.le_trans ih.1 (Nat.div_le_self n 2), Nat.le_succ_of_le ih.2.1,
      fun hn => ih.2.2.1 (by omega), ih.2.2.2⟩
  | case3 n d h => exact ⟨Nat.le_refl n, Nat.le_refl _, id, .inl (by omega)⟩

section Field
variable {K : Type} [Field K] [LinearOrder K] [IsStrictOrderedRing K]

def val (E r : Nat) : K := (r : K) / 2 ^ E
def stepVal (p : Nat × Nat) : K := (p.1 : K) / 2 ^ p.2
def sumVal (l : List (Nat × Nat)) : K := (l.map (stepVal (K := K))).sum

theorem two_pow_pos' (e : Nat) : (0 : K) < 2 ^ e := by positivity

theorem val_le_val (E a b : Nat) (h : a ≤ b) : (val E a : K) ≤ val E b :=
  div_le_div_of_nonneg_right (Nat.cast_le.mpr h) (two_pow_pos' E).le

theorem stepVal_nonneg (p : Nat × Nat) : (0 : K) ≤ stepVal p :=
  div_nonneg (Nat.cast_nonneg p.1) (two_pow_pos' p.2).le

theorem val_nonneg (E a : Nat) : (0 : K) ≤ val E a := stepVal_nonneg (a, E)

theorem sumVal_nonneg (l : List (Nat × Nat)) : (0 : K) ≤ sumVal l := by
  apply List.sum_nonneg
  intro x hx
  obtain ⟨p, _, rfl⟩ := List.mem_map.mp hx
  exact stepVal_nonneg p

theorem sumVal_cons (p : Nat × Nat) (l : List (Nat × Nat)) :
    (sumVal (p :: l) : K) = stepVal p + sumVal l := by
  unfold sumVal; rw [List.map_cons, List.sum_cons]

theorem step_val (E r d : Nat) :
    (val E r : K) = stepVal (numer E r d, d) + val E (restAfter E r d) := by
  have hd := (two_pow_pos' (K := K) d).ne'
  have hE := (two_pow_pos' (K := K) E).ne'
  have h : (r : K) * 2 ^ d = numer E r d * 2 ^ E + restAfter E r d * 2 ^ d := by
    exact_mod_cast step_identity E r d
  show (r : K) / 2 ^ E = (numer E r d : K) / 2 ^ d + (restAfter E r d : K) / 2 ^ E
  -- expand `r / 2^E` by `2^d`, put in the identity, split the fraction and cancel
  rw [← mul_div_mul_right (r : K) _ hd, h, add_div, mul_div_mul_right _ _ hd,
    mul_comm (2 ^ E : K), mul_div_mul_right _ _ hE]

theorem restAfter_val_lt (E r d : Nat) : (val E (restAfter E r d) : K) < 1 / 2 ^ d := by
  unfold val
  rw [div_lt_div_iff₀ (two_pow_pos' (K := K) E) (two_pow_pos' d), one_mul]
  exact_mod_cast restAfter_mul_lt E r d

theorem numer_val_le (E r d : Nat) : (stepVal (numer E r d, d) : K) ≤ val E r := by
  rw [step_val (K := K) E r d]; exact le_add_of_nonneg_right (val_nonneg E _)

theorem val_lt_numer_succ (E r d : Nat) : (val E r : K) < ((numer E r d : K) + 1) / 2 ^ d := by
  rw [step_val (K := K) E r d, add_div]; exact add_lt_add_right (restAfter_val_lt E r d) _

theorem stepVal_double (m d : Nat) : (stepVal (2 * m, d + 1) : K) = stepVal (m, d) := by
  show ((2 * m : Nat) : K) / 2 ^ (d + 1) = m / 2 ^ d
  rw [Nat.cast_mul, Nat.cast_ofNat, pow_succ']
  exact mul_div_mul_left _ _ two_ne_zero

theorem simplify_val (n d : Nat) : (stepVal (simplify n d) : K) = stepVal (n, d) := by
  fun_induction simplify n d with
  | case1 => rfl
  | case2 n d h ih => rw [ih, ← stepVal_double, Nat.mul_div_cancel' (Nat.dvd_of_mod_eq_zero h)]
  | case3 => rfl

end Field

end NQ.Angle
