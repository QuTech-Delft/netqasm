/-
Character level, one line.  An instruction line is `joinWith ' '` of its mnemonic and its operand
words (`showInstr_join`), and `parseLine` needs of a word only `LineWord`: no blank, no `(`, no `$`
inside, and a last character other than `:` (which would make the line a label definition; `:`
is also the slice delimiter, so this cannot be said of all characters).  `parseLine_words` is the
round trip for any operand printer whose words are `LineWord`s that `parseOperand` reads back;
`parseLine_show` is its instance for printed operands, `Lemmas/TextSourceLine.lean` has the one for
source operands.  `groupByWord_line`: the assembler's tokeniser `group_by_word` cuts the same words.
-/
import NetqasmVerif.Lemmas.TextOperand
import NetqasmVerif.Lemmas.TextWords

namespace NQ.AsmFront

/-- a mnemonic `_create_subroutine` accepts: a `GenericInstr` name of lower-case letters, digits, `_` -/
structure HeadOk (generic : List String) (mn : String) : Prop where
  ne : mn.toList ≠ []
  chars : ∀ c ∈ mn.toList, Text.mnCharOk c = true
  known : generic.contains mn = true

end NQ.AsmFront

namespace NQ.Text
open NQ
open NQ.AsmText (joinWith splitOn_joinWith notin_joinWith forall_mem_joinWith joinWith_last joinWith_head
  join_words groupByWord_words)
open NQ.AsmFront (HeadOk)

variable {S : Syms}

def wordChar (S : Syms) (c : Char) : Bool :=
  opChar S c || c = S.addrStart || c = S.idxOpen || c = S.idxClose || c = S.sliceDelim

theorem wordChar_not_space (hS : SOk S) {c : Char} (h : wordChar S c = true) : isSpace c = false := by
  simp only [wordChar, Bool.or_eq_true, decide_eq_true_eq] at h
  rcases h with (((h | rfl) | rfl) | rfl) | rfl
  · exact opChar_not_space hS h
  · exact hS.symA.2
  · exact hS.symO.2
  · exact hS.symC.2
  · exact hS.symD.2

theorem wordChar_lineChar {c : Char} (h : wordChar S c = true) : lineChar S c = true := by
  simp only [wordChar, Bool.or_eq_true, decide_eq_true_eq] at h
  rcases h with (((h | h) | h) | h) | h <;> simp [lineChar, h]

theorem opChar_wordChar {c : Char} (h : opChar S c = true) : wordChar S c = true := by simp [wordChar, h]

theorem showOperand_chars (o : Operand) (hb : banksOk S.banks.length o = true) :
    ∀ c ∈ showOperand S o, wordChar S c = true := by
  have wi : ∀ v, ∀ c ∈ showInt v, wordChar S c = true := fun v c hc => opChar_wordChar (showInt_opChars v c hc)
  have wr : ∀ r, r.bank < S.banks.length → ∀ c ∈ showReg S r, wordChar S c = true :=
    fun r hr c hc => opChar_wordChar (showReg_chars r hr c hc)
  obtain ⟨wa, wo, wc, wd⟩ : wordChar S S.addrStart = true ∧ wordChar S S.idxOpen = true ∧
      wordChar S S.idxClose = true ∧ wordChar S S.sliceDelim = true := by simp [wordChar]
  cases o <;> simp only [banksOk, Bool.and_eq_true, decide_eq_true_eq] at hb <;>
    simp only [showOperand, List.forall_mem_cons, List.forall_mem_append, List.not_mem_nil,
      false_imp_iff, implies_true, and_true, and_assoc]
  · exact wr _ hb
  · exact wi _
  · exact ⟨wa, wi _⟩
  · exact ⟨wa, wi _, wo, wr _ hb, wc⟩
  · exact ⟨wa, wi _, wo, wr _ hb.1, wd, wr _ hb.2, wc⟩

theorem parseOperands_map {α : Type} (f : α → List Char) (tok : α → POp) : ∀ (xs : List α),
    (∀ x ∈ xs, parseOperand S (strip (f x)) = .ok (tok x)) →
    parseOperands S (xs.map f) = .ok (xs.map tok)
  | [], _ => rfl
  | x :: xs, h => by
    simp only [List.map_cons, parseOperands, h x List.mem_cons_self,
      parseOperands_map f tok xs fun y hy => h y (List.mem_cons_of_mem _ hy)]

def lastOk (S : Syms) (d : Char) : Prop := isDigit d = true ∨ d = S.idxClose ∨ mnCharOk d = true

theorem lastOk_of_mnChar {d : Char} (h : mnCharOk d = true) : lastOk S d := Or.inr (Or.inr h)

theorem showOperand_last (o : Operand) :
    ∃ l c, showOperand S o = l ++ [c] ∧ (isDigit c = true ∨ c = S.idxClose) := by
  cases o with
  | reg r => exact last_append (fun _ => Or.inl) [bankChar S r.bank] (showInt_last r.idx)
  | imm v => exact last_append (fun _ => Or.inl) [] (showInt_last v)
  | addr a => exact last_append (fun _ => Or.inl) [S.addrStart] (showInt_last a)
  | entry a i => exact ⟨_, S.idxClose, rfl, Or.inr rfl⟩
  | slice a s e => exact ⟨_, S.idxClose, rfl, Or.inr rfl⟩

theorem mnChar_lineChar {c : Char} (h : mnCharOk c = true) : lineChar S c = true := by
  simp [lineChar, h]

theorem mnChar_not_space {c : Char} (h : mnCharOk c = true) : isSpace c = false :=
  not_space_of_class (p := mnCharOk) (by decide) h

theorem argOpen_ne_space (hS : SOk S) : S.argOpen ≠ ' ' := fun h => by
  have := hS.argOpen; rw [h] at this; simp [lineChar] at this

theorem macroStart_ne_space (hS : SOk S) : S.macroStart ≠ ' ' := fun h => by
  have := hS.macroS; rw [h] at this; simp [lineChar] at this

theorem lastOk_facts (hS : SOk S) {d : Char} (h : lastOk S d) :
    isSpace d = false ∧ d ≠ S.branchEnd := by
  rcases h with h | rfl | h
  · exact ⟨not_space_of_class (p := isDigit) (by decide) h,
      fun hb => by rw [hb, hS.branch.1] at h; cases h⟩
  · exact ⟨hS.symC.2, fun hb => hS.branch.2.1 hb.symm⟩
  · exact ⟨mnChar_not_space h, fun hb => by rw [hb, hS.branch.2.2] at h; cases h⟩

/-! ### Lines as words -/

/-- what `parseLine` needs of one word of an instruction line -/
structure LineWord (S : Syms) (w : List Char) : Prop where
  noSpace : ∀ c ∈ w, isSpace c = false
  noArg : S.argOpen ∉ w
  noMacro : S.macroStart ∉ w
  last : ∃ l d, w = l ++ [d] ∧ d ≠ S.branchEnd

theorem LineWord.ne_nil {w : List Char} (h : LineWord S w) : w ≠ [] := by
  obtain ⟨l, d, rfl, _⟩ := h.last; simp

/-- a word whose characters lie in a class `C ⊆ D`, where `D` has neither blanks nor `(`, `$` -/
theorem lineWord_of_class {C D : Char → Bool} (hCD : ∀ c, C c = true → D c = true)
    (hsp : ∀ c, C c = true → isSpace c = false) (ha : D S.argOpen = false)
    (hm : D S.macroStart = false) {w : List Char} (hc : ∀ c ∈ w, C c = true)
    (hl : ∃ l d, w = l ++ [d] ∧ d ≠ S.branchEnd) : LineWord S w :=
  have hD : ∀ c ∈ w, D c = true := fun c h => hCD c (hc c h)
  ⟨fun c h => hsp c (hc c h), notin_of_class hD ha, notin_of_class hD hm, hl⟩

theorem parseLine_words (hS : SOk S) {generic : List String} {mn : String}
    (hg : generic.contains mn = true) (hmn : LineWord S mn.toList) {α : Type} (f : α → List Char)
    (tok : α → POp) (xs : List α) (hw : ∀ x ∈ xs, LineWord S (f x))
    (hp : ∀ x ∈ xs, parseOperand S (f x) = .ok (tok x)) :
    parseLine S generic (joinWith ' ' (mn.toList :: xs.map f)) = .ok ⟨mn, xs.map tok⟩ := by
  have hws : ∀ w ∈ mn.toList :: xs.map f, LineWord S w :=
    List.forall_mem_cons.2 ⟨hmn, fun w h => by obtain ⟨x, hx, rfl⟩ := List.mem_map.1 h; exact hw x hx⟩
  have hlast : (joinWith ' ' (mn.toList :: xs.map f)).getLast? ≠ some S.branchEnd := by
    obtain ⟨l, d, hl, hd⟩ := joinWith_last ' ' _ (by simp) fun w h => (hws w h).last
    rw [hl, List.getLast?_concat]; exact fun h => hd (Option.some.inj h)
  have ha := notin_joinWith (argOpen_ne_space hS) fun w h => (hws w h).noArg
  have hm := notin_joinWith (macroStart_ne_space hS) fun w h => (hws w h).noMacro
  unfold parseLine
  rw [if_neg (by simp only [Bool.or_eq_true, beq_iff_eq, List.contains_iff_mem, ha, hm, or_false]; exact hlast),
    splitOn_joinWith ' ' _ (by simp) fun w h => space_notin (hws w h).noSpace]
  simp only [String.ofList_toList, hg, if_true,
    parseOperands_map f tok xs fun x hx => by rw [strip_of_all (hw x hx).noSpace]; exact hp x hx]

theorem mn_last {generic : List String} {mn : String} (hh : HeadOk generic mn) :
    ∃ l d, mn.toList = l ++ [d] ∧ mnCharOk d = true := by
  rcases List.eq_nil_or_concat mn.toList with h | ⟨l, d, h⟩
  · exact absurd h hh.ne
  · rw [List.concat_eq_append] at h
    exact ⟨l, d, h, hh.chars d (by simp [h])⟩

theorem mn_head {generic : List String} {mn : String} (hh : HeadOk generic mn) :
    ∃ c cs, mn.toList = c :: cs ∧ mnCharOk c = true := by
  cases h : mn.toList with
  | nil => exact absurd h hh.ne
  | cons c cs => exact ⟨c, cs, rfl, hh.chars c (by simp [h])⟩

theorem mn_word (hS : SOk S) {generic : List String} {mn : String} (hh : HeadOk generic mn) :
    LineWord S mn.toList :=
  have ⟨l, d, h, hd⟩ := mn_last hh
  lineWord_of_class (D := lineChar S) (fun _ => mnChar_lineChar) (fun _ => mnChar_not_space) hS.argOpen
    hS.macroS hh.chars ⟨l, d, h, (lastOk_facts hS (lastOk_of_mnChar hd)).2⟩

theorem showOperand_word (hS : SOk S) (o : Operand) (hb : banksOk S.banks.length o = true) :
    LineWord S (showOperand S o) :=
  have ⟨l, d, hl, hd⟩ := showOperand_last (S := S) o
  lineWord_of_class (D := lineChar S) (fun _ => wordChar_lineChar) (fun _ => wordChar_not_space hS)
    hS.argOpen hS.macroS (showOperand_chars o hb) ⟨l, d, hl, (lastOk_facts hS (hd.imp_right Or.inl)).2⟩

theorem showInstr_join (mn : String) (ops : List Operand) :
    showInstr S mn ops = joinWith ' ' (mn.toList :: ops.map (showOperand S)) :=
  join_words (showOperand S) (showOperands S) rfl (fun _ _ => rfl) _ ops

theorem showOperands_last (o : Operand) (os : List Operand) :
    ∃ l c, showOperands S (o :: os) = l ++ [c] ∧ (isDigit c = true ∨ c = S.idxClose) := by
  rw [showOperands, join_words (showOperand S) (showOperands S) rfl (fun _ _ => rfl)]
  exact joinWith_last ' ' _ (List.cons_ne_nil _ _) (List.forall_mem_cons.2
    ⟨last_append (fun _ h => h) [' '] (showOperand_last o), fun w h => by
      obtain ⟨x, _, rfl⟩ := List.mem_map.1 h; exact showOperand_last x⟩)

theorem parseLine_show (hS : SOk S) {generic : List String} {mn : String} (hh : HeadOk generic mn)
    (ops : List Operand) (hb : ∀ o ∈ ops, banksOk S.banks.length o = true) :
    parseLine S generic (showInstr S mn ops) = .ok (printToks mn ops) := by
  rw [showInstr_join]
  exact parseLine_words hS hh.known (mn_word hS hh) _ opTok ops
    (fun o ho => showOperand_word hS o (hb o ho)) fun o ho => parseOperand_show hS o (hb o ho)

/-- every character of a printed line is a `lineChar`; the first is a mnemonic character -/
theorem showInstr_chars {generic : List String} {mn : String} (hh : HeadOk generic mn)
    (ops : List Operand) (hb : ∀ o ∈ ops, banksOk S.banks.length o = true) :
    (∀ c ∈ showInstr S mn ops, lineChar S c = true) ∧
    ∃ c cs, showInstr S mn ops = c :: cs ∧ mnCharOk c = true := by
  rw [showInstr_join]
  refine ⟨forall_mem_joinWith (by simp [lineChar]) (List.forall_mem_cons.2
    ⟨fun c h => mnChar_lineChar (hh.chars c h), fun w h => ?_⟩), joinWith_head ' ' _ (mn_head hh)⟩
  obtain ⟨o, ho, rfl⟩ := List.mem_map.1 h
  exact fun c hc => wordChar_lineChar (showOperand_chars o (hb o ho) c hc)

/-! ### `group_by_word` on instruction lines without argument brackets -/

theorem asm_not_space_of_lastOk {d : Char} (hC : AsmText.isSpace S.idxClose = false)
    (h : lastOk S d) : AsmText.isSpace d = false := by
  rcases h with h | rfl | h
  · exact not_asmSpace_of_class (p := isDigit) (by decide) h
  · exact hC
  · exact not_asmSpace_of_class (p := mnCharOk) (by decide) h

theorem groupByWord_line (hS : SOk S) (cb : Char) {generic : List String} {mn : String}
    (hh : HeadOk generic mn) {α : Type} (f : α → List Char) (xs : List α)
    (hw : ∀ x ∈ xs, LineWord S (f x))
    (hl : ∀ x ∈ xs, ∃ l d, f x = l ++ [d] ∧ AsmText.isSpace d = false) :
    AsmText.groupByWord S.argOpen cb (joinWith ' ' (mn.toList :: xs.map f))
      = some (mn.toList :: xs.map f) := by
  have mnb : ∀ {c : Char}, mnCharOk c = true → AsmText.isSpace c = false :=
    not_asmSpace_of_class (p := mnCharOk) (by decide)
  have hws : ∀ w ∈ mn.toList :: xs.map f,
      LineWord S w ∧ ∃ l d, w = l ++ [d] ∧ AsmText.isSpace d = false :=
    List.forall_mem_cons.2 ⟨⟨mn_word hS hh, let ⟨l, d, h, hd⟩ := mn_last hh; ⟨l, d, h, mnb hd⟩⟩,
      fun w h => by obtain ⟨x, hx, rfl⟩ := List.mem_map.1 h; exact ⟨hw x hx, hl x hx⟩⟩
  obtain ⟨c, cs, h1, hc⟩ := joinWith_head ' ' (xs.map f) (mn_head hh)
  obtain ⟨l, d, h2, hd⟩ := joinWith_last (P := fun c => AsmText.isSpace c = false) ' ' _ (by simp)
    fun w h => (hws w h).2
  exact groupByWord_words _ cb _ (by simp)
    (fun w h => ⟨space_notin (hws w h).1.noSpace, Or.inl (hws w h).1.noArg⟩)
    (asm_strip_of_ends (mnb hc) hd ⟨cs, h1⟩ ⟨l, h2⟩)

/-- `group_by_word(line, brackets="()")` cuts a printed instruction into the words `parseLine`
works on, and `_split_of_bracket` finds no argument list on the mnemonic -/
theorem printed_line_groupByWord (hS : SOk S) (hC : AsmText.isSpace S.idxClose = false) (cb : Char)
    {generic : List String} {mn : String} (hh : HeadOk generic mn)
    (ops : List Operand) (hb : ∀ o ∈ ops, banksOk S.banks.length o = true) :
    AsmText.groupByWord S.argOpen cb (showInstr S mn ops)
      = some (mn.toList :: ops.map (showOperand S)) ∧
    AsmText.splitOfBracket S.argOpen cb mn.toList = some (mn.toList, []) := by
  rw [showInstr_join]
  exact ⟨groupByWord_line hS cb hh _ ops (fun o h => showOperand_word hS o (hb o h)) fun o _ =>
      have ⟨l, d, hl, hd⟩ := showOperand_last (S := S) o
      ⟨l, d, hl, asm_not_space_of_lastOk hC (hd.imp_right Or.inl)⟩,
    AsmText.splitOfBracket_none _ _ _ (mn_word hS hh).noArg⟩

end NQ.Text
