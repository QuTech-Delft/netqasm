/-
C05 → C03: the bridge between the label-level semantics `Sdk.step` of C05 (ProtoExec, quantum
back end abstracted to a trace, no unit module) and the source semantics of the assembler proofs
instantiated with the executor (`Asm.step (qMachine a)`), on the translated proto program.

`Rel s t`: the ProtoExec state `s` and the machine state `t` carry the same registers, arrays,
returned registers, outcome oracle and (names of the) quantum hook calls; the unit module and
the used-qubit set of `t` are unconstrained — ProtoExec has none.
-/
import NetqasmVerif.Lemmas.AsmExecQ
import NetqasmVerif.Lemmas.SdkSem
namespace NQ.Bridge
open NQ NQ.Asm

def cvReg (r : Sdk.Reg) : Reg := ⟨r.bank, (r.idx : Int)⟩

def trOp : Sdk.POp → POperand
  | .reg r => .reg (cvReg r)
  | .lit v => .lit v
  | .lab l => .lab l.name
  | .addr a => .addr (a : Int)
  | .entryL a i => .entry (a : Int) (.lit (i : Int))
  | .entryR a r => .entry (a : Int) (.reg (cvReg r))

def trCmd : Sdk.PCmd → PCmd
  | .label l => .label l.name
  | .instr mn ops => .instr mn.name [] (ops.map trOp)

/-- the proto-subroutine as `assemble_subroutine` receives it -/
def tr (P : List Sdk.PCmd) : List PCmd := P.map trCmd

theorem cvReg_inj {r r' : Sdk.Reg} (h : cvReg r = cvReg r') : r = r' := by
  obtain ⟨b, i⟩ := r; obtain ⟨b', i'⟩ := r'
  simp only [cvReg, Reg.mk.injEq] at h
  obtain ⟨h1, h2⟩ := h
  have : i = i' := by omega
  subst h1; subst this; rfl

theorem tr_get (P : List Sdk.PCmd) (n : Nat) : (tr P)[n]? = (P[n]?).map trCmd := by
  simp [tr]

/-- label names separate the labels of the program (the builder's `LabelManager` names are prefix of the
kind + counter; proved for every emitted subroutine in `Lemmas/SdkEmitted.lean`, `emitted_nameInj`) -/
def NameInj (P : List Sdk.PCmd) : Prop :=
  ∀ l' l mn ops, Sdk.PCmd.label l' ∈ P → Sdk.PCmd.instr mn ops ∈ P → Sdk.POp.lab l ∈ ops →
    l'.name = l.name → l' = l

/-- registers are in the 4 × 16 register file (the builder only hands out such registers:
`Lemmas/SdkEmitted.lean`, `emitted_regsInRange`) -/
def RegsInRange (P : List Sdk.PCmd) : Prop :=
  ∀ mn ops r, Sdk.PCmd.instr mn ops ∈ P → (Sdk.POp.reg r ∈ ops ∨ ∃ a, Sdk.POp.entryR a r ∈ ops) →
    r.bank < 4 ∧ r.idx < 16

theorem findLabel_tr {Q : List Sdk.PCmd} {l : Sdk.Lbl}
    (h : ∀ l', Sdk.PCmd.label l' ∈ Q → l'.name = l.name → l' = l) :
    labelIdx (tr Q) l.name = Sdk.findLabel Q l := by
  induction Q with
  | nil => rfl
  | cons c cs ih =>
    have ih' := ih (fun l' hl' => h l' (List.mem_cons_of_mem _ hl'))
    cases c with
    | label l' =>
      have : l'.name = l.name ↔ l' = l := ⟨h l' (by simp), congrArg _⟩
      simp only [tr, List.map_cons, trCmd, labelIdx, Sdk.findLabel, this] at ih' ⊢
      rw [ih']
    | instr mn ops =>
      simp only [tr, List.map_cons, trCmd, labelIdx, Sdk.findLabel] at ih' ⊢
      rw [ih']

def evName : Sdk.Ev → Option String
  | .qalloc => none
  | .qfree => none
  | .init => some "init"
  | .gate g => some (Sdk.Mn.gate g).name
  | .meas _ => some "meas"

structure Rel (s : Sdk.St) (t : State XMem) : Prop where
  regs : ∀ r, s.regs r = t.regs (cvReg r)
  arrs : ∀ n : Nat, s.arrs n = t.mem.arrays (n : Int)
  shmRegs : ∀ x : Exec.XReg, s.shmRegs ⟨x.bank.val, x.idx.val⟩ = t.mem.shmRegs x
  outs : s.outcomes = t.mem.oracle
  trace : s.trace.filterMap evName = t.mem.trace.map (·.name)

theorem rel_setReg {s : Sdk.St} {t : State XMem} (h : Rel s t) (r : Sdk.Reg) (v : Int) :
    Rel (s.setReg r v) ⟨upd t.regs (cvReg r) (some v), t.mem⟩ := by
  refine ⟨fun r' => ?_, h.arrs, h.shmRegs, h.outs, h.trace⟩
  have : cvReg r' = cvReg r ↔ r' = r := ⟨cvReg_inj, congrArg cvReg⟩
  simp only [Sdk.St.setReg, upd, this, h.regs r']

theorem rel_setArr {s : Sdk.St} {t : State XMem} (h : Rel s t) (a : Nat) (l : List (Option Int)) (m : XMem)
    (h1 : m.arrays = Exec.upd t.mem.arrays (a : Int) (some l)) (h2 : m.shmRegs = t.mem.shmRegs)
    (h3 : m.oracle = t.mem.oracle) (h4 : m.trace = t.mem.trace) : Rel (s.setArr a l) ⟨t.regs, m⟩ := by
  refine ⟨h.regs, fun n => ?_, fun x => by simpa [Sdk.St.setArr, h2] using h.shmRegs x,
    by simpa [Sdk.St.setArr, h3] using h.outs, by simpa [Sdk.St.setArr, h4] using h.trace⟩
  simp only [Sdk.St.setArr, h1, Exec.upd, Int.natCast_inj, h.arrs n]

theorem pyIdx_nat (len i : Nat) : Exec.pyIdx len (i : Int) = if i < len then some i else none := by
  simp [Exec.pyIdx]

theorem use_of_opVal {s : Sdk.St} {t : State XMem} (h : Rel s t) {o : Sdk.POp} {x : Int}
    (ho : Sdk.opVal s o = some x) : evalOp t.regs .use (trOp o) = some (.use (some x)) := by
  cases o <;> simp [Sdk.opVal] at ho <;> simp [trOp, evalOp, ← h.regs, ho]

theorem entry_of_entryLoc {s : Sdk.St} {t : State XMem} (h : Rel s t) {e : Sdk.POp} {a i : Nat}
    (he : Sdk.entryLoc s e = some (a, i)) :
    evalOp t.regs .entry (trOp e) = some (.entry (a : Int) (some (i : Int))) := by
  cases e with
  | entryL a' i' =>
    simp only [Sdk.entryLoc, Option.some.injEq, Prod.mk.injEq] at he
    obtain ⟨rfl, rfl⟩ := he
    simp [trOp, evalOp, evalRI]
  | entryR a' r =>
    simp only [Sdk.entryLoc] at he
    cases hr : s.regs r with
    | none => simp [hr] at he
    | some v =>
      simp only [hr] at he
      by_cases h0 : 0 ≤ v
      · simp only [h0, if_true, Option.some.injEq, Prod.mk.injEq] at he
        obtain ⟨rfl, rfl⟩ := he
        have : ((v.toNat : Nat) : Int) = v := Int.toNat_of_nonneg h0
        simp [trOp, evalOp, evalRI, ← h.regs r, hr, this]
      · simp [h0] at he
  | _ => simp [Sdk.entryLoc] at he

theorem evalOp_dst (ρ : Regs) (r : Reg) : evalOp ρ .dst (.reg r) = some .dst := rfl

/-- gate `g` is the `(g + 1)`-th name of `q1Names`, from the seventh on the last -/
theorem gate_name_mem : ∀ g, (Sdk.Mn.gate g).name ∈ q1Names
  | 0 => List.mem_of_getElem? (i := 1) rfl
  | 1 => List.mem_of_getElem? (i := 2) rfl
  | 2 => List.mem_of_getElem? (i := 3) rfl
  | 3 => List.mem_of_getElem? (i := 4) rfl
  | 4 => List.mem_of_getElem? (i := 5) rfl
  | 5 => List.mem_of_getElem? (i := 6) rfl
  | _ + 6 => List.mem_of_getElem? (i := 7) rfl

/-- the operand roles `qMachine` gives the mnemonics of the builder -/
def rolesOf : Sdk.Mn → List Role
  | .set => [.dst, .imm] | .load => [.dst, .entry] | .store => [.use, .entry] | .array => [.use, .addr]
  | .add => [.dst, .use, .use] | .addm => [.dst, .use, .use, .use]
  | .jmp => [.tgt] | .bez | .bnz => [.use, .tgt] | .beq | .bne | .blt | .bge => [.use, .use, .tgt]
  | .retReg => [.named] | .retArr => [.addr] | .meas => [.use, .dst]
  | .qalloc | .qfree | .init | .gate _ => [.use]

theorem roles_name (a : Nat) (mn : Sdk.Mn) : (qMachine a).roles mn.name = some (rolesOf mn) := by
  cases mn with
  | gate g => exact roles_q1 a (gate_name_mem g)
  -- a sweep over the role table; `simp` compares the string literals by simprocs, which is several times
  -- cheaper to check than `decide` or `rfl` on the same goals
  | _ => simp [qMachine, qRoles, q1Names, stdRoles, stdRoleTable, lookupRoles, Sdk.Mn.name, rolesOf]

theorem tr_instr {P : List Sdk.PCmd} {n : Nat} {mn : Sdk.Mn} {ops : List Sdk.POp} (hP : P[n]? = some (.instr mn ops)) :
    (tr P)[n]? = some (.instr mn.name [] (ops.map trOp)) := by rw [tr_get, hP]; rfl

theorem exec_x (a : Nat) {mn : String} (hc : mn ∉ "meas" :: q1Names) {vals : List Val} {m : XMem}
    {r : Res XMem} (h : xExec mn vals m = r) : (qMachine a).exec mn vals m = r := by
  rw [← h]
  exact congrFun (congrFun (qExec_classical a (fun e => hc (e ▸ .head _)) (fun hm => hc (.tail _ hm))) vals) m

theorem step_tr_next (a : Nat) {P : List Sdk.PCmd} {t : State XMem} {n : Nat} {mn : Sdk.Mn} {ops : List Sdk.POp}
    {vals : List Val} {out : Option Int} {m : XMem} (hP : P[n]? = some (.instr mn ops))
    (he : evalOps t.regs (rolesOf mn) (ops.map trOp) = some vals)
    (hx : (qMachine a).exec mn.name vals t.mem = .ok out m false) :
    step (qMachine a) (tr P) t n = .next ⟨writeBack t.regs out (dstOf (rolesOf mn) (ops.map trOp)), m⟩ (n + 1) := by
  rw [step_instr (tr_instr hP) (roles_name a mn) (vals := vals) he, hx]; rfl

theorem step_tr_jump (a : Nat) {P : List Sdk.PCmd} {t : State XMem} {n k : Nat} {mn : Sdk.Mn} {ops : List Sdk.POp}
    {vals : List Val} {out : Option Int} {m : XMem} (hP : P[n]? = some (.instr mn ops))
    (he : evalOps t.regs (rolesOf mn) (ops.map trOp) = some vals)
    (hx : (qMachine a).exec mn.name vals t.mem = .ok out m true)
    (hj : jumpTarget (tr P) (rolesOf mn) (ops.map trOp) = some k) :
    step (qMachine a) (tr P) t n = .next ⟨writeBack t.regs out (dstOf (rolesOf mn) (ops.map trOp)), m⟩ k := by
  rw [step_instr (tr_instr hP) (roles_name a mn) (vals := vals) he, hx]
  show (match jumpTarget (tr P) (rolesOf mn) (ops.map trOp) with | some tg => _ | none => _) = _
  rw [hj]; rfl

/-! ### classical instructions: ProtoExec steps ⇒ the machine steps to a related state

Each lemma inverts `Sdk.exec` at its mnemonic (operand shapes and values), evaluates the operands and
`exec` of the machine on them, and re-establishes `Rel`. -/

section
variable (a : Nat) {P : List Sdk.PCmd} {s s' : Sdk.St} {n n' : Nat} {t : State XMem} {ops : List Sdk.POp}

abbrev Goal (a : Nat) (P : List Sdk.PCmd) (s' : Sdk.St) (n n' : Nat) (t : State XMem) : Prop :=
  ∃ t', Asm.step (qMachine a) (tr P) t n = .next t' n' ∧ Rel s' t'

theorem br_set (hP : P[n]? = some (.instr .set ops)) (hs : Sdk.exec P s n .set ops = some (s', n'))
    (hrel : Rel s t) : Goal a P s' n n' t := by
  unfold Sdk.exec at hs; dsimp only at hs
  split at hs
  · rename_i r v
    cases hs
    exact ⟨_, step_tr_next a hP (vals := [.dst, .imm v]) (out := some v) (m := t.mem) rfl
      (exec_x a (mn := "set") (by simp [q1Names]) (xExec_set v t.mem)), rel_setReg hrel r v⟩
  · cases hs

theorem br_add (hP : P[n]? = some (.instr .add ops)) (hs : Sdk.exec P s n .add ops = some (s', n'))
    (hrel : Rel s t) : Goal a P s' n n' t := by
  unfold Sdk.exec at hs; dsimp only at hs
  split at hs
  · rename_i r x y
    split at hs
    · rename_i vx vy hx hy
      cases hs
      exact ⟨_, step_tr_next a hP (vals := [.dst, .use (some vx), .use (some vy)]) (out := some (vx + vy)) (m := t.mem)
        (by show evalOps t.regs [.dst, .use, .use] [.reg (cvReg r), trOp x, trOp y] = _
            simp only [evalOps, evalOp_dst, use_of_opVal hrel hx, use_of_opVal hrel hy])
        (exec_x a (mn := "add") (by simp [q1Names]) (xExec_add _ _ _)), rel_setReg hrel r _⟩
    · cases hs
  · cases hs

theorem br_addm (hP : P[n]? = some (.instr .addm ops)) (hs : Sdk.exec P s n .addm ops = some (s', n'))
    (hrel : Rel s t) : Goal a P s' n n' t := by
  unfold Sdk.exec at hs; dsimp only at hs
  split at hs
  · rename_i r x y m
    split at hs
    · rename_i vx vy hx hy
      split at hs
      · cases hs
      · rename_i hm
        cases hs
        exact ⟨_, step_tr_next a hP (vals := [.dst, .use (some vx), .use (some vy), .use (some m)])
          (out := some ((vx + vy) % m)) (m := t.mem)
          (by show evalOps t.regs [.dst, .use, .use, .use] [.reg (cvReg r), trOp x, trOp y, .lit m] = _
              simp only [evalOps, evalOp_dst, use_of_opVal hrel hx, use_of_opVal hrel hy]; rfl)
          (exec_x a (mn := "addm") (by simp [q1Names]) ((xExec_addm _ _ _ _).trans (by simp [xArithm, hm]))),
          rel_setReg hrel r _⟩
    · cases hs
  · cases hs

theorem br_load (hP : P[n]? = some (.instr .load ops)) (hs : Sdk.exec P s n .load ops = some (s', n'))
    (hrel : Rel s t) : Goal a P s' n n' t := by
  unfold Sdk.exec at hs; dsimp only [Sdk.readEntry] at hs
  split at hs
  · rename_i r e
    cases he : Sdk.entryLoc s e with
    | none => simp [he] at hs
    | some ai =>
      obtain ⟨ad, i⟩ := ai
      cases ha : s.arrs ad with
      | none => simp [he, ha] at hs
      | some l =>
        cases hl : l[i]? with
        | none => simp [he, ha, hl] at hs
        | some ov =>
          cases ov with
          | none => simp [he, ha, hl] at hs
          | some v =>
            simp only [he, ha, hl, Option.some.injEq, Prod.mk.injEq] at hs
            obtain ⟨rfl, rfl⟩ := hs
            have hlt : i < l.length := (List.getElem?_eq_some_iff.1 hl).1
            have hx : xLoad (ad : Int) (some (i : Int)) t.mem = .ok (some v) t.mem false := by
              have hj : l[i]?.join = some v := by rw [hl]; rfl
              simp only [xLoad, ← hrel.arrs ad, ha, pyIdx_nat, hlt, if_true, hj]
            exact ⟨_, step_tr_next a hP (vals := [.dst, .entry (ad : Int) (some (i : Int))]) (out := some v) (m := t.mem)
              (by show evalOps t.regs [.dst, .entry] [.reg (cvReg r), trOp e] = _
                  simp only [evalOps, evalOp_dst, entry_of_entryLoc hrel he])
              (exec_x a (mn := "load") (by simp [q1Names]) ((xExec_load _ _ _).trans hx)), rel_setReg hrel r v⟩
  · cases hs

theorem br_store (hP : P[n]? = some (.instr .store ops)) (hs : Sdk.exec P s n .store ops = some (s', n'))
    (hrel : Rel s t) : Goal a P s' n n' t := by
  unfold Sdk.exec at hs; dsimp only [Sdk.writeEntry] at hs
  split at hs
  · rename_i src e
    cases hv : Sdk.opVal s src with
    | none => simp [hv] at hs
    | some v =>
      cases he : Sdk.entryLoc s e with
      | none => simp [hv, he] at hs
      | some ai =>
        obtain ⟨ad, i⟩ := ai
        cases ha : s.arrs ad with
        | none => simp [hv, he, ha] at hs
        | some l =>
          by_cases hlt : i < l.length
          · simp only [hv, he, ha, hlt, if_true, Option.some.injEq, Prod.mk.injEq] at hs
            obtain ⟨rfl, rfl⟩ := hs
            refine ⟨_, step_tr_next a hP (vals := [.use (some v), .entry (ad : Int) (some (i : Int))]) (out := none)
              (m := { t.mem with arrays := Exec.upd t.mem.arrays (ad : Int) (some (l.set i (some v))) })
              (by show evalOps t.regs [.use, .entry] [trOp src, trOp e] = _
                  simp only [evalOps, use_of_opVal hrel hv, entry_of_entryLoc hrel he])
              (exec_x a (mn := "store") (by simp [q1Names]) ((xExec_store _ _ _ _).trans (by simp [xStore, ← hrel.arrs ad, ha, pyIdx_nat, hlt]))),
              rel_setArr hrel ad _ _ rfl rfl rfl rfl⟩
          · simp [hv, he, ha, hlt] at hs
  · cases hs

theorem br_array (hP : P[n]? = some (.instr .array ops)) (hs : Sdk.exec P s n .array ops = some (s', n'))
    (hrel : Rel s t) : Goal a P s' n n' t := by
  unfold Sdk.exec at hs; dsimp only at hs
  split at hs
  · rename_i len ad
    split at hs
    · cases hs
      exact ⟨_, step_tr_next a hP (vals := [.use (some len), .addr (ad : Int)]) (out := none)
        (m := { t.mem with arrays := Exec.upd t.mem.arrays (ad : Int) (some (List.replicate len.toNat none)),
                           shmArrs := Exec.upd t.mem.shmArrs (ad : Int) (xFreeze t.mem (ad : Int)) }) rfl
        (exec_x a (mn := "array") (by simp [q1Names]) (xExec_array _ _ _)), rel_setArr hrel ad _ _ rfl rfl rfl rfl⟩
    · cases hs
  · cases hs

theorem toX_cvReg {r : Sdk.Reg} (hb : r.bank < 4) (hi : r.idx < 16) :
    toX? (cvReg r) = some ⟨⟨r.bank, hb⟩, ⟨r.idx, hi⟩⟩ := by
  have h2 : (0 : Int) ≤ (r.idx : Int) ∧ (r.idx : Int) < 16 := by omega
  simp [toX?, cvReg, hb, h2]

theorem br_retReg (hR : RegsInRange P) (hP : P[n]? = some (.instr .retReg ops))
    (hs : Sdk.exec P s n .retReg ops = some (s', n')) (hrel : Rel s t) : Goal a P s' n n' t := by
  unfold Sdk.exec at hs; dsimp only at hs
  split at hs
  · rename_i r
    split at hs
    · rename_i v hv
      cases hs
      obtain ⟨hb, hi⟩ := hR _ _ r (List.mem_of_getElem? hP) (Or.inl (by simp))
      have hx := toX_cvReg hb hi
      refine ⟨_, step_tr_next a hP (vals := [.named (cvReg r) (some v)]) (out := none)
        (m := { t.mem with shmRegs := Exec.upd t.mem.shmRegs ⟨⟨r.bank, hb⟩, ⟨r.idx, hi⟩⟩ (some v) })
        (by show evalOps t.regs [.named] [.reg (cvReg r)] = _; simp only [evalOps, evalOp, ← hrel.regs r, hv])
        (exec_x a (mn := "ret_reg") (by simp [q1Names]) ((xExec_retReg _ _ _).trans (by simp [xRetReg, hx]))),
        ⟨hrel.regs, hrel.arrs, fun x => ?_, hrel.outs, hrel.trace⟩⟩
      simp only [Exec.upd]
      by_cases e : x = ⟨⟨r.bank, hb⟩, ⟨r.idx, hi⟩⟩
      · subst e; simp
      · have : (⟨x.bank.val, x.idx.val⟩ : Sdk.Reg) ≠ r := by
          intro hc; apply e
          obtain ⟨⟨b, hb'⟩, ⟨i, hi'⟩⟩ := x
          cases r; simp_all
        simp [e, this, hrel.shmRegs x]
    · cases hs
  · cases hs

theorem br_retArr (hP : P[n]? = some (.instr .retArr ops)) (hs : Sdk.exec P s n .retArr ops = some (s', n'))
    (hrel : Rel s t) : Goal a P s' n n' t := by
  unfold Sdk.exec at hs; dsimp only at hs
  split at hs
  · rename_i ad
    split at hs
    · rename_i l ha
      cases hs
      exact ⟨_, step_tr_next a hP (vals := [.addr (ad : Int)]) (out := none)
        (m := { t.mem with shmArrs := Exec.upd t.mem.shmArrs (ad : Int) (some .live) }) rfl
        (exec_x a (mn := "ret_arr") (by simp [q1Names]) ((xExec_retArr _ _).trans (by simp [xRetArr, ← hrel.arrs ad, ha]))),
        ⟨hrel.regs, hrel.arrs, hrel.shmRegs, hrel.outs, hrel.trace⟩⟩
    · cases hs
  · cases hs

/-- an instruction whose `exec` only decides whether to jump (`b`), to a label: the machine goes where
ProtoExec goes -/
theorem br_goto (hN : NameInj P) {mn : Sdk.Mn} {vals : List Val} {l : Sdk.Lbl} {b : Bool}
    (hP : P[n]? = some (.instr mn ops)) (hl : Sdk.POp.lab l ∈ ops)
    (he : evalOps t.regs (rolesOf mn) (ops.map trOp) = some vals)
    (hx : (qMachine a).exec mn.name vals t.mem = .ok none t.mem b)
    (ht : tgtOf (rolesOf mn) (ops.map trOp) = some (.lab l.name))
    (hs : (if b then Sdk.goto P s l else some (s, n + 1)) = some (s', n')) (hrel : Rel s t) :
    Goal a P s' n n' t := by
  cases b with
  | false =>
    cases hs
    exact ⟨_, step_tr_next a hP he hx, hrel⟩
  | true =>
    simp only [if_true, Sdk.goto] at hs
    cases hf : Sdk.findLabel P l with
    | none => simp [hf] at hs
    | some k =>
      simp only [hf, Option.some.injEq, Prod.mk.injEq] at hs
      obtain ⟨rfl, rfl⟩ := hs
      exact ⟨_, step_tr_jump a hP he hx (by simp only [jumpTarget, ht, hf, Option.map,
        findLabel_tr (fun l' hl' hn => hN l' l mn ops hl' (List.mem_of_getElem? hP) hl hn)]), hrel⟩

theorem br_jmp (hN : NameInj P) (hP : P[n]? = some (.instr .jmp ops))
    (hs : Sdk.exec P s n .jmp ops = some (s', n')) (hrel : Rel s t) : Goal a P s' n n' t := by
  unfold Sdk.exec at hs; dsimp only at hs
  split at hs
  · rename_i l
    exact br_goto a hN hP (by simp) (vals := [.tgt]) (b := true) rfl
      (exec_x a (mn := "jmp") (by simp [q1Names]) (xExec_jmp _)) rfl hs hrel
  · cases hs

theorem beq_dec (x y : Int) : (x == y) = decide (x = y) := by
  by_cases h : x = y <;> simp [h]

theorem bne_dec (x y : Int) : (some x != some y) = !decide (x = y) := by
  by_cases h : x = y <;> simp [h, bne]

theorem br1_facts {mn : Sdk.Mn} {x : Int} {b : Bool} (h : Sdk.brTaken1 mn x = some b) (m : XMem) :
    xExec mn.name [.use (some x), .tgt] m = .ok none m b ∧ stdRoles mn.name = some [.use, .tgt] ∧
      mn.name ≠ "meas" ∧ mn.name ∉ q1Names := by
  cases mn with
  | bez | bnz =>
    cases h
    suffices hs : stdRoles _ = some [.use, .tgt] from
      ⟨by simp [Sdk.Mn.name, xExec_bez, xExec_bnz, beq_dec, bne_dec], hs, std_not_q hs⟩
    decide +kernel
  | _ => cases h

theorem br2_facts {mn : Sdk.Mn} {x y : Int} {b : Bool} (h : Sdk.brTaken2 mn x y = some b) (m : XMem) :
    xExec mn.name [.use (some x), .use (some y), .tgt] m = .ok none m b ∧
      stdRoles mn.name = some [.use, .use, .tgt] ∧ mn.name ≠ "meas" ∧ mn.name ∉ q1Names := by
  cases mn with
  | beq | bne | blt | bge =>
    cases h
    suffices hs : stdRoles _ = some [.use, .use, .tgt] from
      ⟨by simp [Sdk.Mn.name, xExec_beq, xExec_bne, xExec_blt, xExec_bge, xBrCmp, beq_dec, bne_dec], hs, std_not_q hs⟩
    decide +kernel
  | _ => cases h

/-- a classical mnemonic of the builder on `qMachine`: `exec` is `xExec`, the roles are those of `stdRoles` -/
theorem std_facts {mn : Sdk.Mn} {rs : List Role} {vals : List Val} {m : XMem} {r : Res XMem}
    (hr : stdRoles mn.name = some rs) (hx : xExec mn.name vals m = r) :
    (qMachine a).exec mn.name vals m = r ∧ rolesOf mn = rs :=
  ⟨by rw [(classical_q a).exec hr]; exact hx,
    Option.some.inj ((roles_name a mn).symm.trans ((classical_q a).roles hr))⟩

/-- the arm of `Sdk.exec` that the six conditional branches share -/
def condArm (P : List Sdk.PCmd) (s : Sdk.St) (n : Nat) (mn : Sdk.Mn) (ops : List Sdk.POp) : Option (Sdk.St × Nat) :=
  match ops with
  | [a, .lab l] => match Sdk.opVal s a with
    | some x => match Sdk.brTaken1 mn x with
      | some true => Sdk.goto P s l
      | some false => some (s, n + 1)
      | none => none
    | none => none
  | [a, b, .lab l] => match Sdk.opVal s a, Sdk.opVal s b with
    | some x, some y => match Sdk.brTaken2 mn x y with
      | some true => Sdk.goto P s l
      | some false => some (s, n + 1)
      | none => none
    | _, _ => none
  | _ => none

theorem br_cond (hN : NameInj P) {mn : Sdk.Mn} (hc : Sdk.exec P s n mn ops = condArm P s n mn ops)
    (hP : P[n]? = some (.instr mn ops)) (hs : Sdk.exec P s n mn ops = some (s', n')) (hrel : Rel s t) :
    Goal a P s' n n' t := by
  rw [hc] at hs
  unfold condArm at hs
  split at hs
  · rename_i x l
    split at hs
    · rename_i vx hx
      cases hb : Sdk.brTaken1 mn vx with
      | none => simp [hb] at hs
      | some b =>
        obtain ⟨hex, hro⟩ := std_facts a (br1_facts hb t.mem).2.1 (br1_facts hb t.mem).1
        refine br_goto a hN hP (l := l) (by simp) (vals := [.use (some vx), .tgt])
          (by rw [hro]; simp only [List.map, evalOps, use_of_opVal hrel hx]; rfl) hex (by rw [hro]; rfl) ?_ hrel
        cases b <;> simpa [hb] using hs
    · cases hs
  · rename_i x y l
    split at hs
    · rename_i vx vy hx hy
      cases hb : Sdk.brTaken2 mn vx vy with
      | none => simp [hb] at hs
      | some b =>
        obtain ⟨hex, hro⟩ := std_facts a (br2_facts hb t.mem).2.1 (br2_facts hb t.mem).1
        refine br_goto a hN hP (l := l) (by simp) (vals := [.use (some vx), .use (some vy), .tgt])
          (by rw [hro]; simp only [List.map, evalOps, use_of_opVal hrel hx, use_of_opVal hrel hy]; rfl) hex
          (by rw [hro]; rfl) ?_ hrel
        cases b <;> simpa [hb] using hs
    · cases hs
  · cases hs
end

/-! ### quantum and allocation instructions

ProtoExec performs them unconditionally (it has no unit module and ignores their operands); the
executor reads the qubit register and, for `qalloc`/`qfree`, checks the unit module.  The bridge
therefore assumes that the machine does step (`hq`) and shows that then the successor states are
related; `Lemmas/SdkQSafe.lean` proves `hq` for the subroutines of the builder model. -/

section
variable (a : Nat) {P : List Sdk.PCmd} {s s' : Sdk.St} {n n' : Nat} {t : State XMem} {ops : List Sdk.POp}

def TraceOnly (a : Nat) (name : String) (ev : Sdk.Ev) : Prop :=
  ∀ vals m out m' j, (qMachine a).exec name vals m = .ok out m' j →
    out = none ∧ j = false ∧ m'.arrays = m.arrays ∧ m'.shmRegs = m.shmRegs ∧ m'.oracle = m.oracle ∧
      m'.trace.map (·.name) = m.trace.map (·.name) ++ (evName ev).toList

/-- `ev` is any event that `TraceOnly` allows for `mn`; in `bridge_step` it is the one `Sdk.exec` emits -/
theorem br_quantum {mn : Sdk.Mn} {ev : Sdk.Ev} (hP : P[n]? = some (.instr mn ops))
    (hs : s' = s.emitEv ev ∧ n' = n + 1) (hex : TraceOnly a mn.name ev)
    (hq : ∃ t' k, Asm.step (qMachine a) (tr P) t n = .next t' k) (hrel : Rel s t) : Goal a P s' n n' t := by
  obtain ⟨rfl, rfl⟩ := hs
  obtain ⟨t', k, hst⟩ := hq
  rcases step_next_inv hst with ⟨l, hl, _, _⟩ | ⟨mn', args, ops', hg', ⟨rs, vals, out, m, jump, hr, he, hx, rfl, hj⟩⟩
  · rw [tr_instr hP] at hl; cases hl
  · rw [tr_instr hP] at hg'
    cases hg'
    obtain ⟨rfl, rfl, h1, h2, h3, h4⟩ := hex vals t.mem out m jump hx
    rcases hj with ⟨hc, _⟩ | ⟨_, rfl⟩
    · cases hc
    · refine ⟨_, hst, ⟨hrel.regs, fun k => ?_, fun x => ?_, ?_, ?_⟩⟩
      · simp [Sdk.St.emitEv, h1, hrel.arrs k]
      · simp [Sdk.St.emitEv, h2, hrel.shmRegs x]
      · simp [Sdk.St.emitEv, h3, hrel.outs]
      · simp only [Sdk.St.emitEv, List.filterMap_append, h4, hrel.trace]
        cases ev <;> simp [evName]

end

theorem dstOf_use (ops : List POperand) : dstOf [.use] ops = none := by
  cases ops with
  | nil => rfl
  | cons o os => cases o <;> cases os <;> rfl

/-- a successful `qalloc` changes the unit module and the used set only -/
theorem xQalloc_ok {q : Option Int} {m m' : XMem} {out : Option Int} {j : Bool} (h : xQalloc q m = .ok out m' j) :
    out = none ∧ j = false ∧ m'.arrays = m.arrays ∧ m'.shmRegs = m.shmRegs ∧ m'.oracle = m.oracle ∧
      m'.trace = m.trace := by
  unfold xQalloc at h
  repeat' split at h
  all_goals cases h
  simp

theorem xQfree_ok {q : Option Int} {m m' : XMem} {out : Option Int} {j : Bool} (h : xQfree q m = .ok out m' j) :
    out = none ∧ j = false ∧ m'.arrays = m.arrays ∧ m'.shmRegs = m.shmRegs ∧ m'.oracle = m.oracle ∧
      m'.trace = m.trace := by
  unfold xQfree at h
  repeat' split at h
  all_goals cases h
  simp

theorem exec_qalloc_one (a : Nat) (q : Option Int) (m : XMem) :
    (qMachine a).exec "qalloc" [.use q] m = xQalloc q m :=
  exec_x a (by simp [q1Names]) (xExec_qalloc q m)

theorem exec_qfree_one (a : Nat) (q : Option Int) (m : XMem) :
    (qMachine a).exec "qfree" [.use q] m = xQfree q m :=
  exec_x a (by simp [q1Names]) (xExec_qfree q m)

/-! on any operand list other than one value the one-operand instructions fault -/

theorem exec_qalloc_other (a : Nat) (m : XMem) (v : List Val) (h : ∀ q, v ≠ [.use q]) :
    (qMachine a).exec "qalloc" v m = xf .fetch := by
  refine exec_x a (by simp [q1Names]) ?_
  -- `simp` takes the fall-through arm of the `match` on `v`: the side condition of that equation is `h`
  unfold xExec; simp only [String.reduceEq, reduceIte]

theorem exec_qfree_other (a : Nat) (m : XMem) (v : List Val) (h : ∀ q, v ≠ [.use q]) :
    (qMachine a).exec "qfree" v m = xf .fetch := by
  refine exec_x a (by simp [q1Names]) ?_
  unfold xExec; simp only [String.reduceEq, reduceIte]

theorem exec_gate_other (a : Nat) (name : String) (hn : name ∈ q1Names) (m : XMem) (v : List Val)
    (h : ∀ q, v ≠ [.use q]) : (qMachine a).exec name v m = xf .fetch := by
  show qExec a name v m = _
  unfold qExec
  rw [if_neg (ne_meas_of_q1 hn), if_pos hn]
  split
  · exact absurd rfl (h _)
  · rfl

/-- `TraceOnly` from what `exec` does on one value (`h1`) and its fault on anything else (`h2`) -/
theorem traceOnly_of {a : Nat} {name : String} {ev : Sdk.Ev}
    (h2 : ∀ m v, (∀ q, v ≠ [.use q]) → (qMachine a).exec name v m = xf .fetch)
    (h1 : ∀ q m out m' j, (qMachine a).exec name [.use q] m = .ok out m' j →
      out = none ∧ j = false ∧ m'.arrays = m.arrays ∧ m'.shmRegs = m.shmRegs ∧ m'.oracle = m.oracle ∧
        m'.trace.map (·.name) = m.trace.map (·.name) ++ (evName ev).toList) : TraceOnly a name ev := by
  intro vals m out m' j h
  by_cases hv : ∃ q, vals = [.use q]
  · obtain ⟨q, rfl⟩ := hv; exact h1 q m out m' j h
  · rw [h2 m vals (fun q e => hv ⟨q, e⟩)] at h; cases h

theorem traceOnly_qalloc (a : Nat) : TraceOnly a "qalloc" .qalloc :=
  traceOnly_of (exec_qalloc_other a) fun q m out m' j h => by
    obtain ⟨h1, h2, h3, h4, h5, h6⟩ := xQalloc_ok ((exec_qalloc_one a q m).symm.trans h)
    exact ⟨h1, h2, h3, h4, h5, by simp [h6, evName]⟩

theorem traceOnly_qfree (a : Nat) : TraceOnly a "qfree" .qfree :=
  traceOnly_of (exec_qfree_other a) fun q m out m' j h => by
    obtain ⟨h1, h2, h3, h4, h5, h6⟩ := xQfree_ok ((exec_qfree_one a q m).symm.trans h)
    exact ⟨h1, h2, h3, h4, h5, by simp [h6, evName]⟩

theorem traceOnly_gate (a : Nat) (name : String) (ev : Sdk.Ev) (hn : name ∈ q1Names)
    (hev : evName ev = some name) : TraceOnly a name ev :=
  traceOnly_of (exec_gate_other a name hn) fun q m out m' j h => by
    rw [exec_q1 a hn] at h
    cases q with
    | none => cases h
    | some v => cases h; simp [hev]

theorem exec_meas (a : Nat) (q : Option Int) (m : XMem) :
    (qMachine a).exec "meas" [.use q, .dst] m = qMeas a q m := by
  dsimp only [qMachine]
  unfold qExec; rw [if_pos rfl]

theorem br_meas (a : Nat) {P : List Sdk.PCmd} {s s' : Sdk.St} {n n' : Nat} {t : State XMem} {ops : List Sdk.POp}
    (hP : P[n]? = some (.instr .meas ops)) (hs : Sdk.exec P s n .meas ops = some (s', n')) (hrel : Rel s t)
    (hq : ∃ t' k, Asm.step (qMachine a) (tr P) t n = .next t' k) : Goal a P s' n n' t := by
  unfold Sdk.exec at hs; dsimp only at hs
  split at hs
  · rename_i q mr
    cases hs
    have he : evalOps t.regs (rolesOf .meas) ([Sdk.POp.reg q, .reg mr].map trOp) = some [.use (t.regs (cvReg q)), .dst] := rfl
    have hx : (qMachine a).exec Sdk.Mn.meas.name [.use (t.regs (cvReg q)), .dst] t.mem =
        qMeas a (t.regs (cvReg q)) t.mem := exec_meas a _ _
    cases hv : t.regs (cvReg q) with
    | none =>
      -- the machine faults on an undefined qubit register: excluded by `hq`
      obtain ⟨t', k, hst⟩ := hq
      rw [step_instr (tr_instr hP) (roles_name a .meas) he, hx, hv] at hst
      cases hst
    | some v =>
      rw [hv] at hx he
      refine ⟨_, step_tr_next a hP he (out := some (t.mem.oracle.headD 0))
        (m := { t.mem with oracle := t.mem.oracle.tail, trace := t.mem.trace ++ [⟨a, "meas", [v]⟩] }) hx, ?_⟩
      have hr := rel_setReg hrel mr (s.outcomes.headD 0)
      refine ⟨fun r => ?_, hrel.arrs, hrel.shmRegs, ?_, ?_⟩
      · rw [← hrel.outs]; exact hr.regs r
      · simp [hrel.outs]
      · simp [Sdk.St.emitEv, Sdk.St.setReg, List.filterMap_append, evName, hrel.trace]
  · cases hs

def Sdk.Mn.isQ : Sdk.Mn → Bool
  | .qalloc | .init | .meas | .qfree | .gate _ => true
  | _ => false

/-- What the bridge assumes of the quantum back end: at a quantum or allocation instruction the
executor does take a step (the qubit register is defined; `qalloc` finds the virtual address free
and inside the unit module; `qfree` finds it allocated).  ProtoExec cannot express this — it has no
unit module.  For the subroutines of the builder model it follows from "virtual qubit 0 is free at the
start" (`Lemmas/SdkQSafe.lean`, `qsafe_of_closed`); in general it is the subject of C09/C13 (SDK and
controller agree on the virtual qubits). -/
def QStepOk (a : Nat) (P : List Sdk.PCmd) (t : State XMem) (n : Nat) : Prop :=
  ∀ mn ops, P[n]? = some (.instr mn ops) → Sdk.Mn.isQ mn = true →
    ∃ t' k, Asm.step (qMachine a) (tr P) t n = .next t' k

/-- `SemBridge` (Props/C05Asm.lean) in relational form -/
theorem bridge_step (a : Nat) {P : List Sdk.PCmd} (hN : NameInj P) (hR : RegsInRange P)
    {s s' : Sdk.St} {n n' : Nat} {t : State XMem}
    (hs : Sdk.step P (s, n) = some (s', n')) (hrel : Rel s t) (hq : QStepOk a P t n) :
    ∃ t', Asm.step (qMachine a) (tr P) t n = .next t' n' ∧ Rel s' t' := by
  simp only [Sdk.step] at hs
  cases hP : P[n]? with
  | none => simp [hP] at hs
  | some c =>
    cases c with
    | label l =>
      simp only [hP, Option.some.injEq, Prod.mk.injEq] at hs
      obtain ⟨rfl, rfl⟩ := hs
      have hg : (tr P)[n]? = some (.label l.name) := by rw [tr_get, hP]; rfl
      exact ⟨t, step_label hg, hrel⟩
    | instr mn ops =>
      simp only [hP] at hs
      have ev {e : Sdk.Ev} (h : some (s.emitEv e, n + 1) = some (s', n')) : s' = s.emitEv e ∧ n' = n + 1 := by
        cases h; exact ⟨rfl, rfl⟩
      cases mn with
      | set => exact br_set a hP hs hrel
      | load => exact br_load a hP hs hrel
      | store => exact br_store a hP hs hrel
      | array => exact br_array a hP hs hrel
      | add => exact br_add a hP hs hrel
      | addm => exact br_addm a hP hs hrel
      | jmp => exact br_jmp a hN hP hs hrel
      | retReg => exact br_retReg a hR hP hs hrel
      | retArr => exact br_retArr a hP hs hrel
      | meas => exact br_meas a hP hs hrel (hq _ _ hP rfl)
      | qalloc => exact br_quantum a hP (ev hs) (traceOnly_qalloc a) (hq _ _ hP rfl) hrel
      | qfree => exact br_quantum a hP (ev hs) (traceOnly_qfree a) (hq _ _ hP rfl) hrel
      | init => exact br_quantum a hP (ev hs) (traceOnly_gate a "init" .init (by decide) rfl) (hq _ _ hP rfl) hrel
      | gate g =>
        exact br_quantum a hP (ev hs) (traceOnly_gate a _ (.gate g) (gate_name_mem g) rfl) (hq _ _ hP rfl) hrel
      | beq | bne | blt | bge | bez | bnz => exact br_cond a hN rfl hP hs hrel

/-- `QStepOk` at every machine state reachable from `(t, n)` -/
def QSafe (a : Nat) (P : List Sdk.PCmd) (t : State XMem) (n : Nat) : Prop :=
  ∀ t1 n1, Asm.Steps (qMachine a) (tr P) (t, n) (t1, n1) → QStepOk a P t1 n1

theorem Steps.snoc {M : Type} {mc : Machine M} {Q : List PCmd} {c1 c2 : State M × Nat} {s3 : State M} {n3 : Nat}
    (h : Asm.Steps mc Q c1 c2) (hs : Asm.step mc Q c2.1 c2.2 = .next s3 n3) : Asm.Steps mc Q c1 (s3, n3) :=
  Asm.Steps.trans h (Asm.Steps.single hs)

theorem bridge_run (a : Nat) {P : List Sdk.PCmd} (hN : NameInj P) (hR : RegsInRange P)
    {c c' : Sdk.St × Nat} (h : Sdk.Steps P c c') :
    ∀ t, Rel c.1 t → QSafe a P t c.2 →
      ∃ t', Asm.Steps (qMachine a) (tr P) (t, c.2) (t', c'.2) ∧ Rel c'.1 t' := by
  induction h with
  | refl c => intro t hrel _; exact ⟨t, .refl _, hrel⟩
  | @next c1 c2 c3 hs _ ih =>
    intro t hrel hsafe
    obtain ⟨s1, n1⟩ := c1
    obtain ⟨s2, n2⟩ := c2
    obtain ⟨t2, hst, hrel2⟩ := bridge_step a hN hR hs hrel (hsafe t n1 (.refl _))
    have hsafe2 : QSafe a P t2 n2 := fun t1 k1 hr => hsafe t1 k1 (Asm.Steps.step hst hr)
    obtain ⟨t3, hst3, hrel3⟩ := ih t2 hrel2 hsafe2
    exact ⟨t3, Asm.Steps.step hst hst3, hrel3⟩

end NQ.Bridge
