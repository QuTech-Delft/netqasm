/-
`expandSound_of_C07`: the C07 hypothesis of the C08 simulation theorem, discharged for the concrete
semantics `MQ` and any configuration whose expansion table is tied to Gen/NvDecomp; and
`semLocal_MQ`: `MQ A Mc` satisfies `SemLocal` when the classical semantics `Mc` does. Both rest on
`mq_q_exec`: a quantum instruction of `MQ` reads only the registers among its operands and the
quantum state and changes only the latter; so the gate can be run in the NV machine's own state, and
`ExpandSound` is proved about one state (`Sound1`).
-/
import NetqasmVerif.Lemmas.TranspileC07
namespace NQ.Tr
open NQ NQ.NV

theorem readQ_of_regs {regs : Reg → Option Int} {r : Reg} {v : Int} {i : Nat}
    (h : regs r = some v) (hq : readQ regs r = some i) : v = (i : Int) := by
  simp only [readQ, h, Option.bind_some] at hq
  exact natOf_eq hq

theorem movExec_some {C Q : Type} {A : QAction Q} {g : Instr} {s s' : St (C × Q)}
    (h : movExec A g s = some s') :
    ∃ r0 r1 a b q', g.ops = [.reg r0, .reg r1] ∧ readQ s.regs r0 = some a ∧ readQ s.regs r1 = some b ∧
      a ≠ b ∧ ((a = 0 ∧ A.transfer (movPhi true) a b s.mem.2 = some q') ∨
               (a ≠ 0 ∧ b = 0 ∧ A.transfer (movPhi false) a b s.mem.2 = some q')) ∧
      s' = ⟨s.regs, (s.mem.1, q')⟩ := by
  unfold movExec at h
  split at h
  · rename_i r0 r1 hops
    split at h
    · rename_i a b ha hb
      split at h
      · cases h
      · rename_i hne
        split at h
        · rename_i ha0
          obtain ⟨q', hq, hs⟩ := Option.map_eq_some_iff.1 h
          exact ⟨r0, r1, a, b, q', hops, ha, hb, hne, Or.inl ⟨ha0, hq⟩, hs.symm⟩
        · rename_i ha0
          split at h
          · rename_i hb0
            obtain ⟨q', hq, hs⟩ := Option.map_eq_some_iff.1 h
            exact ⟨r0, r1, a, b, q', hops, ha, hb, hne, Or.inr ⟨ha0, hb0, hq⟩, hs.symm⟩
          · cases h
    · cases h
  · cases h

theorem readQ_congr {r1 r2 : Reg → Option Int} {r : Reg} (h : r1 r = r2 r) : readQ r1 r = readQ r2 r := by
  simp [readQ, h]

theorem mem_topRegs_head {g : Instr} {r : Reg} {rest : List Operand} (h : g.ops = .reg r :: rest) :
    r ∈ topRegs g := by
  simp [topRegs, h, opReg?]

theorem topRegs_pair {g : Instr} {r0 r1 : Reg} (h : g.ops = [.reg r0, .reg r1]) : topRegs g = [r0, r1] := by
  simp [topRegs, h, opReg?]

theorem giOf_congr {s u : Reg → Option Int} {i : Instr} (h : ∀ r ∈ topRegs i, s r = u r) :
    giOf s i = giOf u i := by
  have hq : ∀ r, r ∈ i.ops.filterMap opReg? → readQ s r = readQ u r := fun r hr => readQ_congr (h r hr)
  unfold giOf
  split
  · rename_i hops
    rw [hops] at hq
    rw [hq _ List.mem_cons_self]
  · rename_i hops
    rw [hops] at hq
    rw [hq _ List.mem_cons_self]
  · rename_i r0 r1 _ hops
    rw [hops] at hq
    rw [hq r0 List.mem_cons_self, hq r1 (List.mem_cons_of_mem _ List.mem_cons_self)]
  · rename_i r0 r1 _ _ _ hops
    rw [hops] at hq
    rw [hq r0 List.mem_cons_self, hq r1 (List.mem_cons_of_mem _ List.mem_cons_self)]
  · rfl

/-- A quantum instruction of `MQ` (`mov` or a gate) reads only the registers among its operands and
the quantum state, and changes only the latter. -/
theorem mq_q_exec {C Q : Type} {A : QAction Q} {Mc : Sem (C × Q)} {g : Instr}
    (hq : g.cls = movCls ∨ (gnameOf g.cls).isSome = true) {s u s' : St (C × Q)} (hmem : s.mem = u.mem)
    (hregs : ∀ r ∈ topRegs g, s.regs r = u.regs r) (he : (MQ A Mc).exec g s = some s') :
    s'.regs = s.regs ∧ (MQ A Mc).exec g u = some ⟨u.regs, s'.mem⟩ := by
  by_cases hm : g.cls = movCls
  · simp only [MQ, hm, beq_self_eq_true, ↓reduceIte] at he ⊢
    obtain ⟨r0, r1, a, b, q', hops, hq0, hq1, hne, hdir, rfl⟩ := movExec_some he
    have ht := topRegs_pair hops
    rw [readQ_congr (hregs r0 (by simp [ht]))] at hq0
    rw [readQ_congr (hregs r1 (by simp [ht]))] at hq1
    rw [hmem] at hdir
    refine ⟨rfl, ?_⟩
    rcases hdir with ⟨rfl, ht⟩ | ⟨_, rfl, ht⟩ <;>
      simp only [movExec, hops, hq0, hq1, hne, ↓reduceIte, ht, Option.map_some, hmem]
  · obtain ⟨gn, hg⟩ := Option.isSome_iff_exists.1 (hq.resolve_left hm)
    obtain ⟨gi, hgi, rfl⟩ := mq_exec_gate hg he
    rw [giOf_congr hregs] at hgi
    exact ⟨rfl, by rw [mq_exec_of_giOf A Mc hg hgi, hmem]⟩

theorem writesOf_sub_regsOf (cfg : Cfg) (i : Instr) : ∀ r ∈ writesOf cfg i, r ∈ regsOf i := by
  intro r hr
  unfold writesOf at hr
  cases hi : infoOf cfg i.cls with
  | none => rw [hi] at hr; cases hr
  | some info =>
    rw [hi] at hr
    simp only at hr
    obtain ⟨p, _, hp⟩ := List.mem_filterMap.1 hr
    cases ho : i.ops[p]? with
    | none => rw [ho] at hp; cases hp
    | some o =>
      rw [ho] at hp
      simp only [Option.bind_some] at hp
      apply topRegs_sub_regsOf
      unfold topRegs
      exact List.mem_filterMap.2 ⟨o, List.mem_of_getElem? ho, hp⟩

theorem semLocal_MQ {C Q : Type} (A : QAction Q) (Mc : Sem (C × Q)) (cfg : Cfg)
    (hMc : SemLocal Mc cfg) (hC : ClsTie cfg = true) : SemLocal (MQ A Mc) cfg := by
  have hsetcls : ∀ i r v, setOf cfg i = some (r, v) → i.cls = "core.SetInstruction" := by
    intro i r v hs
    obtain ⟨info, hi, hset, _⟩ := setOf_some hs
    exact (ClsTie.info hC hi).1 hset
  -- an instruction is quantum, or `MQ` runs it as `Mc` does
  have hcases : ∀ i, (i.cls = movCls ∨ (gnameOf i.cls).isSome = true) ∨ (MQ A Mc).exec i = Mc.exec i := by
    intro i
    by_cases hm : i.cls = movCls
    · exact .inl (.inl hm)
    · cases hg : gnameOf i.cls with
      | some gn => exact .inl (.inr rfl)
      | none => exact .inr (by funext s; simp [MQ, hm, hg])
  constructor
  · intro i s s' r h hnw
    rcases hcases i with hq | e
    · rw [(mq_q_exec hq rfl (fun _ _ => rfl) h).1]
    · rw [e] at h; exact hMc.frame i s s' r h hnw
  · intro i r v s hs
    rw [mq_exec_set A Mc (hsetcls i r v hs)]
    exact hMc.setSem i r v s hs
  · intro i s u s' hmem hregs h
    rcases hcases i with hq | e
    · obtain ⟨hr, hu⟩ := mq_q_exec hq hmem (fun r hr => hregs r (topRegs_sub_regsOf i r hr)) h
      exact ⟨_, hu, rfl, fun r hw => by rw [hr]; exact hregs r (writesOf_sub_regsOf cfg i r hw)⟩
    · rw [e] at h ⊢; exact hMc.loc i s u s' hmem hregs h
  · exact hMc.condLoc
  · exact hMc.condLine

/-- The conclusion of `ExpandSound` about ONE state: `u'` is what the gate itself makes of `u`, `ex` its
expansion; `P r` says that `r` is not the borrowed register. `ExpandSound` speaks of a vanilla state
`s` and an NV state `u` that agree on the gate's registers; by `mq_q_exec` the gate can be run in `u`
as well, with the same memory afterwards, so one state is enough. -/
def Sound1 {C Q : Type} (A : QAction Q) (Mc : Sem (C × Q)) (ex : List Instr) (u u' : St (C × Q))
    (P : Reg → Prop) : Prop :=
  ∃ v, RunStraight (MQ A Mc) (serialise ex) u v ∧ u'.mem = v.mem ∧ ∀ r, P r → v.regs r = u.regs r

theorem finish_plain {C Q : Type} {A : QAction Q} {Mc : Sem (C × Q)} {ex : List Instr}
    {u : St (C × Q)} {gi : GI} {P : Reg → Prop}
    (hrun : RunStraight (MQ A Mc) (serialise ex) ⟨u.regs, (u.mem.1, u.mem.2)⟩
      ⟨u.regs, (u.mem.1, A.act gi u.mem.2)⟩) :
    Sound1 A Mc ex u ⟨u.regs, (u.mem.1, A.act gi u.mem.2)⟩ P :=
  ⟨_, hrun, rfl, fun _ _ => rfl⟩

theorem read_two {C Q : Type} {A : QAction Q} {Mc : Sem (C × Q)} {g : Instr} {u u' : St (C × Q)}
    {gn : GName} (hgn : gnameOf g.cls = some gn) (hk : gkind gn = 3) (he : (MQ A Mc).exec g u = some u')
    {r0 r1 : Reg} (hops : g.ops = [.reg r0, .reg r1]) :
    ∃ i0 i1, readQ u.regs r0 = some i0 ∧ readQ u.regs r1 = some i1 ∧ i0 ≠ i1 ∧
      u' = ⟨u.regs, (u.mem.1, A.act ⟨gn, [i0, i1], 0, 0⟩ u.mem.2)⟩ := by
  obtain ⟨gi, hgi, hs'⟩ := mq_exec_gate hgn he
  have hsh := giOf_shape hgn hgi
  rw [hk] at hsh
  obtain ⟨r0', r1', i0, i1, hops', hq0, hq1, hne, rfl⟩ := hsh
  cases hops.symm.trans hops'
  exact ⟨i0, i1, hq0, hq1, hne, hs'⟩

theorem expandSound_cc {C Q : Type} (A : QAction Q) (hA : QLawful A) (Mc : Sem (C × Q)) {cfg : Cfg}
    (hMc : SemLocal Mc cfg) (hC : ClsTie cfg = true) {key : String} {gn : GName}
    (htie : twoTie cfg key gn .cc rmCC = true) (hgn : gn = .cnot ∨ gn = .cphase)
    {g : Instr} {r0 r1 sreg : Reg} {ex : List Instr} (hu : useTemplate cfg key g r0 r1 sreg = .ok ex)
    (hops : g.ops = [.reg r0, .reg r1]) {rv : List (Reg × Int)} {used : List Reg} {v0 v1 : Int}
    (e0 : rv.lookup r0 = some v0) (e1 : rv.lookup r1 = some v1) (h0 : v0 ≠ 0) (h1 : v1 ≠ 0)
    (hs : getUnused used = .ok sreg) (hused : ∀ r ∈ topRegs g, r ∈ used) {u : St (C × Q)}
    (hknow : ∀ r ∈ topRegs g, ∀ v, rv.lookup r = some v → u.regs r = some v) {i0 i1 : Nat}
    (hq0 : readQ u.regs r0 = some i0) (hq1 : readQ u.regs r1 = some i1) (hne : i0 ≠ i1) :
    Sound1 A Mc ex u ⟨u.regs, (u.mem.1, A.act ⟨gn, [i0, i1], 0, 0⟩ u.mem.2)⟩
      (fun r => ∀ s0, getUnused used = .ok s0 → r ≠ s0) := by
  have ht := topRegs_pair hops
  have hr0 : r0 ∈ topRegs g := by rw [ht]; simp
  have hr1 : r1 ∈ topRegs g := by rw [ht]; simp
  have hi0 : i0 ≠ 0 := by have := readQ_of_regs (hknow r0 hr0 v0 e0) hq0; omega
  have hi1 : i1 ≠ 0 := by have := readQ_of_regs (hknow r1 hr1 v1 e1) hq1; omega
  have hfresh := (getUnused_fresh hs).1
  -- roles 0, 1, 2 ↦ the electron, `i0`, `i1`: injective because it has a left inverse
  have hinv : ∀ k, k < 3 → (fun x => if x = 0 then 0 else if x = i0 then 1 else 2)
      ((fun k => if k = 0 then 0 else if k = 1 then i0 else i1) k) = k := by
    intro k hk
    have : k = 0 ∨ k = 1 ∨ k = 2 := by omega
    rcases this with rfl | rfl | rfl <;> simp [hi0, hi1, Ne.symm hne]
  obtain ⟨v, hrun, hm', hr'⟩ := two_sound_cc A hA Mc hMc hC htie hgn hu
    (fun k => if k = 0 then 0 else if k = 1 then i0 else i1)
    (fun i j hi hj e => (hinv i hi).symm.trans
      ((congrArg (fun x => if x = 0 then 0 else if x = i0 then 1 else 2) e).trans (hinv j hj)))
    rfl u hq0 hq1 (fun e => hfresh (e ▸ hused r0 hr0)) (fun e => hfresh (e ▸ hused r1 hr1))
  exact ⟨v, hrun, hm'.symm, fun r hr => hr' r (hr sreg hs)⟩

/-- Whichever template the pass picks (electron→carbon for known ids or unknown registers,
carbon→electron for known ids), it performs the transfer the vanilla `mov` performs, wherever that
is defined (target in |0⟩). -/
theorem expandSound_mov {C Q : Type} (A : QAction Q) (hA : QLawful A) (Mc : Sem (C × Q)) {cfg : Cfg}
    (tEC : movTie cfg ("mov_ec" ++ sfx cfg) true rmEC = true)
    (tCE : movTie cfg ("mov_ce" ++ sfx cfg) false rmCE = true)
    {g : Instr} {rv : List (Reg × Int)} {used : List Reg} {ex : List Instr} {u u' : St (C × Q)}
    {r0 r1 a b sreg : Reg} {k : String} (hops : g.ops = [.reg r0, .reg r1])
    (hd : Dispatch "mov" rv used r0 r1 k a b sreg) (hu : useTemplate cfg (k ++ sfx cfg) g a b sreg = .ok ex)
    (hknow : ∀ r ∈ topRegs g, ∀ v, rv.lookup r = some v → u.regs r = some v)
    (hall : (∀ r ∈ topRegs g, (rv.lookup r).isSome = true) ∨ u.regs r0 = some 0)
    (he : movExec A g u = some u') (P : Reg → Prop) : Sound1 A Mc ex u u' P := by
  obtain ⟨r0', r1', i0, i1, q', hops', hq0, hq1, hne, hdir, rfl⟩ := movExec_some he
  cases hops.symm.trans hops'
  have ht := topRegs_pair hops
  have hr0 : r0 ∈ topRegs g := by rw [ht]; simp
  have hr1 : r1 ∈ topRegs g := by rw [ht]; simp
  -- electron → carbon, shared by the known and the unknown path
  have caseEC : i0 = 0 → useTemplate cfg ("mov_ec" ++ sfx cfg) g r0 r1 r0 = .ok ex →
      Sound1 A Mc ex u ⟨u.regs, (u.mem.1, q')⟩ P := by
    intro h0 hx
    have htr : A.transfer (movPhi true) i0 i1 u.mem.2 = some q' := by
      rcases hdir with ⟨_, h⟩ | ⟨hn, _, _⟩
      · exact h
      · exact absurd h0 hn
    exact ⟨_, mov_sound A hA Mc tEC rmEC_lt hx (inj_pair hne) (Env.ec hq0 hq1) u.mem.1 htr, rfl, fun _ _ => rfl⟩
  cases hd with
  | movEC _ e0 _ _ =>
    have := readQ_of_regs (hknow r0 hr0 0 e0) hq0
    exact caseEC (by omega) hu
  | movCE _ e0 e1 h0 =>
    have := readQ_of_regs (hknow r0 hr0 _ e0) hq0
    have := readQ_of_regs (hknow r1 hr1 0 e1) hq1
    have htr : A.transfer (movPhi false) i0 i1 u.mem.2 = some q' := by
      rcases hdir with ⟨h, _⟩ | ⟨_, _, h⟩
      · omega
      · exact h
    exact ⟨_, mov_sound A hA Mc tCE rmCE_lt hu (inj_pair (Ne.symm hne)) (Env.ce hq0 hq1) u.mem.1 htr, rfl, fun _ _ => rfl⟩
  | movUnknown _ hno =>
    rcases hall with h | h0
    · rcases hno with hn | hn
      · have := h r0 hr0; rw [hn] at this; cases this
      · have := h r1 hr1; rw [hn] at this; cases this
    · have := readQ_of_regs h0 hq0
      exact caseEC (by omega) hu
  | cnotEC ht | cnotCE ht | cnotCC ht | cphaseEC ht | cphaseCE ht | cphaseCC ht => exact absurd ht (by decide)

theorem expandSound_of_C07 {C Q : Type} (A : QAction Q) (hA : QLawful A) (Mc : Sem (C × Q)) (cfg : Cfg)
    (hMc : SemLocal Mc cfg) (hTies : AllTies cfg = true) (hC : ClsTie cfg = true) :
    ExpandSound (MQ A Mc) cfg := by
  intro g info rv used ex s u s' hi hg hex hused hknow hall hmem hregs he
  obtain ⟨_, i1, i2, hq⟩ := ClsTie.info hC hi
  -- run the gate in `u` instead: from here on there is one state
  obtain ⟨_, he⟩ := mq_q_exec (hq hg) hmem hregs he
  have hknow : ∀ r ∈ topRegs g, ∀ v, rv.lookup r = some v → u.regs r = some v :=
    fun r hr v hv => hregs r hr ▸ hknow r hr v hv
  suffices h : Sound1 (C := C) A Mc ex u ⟨u.regs, s'.mem⟩
      (fun r => info.gate2 = true → ∀ s0, getUnused used = .ok s0 → r ≠ s0) from h
  generalize (⟨u.regs, s'.mem⟩ : St (C × Q)) = u' at he ⊢
  unfold AllTies at hTies
  simp only [Bool.and_eq_true] at hTies
  obtain ⟨⟨⟨⟨⟨⟨⟨⟨⟨tFix, tRot⟩, tCnotEC⟩, tCnotCE⟩, tCnotCC⟩, tCphEC⟩, tCphCE⟩, tCphCC⟩, tMovEC⟩, tMovCE⟩ := hTies
  unfold expandInstr at hex
  by_cases hg1 : info.gate1 = true
  · rw [if_pos hg1] at hex
    obtain ⟨e, hecls, hgn, ⟨hefix, hk⟩ | ⟨herot, hk⟩⟩ := i1 hg1
    · obtain ⟨gi, hgi, rfl⟩ := mq_exec_gate hgn he
      have hsh := giOf_shape hgn hgi
      rw [hk] at hsh
      obtain ⟨r, q, hops, hrq, rfl⟩ := hsh
      unfold expandGate1 at hex
      rw [hops] at hex
      have ht := List.all_eq_true.1 tFix e hefix
      simp only [Bool.and_eq_true, hecls] at ht
      have htie : singleTie cfg (g.cls ++ if cfg.hw = true then "@hw" else "") e.2 = true := by
        by_cases hhw : cfg.hw = true
        · rw [if_pos hhw]; exact ht.2
        · rw [if_neg hhw, String.append_empty]; exact ht.1
      exact finish_plain (single_sound A hA Mc hk htie hex hrq u.mem.1 u.mem.2)
    · obtain ⟨gi, hgi, rfl⟩ := mq_exec_gate hgn he
      have hsh := giOf_shape hgn hgi
      rw [hk] at hsh
      obtain ⟨r, n, d, q, n', d', hops, hrq, hn, hd, rfl⟩ := hsh
      have ht := List.all_eq_true.1 tRot e herot
      rw [hecls] at ht
      exact finish_plain (rot_sound A hA Mc hk ht hops hex hrq hn hd u.mem.1 u.mem.2)
  · rw [if_neg hg1] at hex
    have hg2 : info.gate2 = true := by
      unfold infoGate at hg
      rwa [Bool.eq_false_iff.2 hg1, Bool.false_or] at hg
    rw [if_pos hg2] at hex
    obtain ⟨r0, r1, k, a, b, sreg, hops, hd, hu⟩ := expandGate2_ok hex
    rcases i2 hg2 with ⟨htag, hgn⟩ | ⟨htag, hgn⟩ | ⟨htag, hcls⟩
    · obtain ⟨i0, i1, hq0, hq1, hne, rfl⟩ := read_two hgn rfl he hops
      rw [htag] at hd
      cases hd with
      | cnotEC =>
        exact finish_plain (two_sound_plain A hA Mc tCnotEC (.inl rfl) (by decide)
          rmEC_lt hu (inj_pair hne) (Env.ec hq0 hq1) u.mem.1 u.mem.2)
      | cnotCE =>
        exact finish_plain (two_sound_plain A hA Mc tCnotCE (.inl rfl) (by decide)
          rmCE_lt hu (inj_pair (Ne.symm hne)) (Env.ce hq0 hq1) u.mem.1 u.mem.2)
      | cnotCC _ e0 e1 h0 h1 _ hs =>
        obtain ⟨v, h1, h2, h3⟩ := expandSound_cc A hA Mc hMc hC tCnotCC (.inl rfl) hu hops e0 e1 h0 h1 hs
          hused hknow hq0 hq1 hne
        exact ⟨v, h1, h2, fun r hr => h3 r (hr hg2)⟩
      | cphaseEC ht | cphaseCE ht | cphaseCC ht | movEC ht | movCE ht | movUnknown ht =>
        exact absurd ht (by decide)
    · obtain ⟨i0, i1, hq0, hq1, hne, rfl⟩ := read_two hgn rfl he hops
      rw [htag] at hd
      cases hd with
      | cphaseEC =>
        exact finish_plain (two_sound_plain A hA Mc tCphEC (.inr rfl) (by decide)
          rmEC_lt hu (inj_pair hne) (Env.ec hq0 hq1) u.mem.1 u.mem.2)
      | cphaseCE =>
        -- the electron–carbon row with the operands swapped (`cphase` is symmetric)
        exact finish_plain (two_sound_plain A hA Mc tCphCE (.inr rfl) (by decide)
          rmEC_lt hu (inj_pair (Ne.symm hne)) (Env.ec hq1 hq0) u.mem.1 u.mem.2)
      | cphaseCC _ e0 e1 h0 h1 _ hs =>
        obtain ⟨v, h1, h2, h3⟩ := expandSound_cc A hA Mc hMc hC tCphCC (.inr rfl) hu hops e0 e1 h0 h1 hs
          hused hknow hq0 hq1 hne
        exact ⟨v, h1, h2, fun r hr => h3 r (hr hg2)⟩
      | cnotEC ht | cnotCE ht | cnotCC ht | movEC ht | movCE ht | movUnknown ht =>
        exact absurd ht (by decide)
    · rw [htag] at hd
      have he' : movExec A g u = some u' := by
        have : (MQ A Mc).exec g u = movExec A g u := by simp [MQ, hcls]
        rw [← this]; exact he
      refine expandSound_mov A hA Mc tMovEC tMovCE hops hd hu hknow ((hall hg2).imp_right ?_) he' _
      rintro ⟨_, r0', rest, hops', h0⟩
      cases hops.symm.trans hops'
      exact hregs r0 (mem_topRegs_head hops) ▸ h0

end NQ.Tr
