/-
Python list indexing (`pyIdx`), function update, the used-id set and `firstUnused` of the executor model (C04, C13).
-/
import NetqasmVerif.Model.Exec
namespace NQ.Exec

theorem pyIdx_lt {n : Nat} {i : Int} {k : Nat} (h : pyIdx n i = some k) : k < n := by
  unfold pyIdx at h
  split at h <;> split at h
  · cases h; exact (Int.toNat_lt ‹0 ≤ i›).2 ‹_›
  · cases h
  · cases h; omega
  · cases h

theorem pyIdx_nonneg {n : Nat} {i : Int} (h0 : 0 ≤ i) (h1 : i < n) : pyIdx n i = some i.toNat := by
  simp [pyIdx, h0, h1]

theorem pyIdx_past_end {n : Nat} {i : Int} (h : (n : Int) ≤ i) : pyIdx n i = none := by
  unfold pyIdx
  have : 0 ≤ i := by omega
  simp [this]; omega

theorem pyIdx_neg {n : Nat} {i : Int} (h0 : i < 0) (h1 : -(n : Int) ≤ i) :
    pyIdx n i = some (i + n).toNat := by
  unfold pyIdx
  have : ¬ 0 ≤ i := by omega
  simp [this, h1]

theorem pyIdx_before_start {n : Nat} {i : Int} (h : i < -(n : Int)) : pyIdx n i = none := by
  unfold pyIdx
  have : ¬ 0 ≤ i := by omega
  have : ¬ -(n : Int) ≤ i := by omega
  simp [*]

@[simp] theorem upd_same {α β} [DecidableEq α] (f : α → β) (k : α) (v : β) : upd f k v k = v := by
  simp [upd]

theorem upd_other {α β} [DecidableEq α] (f : α → β) (k k' : α) (v : β) (h : k' ≠ k) :
    upd f k v k' = f k' := by simp [upd, h]

theorem upd_eq_self {α β} [DecidableEq α] (f : α → β) (k : α) : upd f k (f k) = f := by
  funext k'; unfold upd; split <;> simp_all

theorem mem_sadd {p q : Nat} {l : List Nat} : q ∈ sadd p l ↔ q = p ∨ q ∈ l := by
  unfold sadd; split
  · constructor
    · intro h; exact Or.inr h
    · rintro (h | h)
      · subst h; assumption
      · exact h
  · simp

theorem mem_srem {p q : Nat} {l : List Nat} : q ∈ srem p l ↔ q ∈ l ∧ q ≠ p := by
  simp [srem]

/-- the search returns the smallest free id ≥ p: it is free, and every candidate it skipped is in use -/
theorem firstUnusedFrom_spec (f : Nat) (l : List Nat) (p : Nat) (hf : l.length ≤ f) :
    firstUnusedFrom f l p ∉ l ∧ p ≤ firstUnusedFrom f l p ∧
      ∀ q, p ≤ q → q < firstUnusedFrom f l p → q ∈ l := by
  induction f generalizing l p with
  | zero =>
    have : l = [] := List.eq_nil_of_length_eq_zero (Nat.le_zero.mp hf)
    subst this
    exact ⟨List.not_mem_nil, Nat.le_refl _, fun q h1 h2 => absurd h1 (Nat.not_le.mpr h2)⟩
  | succ f ih =>
    unfold firstUnusedFrom
    split
    · rename_i h
      have hlen : (l.erase p).length ≤ f := by
        rw [List.length_erase_of_mem h]; exact Nat.sub_le_of_le_add hf
      obtain ⟨h1, h2, h3⟩ := ih (l.erase p) (p + 1) hlen
      refine ⟨fun hm => h1 ((List.mem_erase_of_ne (Nat.ne_of_gt h2)).2 hm), Nat.le_of_succ_le h2, fun q hq hlt => ?_⟩
      by_cases e : q = p
      · exact e ▸ h
      · exact List.mem_of_mem_erase (h3 q (Nat.lt_of_le_of_ne hq (Ne.symm e)) hlt)
    · exact ⟨‹_›, Nat.le_refl _, fun q hq hlt => absurd hq (Nat.not_le.mpr hlt)⟩

theorem firstUnused_not_mem (l : List Nat) : firstUnused l ∉ l :=
  (firstUnusedFrom_spec l.length l 0 (Nat.le_refl _)).1

end NQ.Exec
