/-
The executor model as an instance of the assembler's machine, extended to the quantum
instructions the SDK builder emits (`init`, the single-qubit gates, `meas`): `qMachine a` is
`xMachine` plus these instructions with exactly the semantics of `Exec.stepLoc` (the register is
read, the hook call is recorded in the trace, `meas` consumes an outcome and writes it).
`stepCorr_q` extends `stepCorr_classical` (`classical_q`: the machine has the classical instructions).  Used by the C05 chain (Lemmas/SdkAsmBridge.lean, Props/C05Chain.lean):
`qMachine a` is not `StdLike` (it has more roles than `stdRoles`), so the chain applies
`Asm.sim_run` with `setOk_qMachine` and `excCovers_qMachine` instead of the C03 theorems.
-/
import NetqasmVerif.Props.C03
namespace NQ.Asm
open NQ

def q1Names : List String := ["init", "x", "y", "z", "h", "s", "k", "t"]

def qRoles (mn : String) : Option (List Role) :=
  if mn = "meas" then some [.use, .dst]
  else if mn ∈ q1Names then some [.use]
  else stdRoles mn

def qMeas (a : Nat) (q : Option Int) (m : XMem) : Res XMem :=
  match q with
  | none => xf .assertion
  | some v =>
    .ok (some (m.oracle.headD 0))
      { m with oracle := m.oracle.tail, trace := m.trace ++ [⟨a, "meas", [v]⟩] } false

def qGate (a : Nat) (name : String) (q : Option Int) (m : XMem) : Res XMem :=
  match q with
  | none => xf .assertion
  | some v => .ok none { m with trace := m.trace ++ [⟨a, name, [v]⟩] } false

def qExec (a : Nat) (mn : String) (vals : List Val) (m : XMem) : Res XMem :=
  if mn = "meas" then (match vals with | [.use q, .dst] => qMeas a q m | _ => xf .fetch)
  else if mn ∈ q1Names then (match vals with | [.use q] => qGate a mn q m | _ => xf .fetch)
  else xExec mn vals m

def qMachine (a : Nat) : Machine XMem := ⟨qRoles, qExec a⟩

def ofExecQ : Exec.Instr → PCmd
  | .q1 name r => if name ∈ q1Names then .instr name [] [rX r] else .instr "" [] []
  | .meas q c => .instr "meas" [] [rX q, rX c]
  | x => ofExec x

theorem qRoles_classical {mn : String} (h1 : mn ≠ "meas") (h2 : mn ∉ q1Names) : qRoles mn = stdRoles mn := by
  simp only [qRoles, if_neg h1, if_neg h2]

theorem qExec_classical (a : Nat) {mn : String} (h1 : mn ≠ "meas") (h2 : mn ∉ q1Names) :
    qExec a mn = xExec mn := by
  funext vals m; simp only [qExec, if_neg h1, if_neg h2]

/-- no classical mnemonic is `meas` or the name of a gate -/
theorem std_not_q {mn : String} {rs : List Role} (h : stdRoles mn = some rs) : mn ≠ "meas" ∧ mn ∉ q1Names :=
  (by decide +kernel : ∀ e ∈ stdRoleTable, e.1 ≠ "meas" ∧ e.1 ∉ q1Names) _ (C03.lookupRoles_mem h)

theorem classical_q (a : Nat) : Classical (qMachine a) :=
  ⟨fun h => (qRoles_classical (std_not_q h).1 (std_not_q h).2).trans h,
   fun h => qExec_classical a (std_not_q h).1 (std_not_q h).2, (by decide +kernel : qRoles "" = none)⟩

theorem setOk_qMachine (a : Nat) : SetOk (qMachine a) :=
  ⟨(classical_q a).roles (rs := [.dst, .imm]) (by decide +kernel), fun v m =>
    (congrFun (congrFun ((classical_q a).exec (rs := [.dst, .imm]) (by decide +kernel)) _) m).trans (xExec_set v m)⟩

theorem excCovers_qMachine (a : Nat) : ExcCovers (qMachine a) Gen.excTable := by
  -- the roles of `meas` and of the gates hold no immediate and no branch target
  have noimm : ∀ {mn : String} {rs : List Role}, (∀ r ∈ rs, r ≠ .imm ∧ r ≠ .tgt) →
      CoversFrom Gen.excTable mn 0 rs := fun h k role hk hrole =>
    have hr := h role (List.mem_of_getElem? hk)
    (hrole.elim hr.1 hr.2).elim
  intro mn rs hr
  simp only [qMachine, qRoles] at hr
  split at hr
  · cases hr; exact noimm (by decide)
  · split at hr
    · cases hr; exact noimm (by decide)
    · exact C03.excCovers_sound C03.stdLike_xMachine mn rs hr

theorem ne_meas_of_q1 {name : String} (h : name ∈ q1Names) : name ≠ "meas" := by
  intro e; subst e; exact absurd h (by decide)

theorem roles_q1 (a : Nat) {name : String} (h : name ∈ q1Names) :
    (qMachine a).roles name = some [.use] := by
  simp only [qMachine, qRoles, if_neg (ne_meas_of_q1 h), if_pos h]

theorem exec_q1 (a : Nat) {name : String} (h : name ∈ q1Names) (q : Option Int) (m : XMem) :
    (qMachine a).exec name [.use q] m = qGate a name q m := by
  simp only [qMachine, qExec, if_neg (ne_meas_of_q1 h), if_pos h]

theorem resCorr_gate (a : Nat) (t : State XMem) (k : Nat) (jt : Option Nat) (name : String) (r : Exec.XReg) :
    ResCorr t k none jt (qGate a name (t.regs (ofX r)) t.mem) (Exec.stepLoc false a (.q1 name r) (conc t) k) := by
  unfold Exec.stepLoc qGate
  simp only [conc_regs]
  cases t.regs (ofX r) with
  | none => exact resCorr_fault
  | some v => exact resCorr_next

theorem resCorr_meas (a : Nat) (t : State XMem) (k : Nat) (jt : Option Nat) (q c : Exec.XReg) :
    ResCorr t k (some (ofX c)) jt (qMeas a (t.regs (ofX q)) t.mem)
      (Exec.stepLoc false a (.meas q c) (conc t) k) := by
  unfold Exec.stepLoc qMeas
  simp only [conc_regs]
  cases t.regs (ofX q) with
  | none => exact resCorr_fault
  | some v =>
    intro pc' e; cases e
    simp [Exec.ev, Exec.fits, conc, writeBack, absRegs_upd, Exec.App.setReg]

/-- the correspondence for the command `ofExecQ x` at any position of any program: `meas` and the gates by their
own lemmas, everything else as for `xMachine` -/
theorem stepCorr_q (a : Nat) (x : Exec.Instr) (Q : List PCmd) (t : State XMem) (k : Nat)
    (hg : Q[k]? = some (ofExecQ x)) : StepCorr (qMachine a) a x Q t k := by
  cases x with
  | q1 n r =>
    simp only [ofExecQ] at hg
    by_cases hn : n ∈ q1Names
    · rw [if_pos hn] at hg
      exact stepCorr_of_resCorr hg (roles_q1 a hn) rfl (exec_q1 a hn _ _) (resCorr_gate a t k _ n r)
    · rw [if_neg hn] at hg
      exact stepCorr_stuck ((classical_q a).stuck hg)
  | meas q c => exact stepCorr_of_resCorr hg (rs := [.use, .dst]) rfl rfl rfl (resCorr_meas a t k _ q c)
  | _ => exact stepCorr_classical (classical_q a) a _ Q t k hg

end NQ.Asm
