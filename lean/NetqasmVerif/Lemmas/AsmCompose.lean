/-
C03, part 5: composition of the passes — the registers a program names are its current registers,
the position maps of the two passes compose to `tpos`, and the simulation by `assembleProto` as the
composition of the two passes (`assembleProto_sim`; `sim_run`, `sim_halt`).
-/
import NetqasmVerif.Lemmas.AsmSim2
import NetqasmVerif.Lemmas.Table
namespace NQ.Asm
open NQ

theorem mem_currentRegisters_of_named {P : List PCmd} {r : Reg} (h : NamedIn P r) : r ∈ currentRegisters P := by
  obtain ⟨mn, args, ops, op, hm, ho, hr⟩ := h
  simp only [currentRegisters, List.mem_flatMap]
  exact ⟨_, hm, by simp only [cmdRegsWith, List.mem_flatMap]; exact ⟨op, ho, hr⟩⟩

theorem currentRegisters_makeArgs (P : List PCmd) :
    currentRegisters (makeArgsOperands P) = currentRegisters P := by
  induction P with
  | nil => rfl
  | cons y ys ih =>
    simp only [currentRegisters, makeArgsOperands, List.map_cons, List.flatMap_cons] at ih ⊢
    rw [ih]
    congr 1
    cases y with
    | label l => rfl
    | instr mn a o =>
      simp only [makeArgsCmd, cmdRegsWith, allOps, List.flatMap_append]
      have : List.flatMap opRegs (List.map POperand.lit a) = [] := by
        induction a with
        | nil => rfl
        | cons x xs ih => simp [List.flatMap_cons, opRegs, ih]
      rw [this]; rfl

theorem tpos2_append_length (code R : List PCmd) (m : Nat) :
    tpos2 (code ++ R) (code.length + m) = (code.map len2).sum + tpos2 R m := by
  have e : (code ++ R).take (code.length + m) = code ++ R.take m := by
    rw [List.take_append, List.take_of_length_le (by omega)]
    congr 2; omega
  simp [tpos2, e]

theorem len2_setCmds (sets : List (Reg × Int)) : ((sets.map setCmd).map len2).sum = sets.length := by
  induction sets with
  | nil => rfl
  | cons x xs ih =>
    show len2 (setCmd x) + ((xs.map setCmd).map len2).sum = xs.length + 1
    rw [ih]; simp [setCmd, len2]; omega

theorem len2_code {c : RcCfg} {x : PCmd} {code : List PCmd} (h : rcCmd c x = .ok code)
    (hx : ∀ mn args ops, x = .instr mn args ops → args = []) :
    (code.map len2).sum = lenA c.exc x := by
  cases x with
  | label l => cases h; simp [len2, lenA]
  | instr mn args ops =>
    have := hx mn args ops rfl
    subst this
    obtain ⟨sets, ops', tmp', hro, rfl⟩ := rcCmd_instr_spec h
    have hl := (rcOps_spec hro).2.2
    simp only [List.map_append, List.sum_append, len2_setCmds, List.map_cons, List.map_nil, len2, lenA,
      allOps, List.nil_append, hl]
    simp

theorem tpos_compose {c : RcCfg} {P P1 : List PCmd} (hna : NoArgs P) (h1 : rcAll c P = .ok P1) (i : Nat) :
    tpos2 P1 (tpos1 c.exc P i) = tpos c.exc P i := by
  induction P generalizing i P1 with
  | nil =>
    cases h1
    simp [tpos1, tpos2, tpos]
  | cons y ys ih =>
    obtain ⟨cy, R, hc, h2, rfl⟩ := rcAll_cons h1
    cases i with
    | zero => simp [tpos1, tpos2, tpos]
    | succ k =>
      rw [tpos1_cons_succ, tpos_cons_succ, ← rcCmd_length hc, tpos2_append_length,
        ih (fun mn a o hm => hna mn a o (List.mem_cons_of_mem _ hm)) h2,
        len2_code hc (fun mn a o e => hna mn a o (by simp [e]))]

theorem lenA_makeArgs (exc : List (String × Nat)) (x : PCmd) : lenA exc (makeArgsCmd x) = lenA exc x := by
  cases x with
  | label l => rfl
  | instr mn a o => simp [makeArgsCmd, lenA, allOps]

theorem tpos_makeArgs (exc : List (String × Nat)) (P : List PCmd) (i : Nat) :
    tpos exc (makeArgsOperands P) i = tpos exc P i := by
  simp only [tpos, makeArgsOperands, ← List.map_take, List.map_map]
  congr 1
  apply List.map_congr_left
  intro x _; exact lenA_makeArgs exc x

theorem assembleProto_inv {exc : List (String × Nat)} {n : Nat} {P P2 : List PCmd} {reserved : List Reg}
    (h : assembleProto exc n P reserved = .ok P2) :
    ∃ P1, rcAll ⟨exc, n, currentRegisters P ++ reserved⟩ (makeArgsOperands P) = .ok P1 ∧
      assignBranchLabels P1 = .ok P2 ∧ ∀ i, tpos2 P1 (tpos1 exc (makeArgsOperands P) i) = tpos exc P i := by
  simp only [assembleProto, replaceConstants, currentRegisters_makeArgs] at h
  cases h1 : rcAll ⟨exc, n, currentRegisters P ++ reserved⟩ (makeArgsOperands P) with
  | error e => simp [h1] at h
  | ok P1 =>
    simp only [h1] at h
    exact ⟨P1, rfl, h, fun i => by rw [tpos_compose (noArgs_makeArgs P) h1, tpos_makeArgs]⟩

/-- `Agree` outside the scratch set of the program `P`: the `R i`, `i < n`, that `P` neither names nor
has in `reserved` -/
abbrev AgreeOutsideScratch {M : Type} (n : Nat) (P : List PCmd) (s t : State M) (reserved : List Reg := []) :
    Prop :=
  Agree n (currentRegisters P ++ reserved) s t

section
variable {M : Type} {mc : Machine M} {exc : List (String × Nat)} {n : Nat} {P P2 : List PCmd} {reserved : List Reg}

theorem named_makeArgs {P : List PCmd} {reserved : List Reg} {r : Reg} (hr : NamedIn (makeArgsOperands P) r) :
    r ∈ currentRegisters P ++ reserved :=
  List.mem_append_left _ (currentRegisters_makeArgs P ▸ mem_currentRegisters_of_named hr)

/-- the three passes before the classes are instantiated, as one simulation -/
theorem assembleProto_sim (hs : SetOk mc) (hcov : ExcCovers mc exc) (hlt : LabelTargets mc P)
    (hA : assembleProto exc n P reserved = .ok P2) :
    Sim mc (fun s t => AgreeOutsideScratch n P s t reserved) P P2 (tpos exc P) := by
  obtain ⟨P1, h1, h2, htp⟩ := assembleProto_inv hA
  have hna := noArgs_makeArgs P
  have hlt0 := labelTargets_makeArgs hlt
  have := ((localSim_rcAll hs hcov hna hlt0 (fun _ => named_makeArgs) h1).sim.comp
    (localSim_assignLabels (labelTargets_rcAll hs hna hlt0 h1) h2).sim (sum_take_mono len2 P1)).of_step_eq
      (step_makeArgs mc P)
  rwa [show tpos2 P1 ∘ tpos1 exc (makeArgsOperands P) = tpos exc P from funext htp] at this

theorem sim_run (hs : SetOk mc) (hcov : ExcCovers mc exc) (hlt : LabelTargets mc P)
    (hA : assembleProto exc n P reserved = .ok P2) {a b : State M × Nat} (h : Steps mc P a b) :
    ∀ t, AgreeOutsideScratch n P a.1 t reserved →
      ∃ t', Steps mc P2 (t, tpos exc P a.2) (t', tpos exc P b.2) ∧ AgreeOutsideScratch n P b.1 t' reserved :=
  (assembleProto_sim hs hcov hlt hA).run h

/-- halting needs none of the hypotheses of the simulation: the output ends at the image of the end -/
theorem assembleProto_length (hA : assembleProto exc n P reserved = .ok P2) : P2.length = tpos exc P P.length := by
  obtain ⟨P1, h1, h2, htp⟩ := assembleProto_inv hA
  rw [assignBranchLabels_ok h2, filterMap_patch_length, rcAll_length h1, htp, makeArgsOperands, List.length_map]

theorem sim_halt (hA : assembleProto exc n P reserved = .ok P2) {s t : State M} {i : Nat}
    (hh : step mc P s i = .halt) : step mc P2 t (tpos exc P i) = .halt :=
  step_halt_of_ge (by
    rw [assembleProto_length hA]; exact Nat.le_of_eq (sum_take_of_length_le _ (step_halt_inv hh)).symm)

end

end NQ.Asm
