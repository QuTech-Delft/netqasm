/-
The EPR book (`Ctl.Book`: request queues, pending responses, history) as a transition system of its own.
`Epr.State` and the composed controller each carry one (`Book.ofEpr s`, `c.book`) and move it only by `Book.Step`:
a request is queued, a response is made pending, the head of a queue takes a pending response. The book-keeping
invariants of C12 are proved once, for `Book.Reach`; the two models only show that they refine it.
-/
import NetqasmVerif.Model.Controller
import NetqasmVerif.Lemmas.EprInv
namespace NQ.Ctl.Book
open NQ NQ.Epr

/-- What the history records about the qubit of a consumption fits the response type: only keep and measure
responses are consumed; a keep response was mapped to a unit-module position (`vq`) that was free (`prev`), a measure
response to none. -/
def EventOk (e : Event) : Prop :=
  e.resp.ty ≠ .other ∧ (e.resp.ty = .K → e.prev = none ∧ e.vq.isSome) ∧ (e.resp.ty = .M → e.vq = none)

/-- the head `hd` of the queue of response `r` takes `r` as its pair `tot - left` and logs `e` -/
structure Consume (b : Book) (r : Resp) (hd : Req) (rest : List Req) (e : Event) (b' : Book) : Prop where
  queue : getQ b.queues (keyOf b.nodeId r) = hd :: rest
  idx : 0 ≤ hd.tot - hd.left
  resp : e.resp = r
  key : e.key = keyOf b.nodeId r
  req : e.req = hd.id
  k : e.k = (hd.tot - hd.left).toNat
  ok : EventOk e
  eq : b' = { b with
    queues := setQ b.queues (keyOf b.nodeId r)
      (if hd.left - 1 = 0 then rest else { hd with left := hd.left - 1 } :: rest),
    log := b.log ++ [e] }

theorem Consume.queues_eq {b b' : Book} {r : Resp} {hd : Req} {rest : List Req} {e : Event}
    (c : Consume b r hd rest e b') : b'.queues = setQ b.queues (keyOf b.nodeId r)
      (if hd.left - 1 = 0 then rest else { hd with left := hd.left - 1 } :: rest) := by rw [c.eq]

theorem Consume.log_eq {b b' : Book} {r : Resp} {hd : Req} {rest : List Req} {e : Event}
    (c : Consume b r hd rest e b') : b'.log = b.log ++ [e] := by rw [c.eq]

/-- The three things that ever happen to a book: `_do_create_epr` / `_do_recv_epr` append a request with the next id
to the queue of its key; `_handle_epr_response` appends a response with the next id to the pending list; one
successful iteration of `_handle_pending_epr_responses` pops a pending response that the head of its queue takes. -/
inductive Step : Book → Book → Prop
  | enq (b : Book) (κ : Key) (sub : Nat) (res : Int) (q : Option Int) (n : Int) :
      Step b { b with queues := setQ b.queues κ (getQ b.queues κ ++ [⟨b.nextReq, κ, sub, res, q, n, n⟩]),
                      nextReq := b.nextReq + 1, issued := b.issued ++ [⟨b.nextReq, κ, sub, res, q, n, n⟩] }
  | deliver (b : Book) (r : Resp) (hid : r.id = b.nextResp) :
      Step b { b with pending := b.pending ++ [r], nextResp := b.nextResp + 1, delivered := b.delivered ++ [r] }
  | consume {b b1 : Book} {r : Resp} {hd : Req} {rest : List Req} {e : Event} (pre post : List Resp)
      (hp : b.pending = pre ++ r :: post) (hc : Consume b r hd rest e b1) : Step b { b1 with pending := pre ++ post }

inductive Steps : Book → Book → Prop
  | refl (b) : Steps b b
  | tail {b b1 b2} : Steps b b1 → Step b1 b2 → Steps b b2

theorem Steps.one {b b' : Book} (h : Step b b') : Steps b b' := .tail (.refl _) h

/-- the books a node can get into; `Epr.Reach` and `Ctl.Reach` project into it (`Reach.book`) -/
inductive Reach (node : Int) : Book → Prop
  | init : Reach node (Ctl.init node).book
  | step {b b'} : Reach node b → Step b b' → Reach node b'

theorem Reach.steps {node : Int} {b b' : Book} (hs : Steps b b') : Reach node b → Reach node b' := by
  induction hs with
  | refl => exact id
  | tail _ h ih => exact fun hr => (ih hr).step h

/-- (i) exactly once; (ii)–(iv) every queue against the history; request ids; (v) the history's qubit records -/
structure Inv (b : Book) : Prop where
  once : OnceL b.pending b.log b.delivered b.nextResp
  allQ : AllQL b.issued b.log b.queues
  ids : b.issued.map (·.id) = List.range b.nextReq
  log : ∀ e ∈ b.log, EventOk e

theorem Inv.step {b b' : Book} (hs : Step b b') (h : Inv b) : Inv b' := by
  cases hs with
  | enq κ sub res q n =>
    exact ⟨h.once, allQL_enqueue ⟨b.nextReq, κ, sub, res, q, n, n⟩ rfl h.allQ, by simp [h.ids, List.range_succ], h.log⟩
  | deliver r hid => exact ⟨onceL_deliver r hid h.once, h.allQ, h.ids, h.log⟩
  | @consume b1 r hd rest e pre post hp hc =>
    have hb1 := hc.eq
    subst hb1
    refine ⟨onceL_consume e (by rw [hc.resp, ← hp]; exact h.once),
      hc.key ▸ allQL_consume e (hc.key ▸ hc.queue) hc.idx hc.req hc.k h.allQ, h.ids, fun e' he' => ?_⟩
    rcases List.mem_append.1 he' with he' | he'
    · exact h.log e' he'
    · rw [List.mem_singleton.1 he']; exact hc.ok

theorem Reach.inv {node : Int} {b : Book} (hr : Reach node b) : Inv b := by
  induction hr with
  | init => exact ⟨⟨by simp [Ctl.init], by simp [Ctl.init]⟩, allQL_init, rfl, fun _ he => nomatch he⟩
  | step _ hs ih => exact ih.step hs

end NQ.Ctl.Book

/-! ### `Epr.State` refines the book -/
namespace NQ.Epr
open NQ.Ctl (Book)

theorem Consumed.book {okf : Nat} {s s' : State} {r : Resp} (h : Consumed okf s r s') :
    ∃ hd rest e, Book.Consume (Book.ofEpr s) r hd rest e (Book.ofEpr s') := by
  obtain ⟨hd, rest, app, m, m1, used1, vq, prev, arr, arr', c⟩ := h.parts
  have hs := c.eq
  subst hs
  refine ⟨hd, rest, _, c.queue, c.idx, rfl, rfl, rfl, rfl, ⟨c.ty, fun hty => ?_, fun hty => (c.meas hty).2.2.1⟩, rfl⟩
  obtain ⟨qa, qarr, v, i, _, _, _, _, hi, _, _, hvq, hprev⟩ := c.keep hty
  exact ⟨hprev ▸ (allocPos_free hi).1, hvq ▸ rfl⟩

theorem Micro.book {okf : Nat} {s s' : State} (h : Micro okf s s') : Book.Step (Book.ofEpr s) (Book.ofEpr s') := by
  obtain ⟨pre, r, rest, s1, hp, hc, _, hs⟩ := h
  obtain ⟨hd, tl, e, hb⟩ := hc.book
  subst hs
  exact .consume pre rest hp hb

theorem Micros.book {okf : Nat} {s s' : State} (h : Micros okf s s') :
    ∀ {b : Book}, Book.Steps b (Book.ofEpr s) → Book.Steps b (Book.ofEpr s') := by
  induction h with
  | refl => exact id
  | cons hm _ ih => exact fun hb => ih (hb.tail hm.book)

theorem step_book {okf : Nat} {s s' : State} {a : Action} (h : step okf s a = some s') :
    Book.Steps (Book.ofEpr s) (Book.ofEpr s') := by
  cases step_shape h with
  | mem h _ => rw [h]; exact .refl _
  | enq κ sub res q n h => subst h; exact .one (.enq (Book.ofEpr s) κ sub res q n)
  | deliver r hid h => exact h.book (.one (.deliver (Book.ofEpr s) r hid))
  | poll h => exact h.book (.refl _)

theorem Reach.book {okf : Nat} {node : Int} {s : State} (h : Reach okf node s) : Book.Reach node (Book.ofEpr s) := by
  induction h with
  | init => exact .init
  | step _ hs ih => exact ih.steps (step_book hs)

theorem issued_ids_reach {okf : Nat} {node : Int} :
    ∀ s, Reach okf node s → s.issued.map (·.id) = List.range s.nextReq :=
  fun _ h => h.book.inv.ids

end NQ.Epr
