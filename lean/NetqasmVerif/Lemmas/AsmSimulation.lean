/-
C03: what it means that a program `Q` simulates a program `P` along a position map (`Sim`), runs and the
composition of two passes proved once, and what a pass that rewrites command by command owes for it
(`LocalSim`).  Both rewriting passes of the assembler are instances (AsmSim1, AsmSim2).
-/
import NetqasmVerif.Lemmas.AsmStep
namespace NQ.Asm
open NQ

/-- every step of `P` at `i` is matched by steps of `Q` from `f i`: to `f i'` with related states, or to a
fault of the same kind inside the image of `i` -/
structure Sim {M : Type} (mc : Machine M) (R : State M → State M → Prop) (P Q : List PCmd) (f : Nat → Nat) :
    Prop where
  next : ∀ {s s' t i i'}, step mc P s i = .next s' i' → R s t →
    ∃ t', Steps mc Q (t, f i) (t', f i') ∧ R s' t'
  fault : ∀ {s t i k}, step mc P s i = .fault k → R s t →
    ∃ t' j, Steps mc Q (t, f i) (t', j) ∧ step mc Q t' j = .fault k ∧ f i ≤ j ∧ j < f (i + 1) ∧ R s t'

section
variable {M : Type} {mc : Machine M} {R : State M → State M → Prop} {P Q Q' : List PCmd} {f g : Nat → Nat}

theorem Sim.run (h : Sim mc R P Q f) {a b : State M × Nat} (hab : Steps mc P a b) :
    ∀ t, R a.1 t → ∃ t', Steps mc Q (t, f a.2) (t', f b.2) ∧ R b.1 t' := by
  induction hab with
  | refl c => exact fun t hR => ⟨t, .refl _, hR⟩
  | step hst _ ih =>
    intro t hR
    obtain ⟨t1, h1, hR1⟩ := h.next hst hR
    obtain ⟨t2, h2, hR2⟩ := ih t1 hR1
    exact ⟨t2, h1.trans h2, hR2⟩

/-- a second pass that keeps the state (`R = Eq`) and whose position map is monotone -/
theorem Sim.comp (h1 : Sim mc R P Q f) (h2 : Sim mc Eq Q Q' g) (hg : ∀ {a b}, a ≤ b → g a ≤ g b) :
    Sim mc R P Q' (g ∘ f) where
  next hst hR := by
    obtain ⟨t', hs, hR'⟩ := h1.next hst hR
    obtain ⟨_, hs', rfl⟩ := h2.run hs _ rfl
    exact ⟨t', hs', hR'⟩
  fault hf hR := by
    obtain ⟨t', j, hs, hfj, hlo, hhi, hR'⟩ := h1.fault hf hR
    obtain ⟨_, hs', rfl⟩ := h2.run hs _ rfl
    obtain ⟨_, j', hs2, hfj', hlo', hhi', rfl⟩ := h2.fault hfj rfl
    exact ⟨t', j', hs'.trans hs2, hfj', Nat.le_trans (hg hlo) hlo', Nat.lt_of_lt_of_le hhi' (hg hhi), hR'⟩

/-- a program with the same steps is simulated in the same way -/
theorem Sim.of_step_eq {P0 : List PCmd} (h : Sim mc R P0 Q f) (e : ∀ s i, step mc P0 s i = step mc P s i) :
    Sim mc R P Q f :=
  ⟨fun hst => h.next ((e _ _).trans hst), fun hf => h.fault ((e _ _).trans hf)⟩

end

/-- The image of a label is passed without changing the state; from the image of an instruction `Q` runs,
inside that image, to an instruction with the same mnemonic whose operands evaluate to the same values and
name the same destination and (mapped by `f`) the same jump target.  `R` relates states with equal memory
and survives a write-back on both sides. -/
structure LocalSim {M : Type} (mc : Machine M) (R : State M → State M → Prop) (P Q : List PCmd)
    (f : Nat → Nat) : Prop where
  mem : ∀ {s t}, R s t → s.mem = t.mem
  wb : ∀ {s t} out d m, R s t → R ⟨writeBack s.regs out d, m⟩ ⟨writeBack t.regs out d, m⟩
  label : ∀ {i} l (t : State M), P[i]? = some (.label l) → Steps mc Q (t, f i) (t, f (i + 1))
  instr : ∀ {s t i mn args ops rs vals}, P[i]? = some (.instr mn args ops) → mc.roles mn = some rs →
    evalOps s.regs rs (allOps args ops) = some vals → R s t →
    ∃ t' j args' ops', Steps mc Q (t, f i) (t', j) ∧ R s t' ∧ f i ≤ j ∧ j + 1 = f (i + 1) ∧
      Q[j]? = some (.instr mn args' ops') ∧ evalOps t'.regs rs (allOps args' ops') = some vals ∧
      dstOf rs (allOps args' ops') = dstOf rs (allOps args ops) ∧
      ∀ n, jumpTarget P rs (allOps args ops) = some n → jumpTarget Q rs (allOps args' ops') = some (f n)

theorem LocalSim.sim {M : Type} {mc : Machine M} {R : State M → State M → Prop} {P Q : List PCmd}
    {f : Nat → Nat} (L : LocalSim mc R P Q f) : Sim mc R P Q f where
  next hstep hR := by
    rcases step_next_inv hstep with ⟨l, hg, rfl, rfl⟩ | ⟨mn, args, ops, hg, ⟨rs, vals, out, m, jump, hr, he, hx, rfl, hj⟩⟩
    · exact ⟨_, L.label l _ hg, hR⟩
    · obtain ⟨t', j, args', ops', hrun, hR', -, hj1, hg', he', hd, hjt⟩ := L.instr hg hr he hR
      have hq := step_instr hg' hr he'
      rw [← L.mem hR', hx, hd] at hq
      dsimp only at hq
      refine ⟨_, hrun.trans (.single ?_), L.wb out _ m hR'⟩
      rcases hj with ⟨rfl, hn⟩ | ⟨rfl, rfl⟩
      · rw [hq, if_pos rfl, hjt _ hn]
      · rw [hq, if_neg Bool.false_ne_true, hj1]
  fault hf hR := by
    obtain ⟨mn, args, ops, rs, vals, hg, hr, he, hx⟩ := step_fault_inv hf
    obtain ⟨t', j, args', ops', hrun, hR', hlo, hj1, hg', he', -⟩ := L.instr hg hr he hR
    have hq := step_instr hg' hr he'
    rw [← L.mem hR', hx] at hq
    exact ⟨t', j, hrun, hq, hlo, by omega, hR'⟩

end NQ.Asm
