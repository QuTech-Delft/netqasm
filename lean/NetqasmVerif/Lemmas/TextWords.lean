/-
Lines are words joined by single blanks: `joinWith ' ' ws`.  What the lexers of the text format do
with such a line is stated once, for any words.  `Text.splitOn ' '` gives the words back
(`splitOn_joinWith`; conversely every text is the join of its `splitOn` words, `splitOn_spec`); so
does `group_by_word` when every word is blank-free and either has no opening bracket or is of the
form `pre(mid)` (`GWord`, `groupByWord_words`; `groupByWord_eq_splitOn` is the case of a line without
bracket).  A property of the characters of the words and of the blank holds of the line
(`forall_mem_joinWith`, `notin_joinWith`); the line begins as its first word and ends as its last
(`joinWith_head`, `joinWith_last`).  `join_words` reads the printers that put a blank in front of every
operand (`showOperands`, `showSrcOps`) as `joinWith`.
-/
import NetqasmVerif.Model.AsmText
import NetqasmVerif.Lemmas.TextLex
namespace NQ.AsmText
open NQ NQ.Text

theorem joinWith_cons_cons (sep : Char) (w w' : List Char) (ws : List (List Char)) :
    joinWith sep (w :: w' :: ws) = w ++ sep :: joinWith sep (w' :: ws) := rfl

/-- a printer that puts one blank in front of every word writes the words joined by blanks -/
theorem join_words {α : Type} (f : α → List Char) (g : List α → List Char) (hn : g [] = [])
    (hc : ∀ x xs, g (x :: xs) = ' ' :: f x ++ g xs) (w : List Char) (xs : List α) :
    w ++ g xs = joinWith ' ' (w :: xs.map f) := by
  induction xs generalizing w with
  | nil => rw [hn, List.append_nil]; rfl
  | cons x xs ih => rw [hc, List.map_cons, joinWith_cons_cons, ← ih, List.cons_append]

theorem splitOn_joinWith (sep : Char) : ∀ (ws : List (List Char)), ws ≠ [] → (∀ w ∈ ws, sep ∉ w) →
    Text.splitOn sep (joinWith sep ws) = ws
  | [], h, _ => absurd rfl h
  | [w], _, hw => by simp [joinWith, splitOn_notin (hw w (by simp))]
  | w :: w' :: ws, _, hw => by
    rw [joinWith_cons_cons, splitOn_append (hw w (by simp)),
      splitOn_joinWith sep (w' :: ws) (by simp) fun x hx => hw x (List.mem_cons_of_mem _ hx)]

theorem forall_mem_joinWith {P : Char → Prop} {sep : Char} (hs : P sep) :
    ∀ {ws : List (List Char)}, (∀ w ∈ ws, ∀ c ∈ w, P c) → ∀ c ∈ joinWith sep ws, P c
  | [], _ => fun c hc => by cases hc
  | [w], h => h w (by simp)
  | w :: w' :: ws, h => by
    rw [joinWith_cons_cons]
    exact List.forall_mem_append.2 ⟨h w (by simp), List.forall_mem_cons.2
      ⟨hs, forall_mem_joinWith hs fun x hx => h x (List.mem_cons_of_mem _ hx)⟩⟩

theorem notin_joinWith {x sep : Char} (hx : x ≠ sep) {ws : List (List Char)} (h : ∀ w ∈ ws, x ∉ w) :
    x ∉ joinWith sep ws :=
  fun hin => forall_mem_joinWith (P := (· ≠ x)) (Ne.symm hx) (fun w hw _ hc e => h w hw (e ▸ hc)) x hin rfl

theorem joinWith_head {P : Char → Prop} (sep : Char) {w : List Char} (ws : List (List Char))
    (h : ∃ c cs, w = c :: cs ∧ P c) : ∃ c cs, joinWith sep (w :: ws) = c :: cs ∧ P c := by
  obtain ⟨c, cs, rfl, hc⟩ := h
  cases ws with
  | nil => exact ⟨c, cs, rfl, hc⟩
  | cons w' ws => exact ⟨c, _, rfl, hc⟩

theorem joinWith_last {P : Char → Prop} (sep : Char) : ∀ (ws : List (List Char)), ws ≠ [] →
    (∀ w ∈ ws, ∃ l d, w = l ++ [d] ∧ P d) → ∃ l d, joinWith sep ws = l ++ [d] ∧ P d
  | [], h, _ => absurd rfl h
  | [w], _, hw => hw w (by simp)
  | w :: w' :: ws, _, hw => by
    have := last_append (fun _ h => h) (w ++ [sep])
      (joinWith_last sep (w' :: ws) (by simp) fun x hx => hw x (List.mem_cons_of_mem _ hx))
    rwa [List.append_assoc] at this

/-- `strip` (for any set of blanks `p`) leaves a line alone whose words are non-empty and blank-free -/
theorem trim_joinWith {p : Char → Bool} {sep : Char} {ws : List (List Char)} (hne : ws ≠ [])
    (h : ∀ w ∈ ws, w ≠ [] ∧ ∀ c ∈ w, p c = false) :
    dropWhileEnd p ((joinWith sep ws).dropWhile p) = joinWith sep ws := by
  have nb : ∀ w ∈ ws, (∃ c cs, w = c :: cs ∧ p c = false) ∧ ∃ l d, w = l ++ [d] ∧ p d = false :=
    fun w hw => by
      obtain ⟨hn, hc⟩ := h w hw
      constructor
      · cases w with
        | nil => exact absurd rfl hn
        | cons c cs => exact ⟨c, cs, rfl, hc c (by simp)⟩
      · rcases List.eq_nil_or_concat w with e | ⟨l, d, e⟩
        · exact absurd e hn
        · rw [List.concat_eq_append] at e
          exact ⟨l, d, e, hc d (by simp [e])⟩
  cases ws with
  | nil => exact absurd rfl hne
  | cons w ws =>
    obtain ⟨c, cs, h1, hc⟩ := joinWith_head sep ws (nb w (by simp)).1
    obtain ⟨l, d, h2, hd⟩ := joinWith_last sep _ (by simp) fun x hx => (nb x hx).2
    exact dropWhileEnd_dropWhile_of_ends hc hd ⟨cs, h1⟩ ⟨l, h2⟩

theorem length_le_joinWith (sep : Char) : ∀ (ws : List (List Char)), ws.length ≤ (joinWith sep ws).length + 1
  | [] => Nat.zero_le _
  | [w] => by simp
  | w :: w' :: ws => by
    have := length_le_joinWith sep (w' :: ws)
    rw [joinWith_cons_cons]
    simp only [List.length_cons, List.length_append] at this ⊢
    omega

/-! ### `group_by_word` on words -/

theorem findSub_single_notin (c : Char) : ∀ (l : List Char) (n : Nat), c ∉ l → findSub [c] l n = none
  | [], n, _ => by simp [findSub]
  | d :: rest, n, h => by
    simp only [List.mem_cons, not_or] at h
    have hne : (c == d) = false := by simpa using h.1
    simp [findSub, List.isPrefixOf, hne, findSub_single_notin c rest (n + 1) h.2]

theorem findSub_single_append (c : Char) : ∀ (w r : List Char) (n : Nat), c ∉ w →
    findSub [c] (w ++ c :: r) n = some (n + w.length)
  | [], r, n, _ => by simp [findSub, List.isPrefixOf]
  | d :: w, r, n, h => by
    simp only [List.mem_cons, not_or] at h
    have hne : (c == d) = false := by simpa using h.1
    simp [findSub, List.isPrefixOf, hne, findSub_single_append c w r (n + 1) h.2]
    omega

theorem splitOfBracket_none (ob cb : Char) (w : List Char) (h : ob ∉ w) :
    splitOfBracket ob cb w = some (w, []) := by
  simp [splitOfBracket, findSub_single_notin ob w 0 h]


theorem findSub_ge (pat : List Char) : ∀ (l : List Char) (n o : Nat), findSub pat l n = some o → n ≤ o
  | [], n, o, h => by
    simp only [findSub] at h
    split at h
    · exact Nat.le_of_eq (Option.some.inj h)
    · cases h
  | c :: rest, n, o, h => by
    simp only [findSub] at h
    split at h
    · exact Nat.le_of_eq (Option.some.inj h)
    · exact Nat.le_of_succ_le (findSub_ge pat rest (n + 1) o h)

theorem findSub_single_ge (c : Char) : ∀ (w r : List Char) (n o : Nat), c ∉ w →
    findSub [c] (w ++ r) n = some o → n + w.length ≤ o
  | [], r, n, o, _, h => findSub_ge _ _ _ _ h
  | d :: w, r, n, o, hw, h => by
    simp only [List.mem_cons, not_or] at hw
    have hne : (c == d) = false := by simpa using hw.1
    simp only [List.cons_append, findSub, List.isPrefixOf, hne, Bool.false_and, Bool.false_eq_true,
      if_false] at h
    have := findSub_single_ge c w r (n + 1) o hw.2 h
    simp only [List.length_cons]; omega

/-- a word `group_by_word` returns whole: it has no blank, and either no opening bracket or the form
`pre(mid)` with the first closing bracket at the end -/
def GWord (ob cb : Char) (w : List Char) : Prop :=
  ' ' ∉ w ∧ (ob ∉ w ∨ ∃ pre mid, w = pre ++ ob :: mid ++ [cb] ∧ ob ∉ pre ∧ cb ∉ pre ++ ob :: mid)

theorem findSub_pair (cb : Char) : ∀ (U T : List Char) (n : Nat), cb ∉ U →
    findSub [cb, ' '] (U ++ cb :: ' ' :: T) n = some (n + U.length)
  | [], T, n, _ => by simp [findSub, List.isPrefixOf]
  | d :: U, T, n, h => by
    simp only [List.mem_cons, not_or] at h
    have hne : (cb == d) = false := by simpa using h.1
    simp [findSub, List.isPrefixOf, hne, findSub_pair cb U T (n + 1) h.2]
    omega

/-- one round of `group_by_word` takes one word -/
theorem groupAux_step (ob cb : Char) (fuel : Nat) {w : List Char} (r : List Char) (hw : GWord ob cb w) :
    groupAux ob cb (fuel + 1) (w ++ ' ' :: r) = (groupAux ob cb fuel r).map (w :: ·) := by
  obtain ⟨hsp, hbr⟩ := hw
  have hsep : findSub [' '] (w ++ ' ' :: r) 0 = some w.length := by
    simpa using findSub_single_append ' ' w r 0 hsp
  have hne : (w ++ ' ' :: r).isEmpty = false := by cases w <;> rfl
  have hdrop : (w ++ ' ' :: r).drop (w.length + 1) = r := by
    rw [← List.singleton_append, ← List.append_assoc]; exact List.drop_left' (by simp)
  rcases hbr with hob | ⟨pre, mid, rfl, hob, hcb⟩
  · -- no bracket in the word: a bracket further right does not matter
    cases ho : findSub [ob] (w ++ ' ' :: r) 0 with
    | none =>
      simp only [groupAux, hne, Bool.false_eq_true, if_false, ho, hsep,
        List.length_singleton, Nat.add_sub_cancel, List.take_left' rfl, hdrop]
      cases groupAux ob cb fuel r <;> rfl
    | some o =>
      have hge := findSub_single_ge ob w _ 0 o hob ho
      have hlt : ¬ o < w.length := by omega
      simp only [groupAux, hne, Bool.false_eq_true, if_false, ho, hsep, hlt,
        List.length_singleton, Nat.add_sub_cancel, List.take_left' rfl, hdrop]
      cases groupAux ob cb fuel r <;> rfl
  · -- `pre(mid)`: the word ends at the first `) `
    have hopen : findSub [ob] ((pre ++ ob :: mid ++ [cb]) ++ ' ' :: r) 0 = some pre.length := by
      have : (pre ++ ob :: mid ++ [cb]) ++ ' ' :: r = pre ++ ob :: (mid ++ [cb] ++ ' ' :: r) := by simp
      rw [this]; simpa using findSub_single_append ob pre _ 0 hob
    have hlt : pre.length < (pre ++ ob :: mid ++ [cb]).length := by
      simp only [List.length_append, List.length_cons, List.length_nil]; omega
    have hend : findSub [cb, ' '] ((pre ++ ob :: mid ++ [cb]) ++ ' ' :: r) 0 = some (pre ++ ob :: mid).length := by
      have : (pre ++ ob :: mid ++ [cb]) ++ ' ' :: r = (pre ++ ob :: mid) ++ cb :: ' ' :: r := by simp
      rw [this]; simpa using findSub_pair cb _ r 0 hcb
    have e' : (pre ++ ob :: mid).length + 2 = (pre ++ ob :: mid ++ [cb]).length + 1 := by
      simp only [List.length_append, List.length_cons, List.length_nil]
    simp only [groupAux, hne, Bool.false_eq_true, if_false, hsep, hopen, hlt, if_true, hend,
      List.length_cons, List.length_nil, e', Nat.add_sub_cancel, List.take_left' rfl, hdrop]
    cases groupAux ob cb fuel r <;> rfl

theorem groupAux_words (ob cb : Char) : ∀ (ws : List (List Char)) (fuel : Nat), ws ≠ [] →
    ws.length < fuel → (∀ w ∈ ws, GWord ob cb w) →
    groupAux ob cb fuel (joinWith ' ' ws ++ [' ']) = some ws
  | [], _, h, _, _ => absurd rfl h
  | [w], fuel + 2, _, _, hw => by
    rw [show joinWith ' ' [w] ++ [' '] = w ++ ' ' :: [] from rfl, groupAux_step ob cb _ _ (hw w (by simp))]
    simp [groupAux]
  | w :: w' :: ws, fuel + 1, _, hf, hw => by
    rw [joinWith_cons_cons, List.append_assoc, List.cons_append,
      groupAux_step ob cb _ _ (hw w (by simp)),
      groupAux_words ob cb (w' :: ws) fuel (by simp) (by simp at hf ⊢; omega)
        fun x hx => hw x (List.mem_cons_of_mem _ hx)]
    rfl

/-- **`group_by_word` returns the words** of a line that `strip` leaves alone -/
theorem groupByWord_words (ob cb : Char) (ws : List (List Char)) (hne : ws ≠ [])
    (hw : ∀ w ∈ ws, GWord ob cb w) (hs : strip (joinWith ' ' ws) = joinWith ' ' ws) :
    groupByWord ob cb (joinWith ' ' ws) = some ws := by
  unfold groupByWord
  rw [hs]
  exact groupAux_words ob cb ws _ hne (by have := length_le_joinWith ' ' ws; simp; omega) hw

/-! ### any line is the join of its `splitOn` words -/

theorem joinWith_cons_head (sep c : Char) (w : List Char) (ws : List (List Char)) :
    joinWith sep ((c :: w) :: ws) = c :: joinWith sep (w :: ws) := by cases ws <;> rfl

theorem splitOn_spec (sep : Char) : ∀ (l : List Char), Text.splitOn sep l ≠ [] ∧
    joinWith sep (Text.splitOn sep l) = l ∧ ∀ w ∈ Text.splitOn sep l, sep ∉ w
  | [] => ⟨by simp [Text.splitOn], rfl, by simp [Text.splitOn]⟩
  | c :: cs => by
    obtain ⟨hne, hj, hw⟩ := splitOn_spec sep cs
    cases h : Text.splitOn sep cs with
    | nil => exact absurd h hne
    | cons w ws =>
      rw [h] at hj hw
      by_cases hc : c = sep
      · simp only [Text.splitOn, hc, if_true, h]
        exact ⟨by simp, by rw [joinWith_cons_cons, hj]; rfl, List.forall_mem_cons.2 ⟨by simp, hw⟩⟩
      · simp only [Text.splitOn, hc, if_false, h]
        refine ⟨by simp, by rw [joinWith_cons_head, hj],
          List.forall_mem_cons.2 ⟨?_, fun x hx => hw x (List.mem_cons_of_mem _ hx)⟩⟩
        simp only [List.mem_cons, not_or]
        exact ⟨Ne.symm hc, hw w (by simp)⟩

theorem mem_joinWith_of_mem {sep c : Char} {w : List Char} : ∀ {ws : List (List Char)}, w ∈ ws → c ∈ w →
    c ∈ joinWith sep ws
  | [x], h, hc => by simpa [joinWith, List.mem_singleton.1 h] using hc
  | x :: x' :: ws, h, hc => by
    rw [joinWith_cons_cons]
    rcases List.mem_cons.1 h with rfl | h
    · exact List.mem_append_left _ hc
    · exact List.mem_append_right _ (List.mem_cons_of_mem _ (mem_joinWith_of_mem h hc))

/-- on a line without opening bracket `group_by_word` is the split at single blanks -/
theorem groupByWord_eq_splitOn (ob cb : Char) (line : List Char) (h : ob ∉ strip line) :
    groupByWord ob cb line = some (Text.splitOn ' ' (strip line)) := by
  obtain ⟨hne, hj, hw⟩ := splitOn_spec ' ' (strip line)
  have hlen := length_le_joinWith ' ' (Text.splitOn ' ' (strip line))
  rw [hj] at hlen
  have := groupAux_words ob cb (Text.splitOn ' ' (strip line)) ((strip line ++ [' ']).length + 1) hne
    (by simp only [List.length_append, List.length_cons, List.length_nil]; omega)
    fun w h' => ⟨hw w h', Or.inl fun hin => h (hj ▸ mem_joinWith_of_mem h' hin)⟩
  rwa [hj] at this

end NQ.AsmText

namespace NQ.Text

theorem asm_strip_of_ends {c d : Char} {l : List Char} (hc : AsmText.isSpace c = false)
    (hd : AsmText.isSpace d = false) (h1 : ∃ cs, l = c :: cs) (h2 : ∃ l', l = l' ++ [d]) :
    AsmText.strip l = l :=
  dropWhileEnd_dropWhile_of_ends hc hd h1 h2

theorem not_asmSpace_of_class {p : Char → Bool}
    (hp : ∀ d ∈ [' ', '\t', '\n', '\r', '\x0b', '\x0c'], p d = false) {c : Char} (h : p c = true) :
    AsmText.isSpace c = false := by
  cases hs : AsmText.isSpace c
  · rfl
  · simp only [AsmText.isSpace, Bool.or_eq_true, beq_iff_eq] at hs
    rcases hs with ((((rfl | rfl) | rfl) | rfl) | rfl) | rfl <;> (rw [hp _ (by simp)] at h; cases h)

end NQ.Text
