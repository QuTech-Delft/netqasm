/-
Structure of the transpiler output: what template instantiation and the two-qubit dispatch return
(`Dispatch`), expansions contain no branch, non-gates are copied, the final command list is the
patched chunks plus the padding.
-/
import NetqasmVerif.Lemmas.Transpile
namespace NQ.Tr
open NQ

def lineFree (cfg : Cfg) (cls : String) : Bool :=
  match infoOf cfg cls with
  | some info => !info.branch
  | none => true

def TemplatesNoBranch (cfg : Cfg) : Bool :=
  cfg.exps.all (fun r => r.body.all (fun t => lineFree cfg t.cls))

/-- a branch class is not a gate class, `set` is neither, no class is a debug marker, and a gate
class writes no register (`writes_to()` is empty) -/
def InfosWF (cfg : Cfg) : Bool :=
  cfg.infos.all (fun r => (!r.branch || (!r.gate1 && !r.gate2)) && (!r.isSet || (!r.gate1 && !r.gate2 && !r.branch))
    && !(debugPrefix.isPrefixOf r.cls) && (!(r.gate1 || r.gate2) || r.writes.isEmpty))

theorem infoOf_cls {cfg : Cfg} {c : String} {info : ClsInfo} (h : infoOf cfg c = some info) :
    info ∈ cfg.infos ∧ info.cls = c := by
  unfold infoOf at h
  exact ⟨List.mem_of_find?_eq_some h, by simpa using List.find?_some h⟩

theorem setOf_some {cfg : Cfg} {y : Instr} {r : Reg} {v : Int} (h : setOf cfg y = some (r, v)) :
    ∃ info, infoOf cfg y.cls = some info ∧ info.isSet = true ∧ y.ops = [.reg r, .imm v] := by
  unfold setOf at h
  split at h
  · rename_i info hi
    split at h
    · rename_i hs
      split at h
      · rename_i r1 v1 hops
        cases h
        exact ⟨info, hi, hs, hops⟩
      · cases h
    · cases h
  · cases h

theorem lineOf_some {cfg : Cfg} {i : Instr} {t : Int} (h : lineOf cfg i = some t) :
    ∃ info, infoOf cfg i.cls = some info ∧ info.branch = true ∧ i.ops[info.lineIx]? = some (.imm t) := by
  unfold lineOf at h
  split at h
  · rename_i info hi
    split at h
    · rename_i hb
      split at h
      · rename_i v hv
        cases h
        exact ⟨info, hi, hb, hv⟩
      · cases h
    · cases h
  · cases h

theorem InfosWF.info {cfg : Cfg} (hW : InfosWF cfg = true) {c : String} {info : ClsInfo}
    (hi : infoOf cfg c = some info) :
    (info.branch = true → info.gate1 = false ∧ info.gate2 = false) ∧
    (info.isSet = true → info.gate1 = false ∧ info.gate2 = false ∧ info.branch = false) ∧
    debugPrefix.isPrefixOf c = false ∧
    ((info.gate1 || info.gate2) = true → info.writes = []) := by
  obtain ⟨hm, rfl⟩ := infoOf_cls hi
  have hw := List.all_eq_true.1 hW info hm
  simp only [Bool.and_eq_true, Bool.or_eq_true, Bool.not_eq_eq_eq_not, Bool.not_true,
    List.isEmpty_iff] at hw
  obtain ⟨⟨⟨h1, h2⟩, h3⟩, h4⟩ := hw
  refine ⟨fun hb => ?_, fun hs => ?_, h3, fun hg => ?_⟩
  · rcases h1 with h | h
    · rw [hb] at h; cases h
    · exact h
  · rcases h2 with h | h
    · rw [hs] at h; cases h
    · exact ⟨h.1.1, h.1.2, h.2⟩
  · rcases h4 with h | h
    · rw [Bool.or_eq_true] at hg; rcases hg with g | g <;> rw [g] at h <;> simp at h
    · exact h

theorem not_debug_of_info {cfg : Cfg} (hW : InfosWF cfg = true) {i : Instr} {info : ClsInfo}
    (h : infoOf cfg i.cls = some info) : isDebug i = false :=
  (InfosWF.info hW h).2.2.1

theorem lineOf_none_of_lineFree {cfg : Cfg} {i : Instr} (h : lineFree cfg i.cls = true) :
    lineOf cfg i = none := by
  unfold lineFree at h
  unfold lineOf
  cases hi : infoOf cfg i.cls with
  | none => rfl
  | some info => rw [hi] at h; simp at h; simp [h]

theorem expOf_some {cfg : Cfg} {key : String} {body : List TInstr} (h : expOf cfg key = some body) :
    ∃ row ∈ cfg.exps, row.key = key ∧ row.body = body := by
  obtain ⟨row, hf, hb⟩ := Option.map_eq_some_iff.1 h
  exact ⟨row, List.mem_of_find?_eq_some hf, by simpa using List.find?_some hf, hb⟩

theorem useTemplate_ok {cfg : Cfg} {key g a b s l} (h : useTemplate cfg key g a b s = .ok l) :
    ∃ body, expOf cfg key = some body ∧ instBody g a b s body = some l := by
  unfold useTemplate at h
  split at h
  · cases h
  · rename_i body he
    split at h
    · rename_i l' hb
      cases h
      exact ⟨body, he, hb⟩
    · cases h

theorem instBody_cons_some {g : Instr} {a b s : Reg} {t : TInstr} {ts : List TInstr} {l : List Instr}
    (h : instBody g a b s (t :: ts) = some l) :
    ∃ os l', instOps g a b s t.ops = some os ∧ instBody g a b s ts = some l' ∧ l = ⟨t.cls, os⟩ :: l' := by
  unfold instBody at h
  split at h
  · rename_i os l' h1 h2
    exact ⟨os, l', h1, h2, (Option.some.inj h).symm⟩
  · cases h

theorem instBody_mem {g : Instr} {a b s : Reg} : ∀ {body : List TInstr} {l : List Instr},
    instBody g a b s body = some l → ∀ y ∈ l, ∃ t ∈ body, y.cls = t.cls ∧ instOps g a b s t.ops = some y.ops
  | [], l, h, y, hy => by cases h; cases hy
  | t :: ts, l, h, y, hy => by
    obtain ⟨os, l', h1, h2, rfl⟩ := instBody_cons_some h
    rcases List.mem_cons.1 hy with rfl | hm
    · exact ⟨t, List.mem_cons_self, rfl, h1⟩
    · obtain ⟨t', ht', hc⟩ := instBody_mem h2 y hm
      exact ⟨t', List.mem_cons_of_mem _ ht', hc⟩

theorem useTemplate_mem {cfg : Cfg} {key g a b s l} (h : useTemplate cfg key g a b s = .ok l)
    {y : Instr} (hy : y ∈ l) :
    ∃ row ∈ cfg.exps, row.key = key ∧ ∃ t ∈ row.body, y.cls = t.cls ∧ instOps g a b s t.ops = some y.ops := by
  obtain ⟨body, he, hb⟩ := useTemplate_ok h
  obtain ⟨row, hr, hk, rfl⟩ := expOf_some he
  exact ⟨row, hr, hk, instBody_mem hb y hy⟩

/-- The successful cases of `_handle_two_qubit_gate`: the row `k` (without the debug suffix) and the
registers it puts in for `a`, `b`, `s`. A third register goes only into a carbon–carbon row, and it
is the one `get_unused_register` returns; elsewhere `s` is a dummy (`r0`). `cphase` with the electron
second uses the electron–carbon row with the operands swapped. -/
inductive Dispatch (tag : String) (rv : List (Reg × Int)) (used : List Reg) (r0 r1 : Reg) :
    String → Reg → Reg → Reg → Prop
  | cnotEC {v1 : Int} : tag = "cnot" → rv.lookup r0 = some 0 → rv.lookup r1 = some v1 → v1 ≠ 0 →
      Dispatch tag rv used r0 r1 "cnot_ec" r0 r1 r0
  | cnotCE {v0 : Int} : tag = "cnot" → rv.lookup r0 = some v0 → rv.lookup r1 = some 0 → v0 ≠ 0 →
      Dispatch tag rv used r0 r1 "cnot_ce" r0 r1 r0
  | cnotCC {v0 v1 : Int} {s : Reg} : tag = "cnot" → rv.lookup r0 = some v0 → rv.lookup r1 = some v1 →
      v0 ≠ 0 → v1 ≠ 0 → v0 ≠ v1 → getUnused used = .ok s → Dispatch tag rv used r0 r1 "cnot_cc" r0 r1 s
  | cphaseEC {v1 : Int} : tag = "cphase" → rv.lookup r0 = some 0 → rv.lookup r1 = some v1 → v1 ≠ 0 →
      Dispatch tag rv used r0 r1 "cphase_ec" r0 r1 r0
  | cphaseCE {v0 : Int} : tag = "cphase" → rv.lookup r0 = some v0 → rv.lookup r1 = some 0 → v0 ≠ 0 →
      Dispatch tag rv used r0 r1 "cphase_ec" r1 r0 r0
  | cphaseCC {v0 v1 : Int} {s : Reg} : tag = "cphase" → rv.lookup r0 = some v0 → rv.lookup r1 = some v1 →
      v0 ≠ 0 → v1 ≠ 0 → v0 ≠ v1 → getUnused used = .ok s → Dispatch tag rv used r0 r1 "cphase_cc" r0 r1 s
  | movEC {v1 : Int} : tag = "mov" → rv.lookup r0 = some 0 → rv.lookup r1 = some v1 → v1 ≠ 0 →
      Dispatch tag rv used r0 r1 "mov_ec" r0 r1 r0
  | movCE {v0 : Int} : tag = "mov" → rv.lookup r0 = some v0 → rv.lookup r1 = some 0 → v0 ≠ 0 →
      Dispatch tag rv used r0 r1 "mov_ce" r0 r1 r0
  | movUnknown : tag = "mov" → rv.lookup r0 = none ∨ rv.lookup r1 = none →
      Dispatch tag rv used r0 r1 "mov_ec" r0 r1 r0

/-- `rw [if_pos _]` rather than `split` in the proof: the latter is very slow on this term. -/
theorem expandGate2_ok {cfg : Cfg} {info rv used g l} (h : expandGate2 cfg info rv used g = .ok l) :
    ∃ r0 r1 k a b s, g.ops = [.reg r0, .reg r1] ∧ Dispatch info.tag rv used r0 r1 k a b s ∧
      useTemplate cfg (k ++ sfx cfg) g a b s = .ok l := by
  unfold expandGate2 at h
  split at h
  · rename_i r0 r1 hops
    refine ⟨r0, r1, ?_⟩
    split at h
    · rename_i v0 v1 e0 e1
      by_cases hv : (v0 == v1) = true
      · rw [if_pos hv] at h; cases h
      rw [if_neg hv] at h
      have hv : v0 ≠ v1 := fun e => hv (beq_iff_eq.2 e)
      by_cases hc : (info.tag == "cnot") = true
      · rw [if_pos hc] at h
        by_cases h0 : (v0 == 0) = true
        · rw [if_pos h0] at h
          cases eq_of_beq h0
          exact ⟨_, _, _, _, hops, .cnotEC (eq_of_beq hc) e0 e1 (Ne.symm hv), h⟩
        rw [if_neg h0] at h
        have h0 : v0 ≠ 0 := fun e => h0 (beq_iff_eq.2 e)
        by_cases h1 : (v1 == 0) = true
        · rw [if_pos h1] at h
          cases eq_of_beq h1
          exact ⟨_, _, _, _, hops, .cnotCE (eq_of_beq hc) e0 e1 h0, h⟩
        rw [if_neg h1] at h
        cases hs : getUnused used with
        | error e => rw [hs] at h; cases h
        | ok s =>
          rw [hs] at h
          exact ⟨_, _, _, s, hops, .cnotCC (eq_of_beq hc) e0 e1 h0 (fun e => h1 (beq_iff_eq.2 e)) hv hs, h⟩
      rw [if_neg hc] at h
      by_cases hp : (info.tag == "cphase") = true
      · rw [if_pos hp] at h
        by_cases h0 : (v0 == 0) = true
        · rw [if_pos h0] at h
          cases eq_of_beq h0
          exact ⟨_, _, _, _, hops, .cphaseEC (eq_of_beq hp) e0 e1 (Ne.symm hv), h⟩
        rw [if_neg h0] at h
        have h0 : v0 ≠ 0 := fun e => h0 (beq_iff_eq.2 e)
        by_cases h1 : (v1 == 0) = true
        · rw [if_pos h1] at h
          cases eq_of_beq h1
          exact ⟨_, _, _, _, hops, .cphaseCE (eq_of_beq hp) e0 e1 h0, h⟩
        rw [if_neg h1] at h
        cases hs : getUnused used with
        | error e => rw [hs] at h; cases h
        | ok s =>
          rw [hs] at h
          exact ⟨_, _, _, s, hops, .cphaseCC (eq_of_beq hp) e0 e1 h0 (fun e => h1 (beq_iff_eq.2 e)) hv hs, h⟩
      rw [if_neg hp] at h
      by_cases hm : (info.tag == "mov") = true
      · rw [if_pos hm] at h
        by_cases h0 : (v0 == 0 && v1 != 0) = true
        · rw [if_pos h0] at h
          obtain ⟨ha, hb⟩ := Bool.and_eq_true_iff.1 h0
          cases eq_of_beq ha
          exact ⟨_, _, _, _, hops, .movEC (eq_of_beq hm) e0 e1 (bne_iff_ne.1 hb), h⟩
        rw [if_neg h0] at h
        by_cases h1 : (v0 != 0 && v1 == 0) = true
        · rw [if_pos h1] at h
          obtain ⟨ha, hb⟩ := Bool.and_eq_true_iff.1 h1
          cases eq_of_beq hb
          exact ⟨_, _, _, _, hops, .movCE (eq_of_beq hm) e0 e1 (bne_iff_ne.1 ha), h⟩
        rw [if_neg h1] at h; cases h
      rw [if_neg hm] at h; cases h
    · rename_i hno
      by_cases hm : (info.tag == "mov") = true
      · rw [if_pos hm] at h
        refine ⟨_, _, _, _, hops, .movUnknown (eq_of_beq hm) ?_, h⟩
        cases e0 : rv.lookup r0 with
        | none => exact .inl rfl
        | some v0 =>
          cases e1 : rv.lookup r1 with
          | none => exact .inr rfl
          | some v1 => exact (hno v0 v1 e0 e1).elim
      rw [if_neg hm] at h; cases h
  · cases h

theorem useTemplate_noLine {cfg : Cfg} (hT : TemplatesNoBranch cfg = true) {key g a b s l}
    (h : useTemplate cfg key g a b s = .ok l) : ∀ x ∈ l, lineOf cfg x = none := by
  intro x hx
  obtain ⟨row, hr, _, t, ht, hc, _⟩ := useTemplate_mem h hx
  exact lineOf_none_of_lineFree (hc ▸ List.all_eq_true.1 (List.all_eq_true.1 hT row hr) t ht)

/-- `isinstance` gate test of the pass -/
def infoGate (info : ClsInfo) : Bool := info.gate1 || info.gate2

theorem expandInstr_gate_noLine {cfg : Cfg} (hT : TemplatesNoBranch cfg = true) {info rv used i l}
    (hg : infoGate info = true) (h : expandInstr cfg info rv used i = .ok l) :
    ∀ x ∈ l, lineOf cfg x = none := by
  unfold expandInstr at h
  unfold infoGate at hg
  split at h
  · unfold expandGate1 at h
    split at h
    · exact useTemplate_noLine hT h
    · cases h
  · split at h
    · obtain ⟨_, _, _, _, _, _, _, _, hu⟩ := expandGate2_ok h
      exact useTemplate_noLine hT hu
    · simp_all

theorem expandInstr_nongate {cfg : Cfg} {info rv used i l}
    (hg : infoGate info = false) (h : expandInstr cfg info rv used i = .ok l) : l = [i] := by
  unfold expandInstr at h
  unfold infoGate at hg
  simp only [Bool.or_eq_false_iff] at hg
  simp [hg.1, hg.2] at h
  exact h.symm

theorem isGate_eq {cfg : Cfg} {i : Instr} {info} (hi : infoOf cfg i.cls = some info) :
    isGate cfg i = infoGate info := by simp [isGate, hi, infoGate]

theorem Chunks.nongate_at {cfg : Cfg} {rv used S cs} (hc : Chunks cfg rv used S cs)
    (hW : InfosWF cfg = true) {pc : Nat} {x : Instr} (hx : S[pc]? = some x) (hng : isGate cfg x = false) :
    ∃ hp : pc < cs.length, cs[pc] = [x] ∧ isDebug x = false := by
  obtain ⟨hp, rfl⟩ := List.getElem?_eq_some_iff.1 hx
  obtain ⟨info, hi, hp', hex⟩ := hc.at pc hp
  exact ⟨hp', expandInstr_nongate (by rw [← isGate_eq hi]; exact hng) hex, not_debug_of_info hW hi⟩

/-- the chunks of the non-gate instructions are these instructions themselves, one each and in order -/
theorem Chunks.nongate {cfg : Cfg} {rv used S cs} (h : Chunks cfg rv used S cs) :
    ((S.zip cs).filter (fun q => !isGate cfg q.1)).map (·.2)
      = (S.filter (fun i => !isGate cfg i)).map (fun i => [i]) := by
  induction h with
  | nil => rfl
  | @cons rv used i rest ex cs info hi hex _ ih =>
    cases hg : infoGate info with
    | true =>
      have hgi : isGate cfg i = true := by rw [isGate_eq hi, hg]
      simp [List.zip_cons_cons, hgi, ih]
    | false =>
      have hgi : isGate cfg i = false := by rw [isGate_eq hi, hg]
      simp [List.zip_cons_cons, hgi, ih, expandInstr_nongate hg hex]

theorem not_gate_of_line {cfg : Cfg} (hW : InfosWF cfg = true) {i : Instr} {t : Int}
    (h : lineOf cfg i = some t) : isGate cfg i = false := by
  obtain ⟨info, hi, hb, _⟩ := lineOf_some h
  obtain ⟨g1, g2⟩ := (InfosWF.info hW hi).1 hb
  rw [isGate_eq hi, infoGate, g1, g2]; rfl

theorem setOf_none_of_gate {cfg : Cfg} (hW : InfosWF cfg = true) {x : Instr} (hg : isGate cfg x = true) :
    setOf cfg x = none ∧ writesOf cfg x = [] := by
  unfold isGate at hg
  unfold setOf writesOf
  split at hg
  · rename_i info hi
    obtain ⟨_, hs, _, hw⟩ := InfosWF.info hW hi
    have hset : info.isSet = false := by
      cases h : info.isSet with
      | false => rfl
      | true => obtain ⟨g1, g2, _⟩ := hs h; rw [g1, g2] at hg; cases hg
    rw [hset, hw hg]
    exact ⟨rfl, rfl⟩
  · cases hg

theorem setOf_none_of_line {cfg : Cfg} (hW : InfosWF cfg = true) {x : Instr} {t : Int}
    (hl : lineOf cfg x = some t) : setOf cfg x = none := by
  obtain ⟨info, hi, hb, _⟩ := lineOf_some hl
  have hs : info.isSet = false := by
    cases h : info.isSet with
    | false => rfl
    | true => rw [((InfosWF.info hW hi).2.1 h).2.2] at hb; cases hb
  simp [setOf, hi, hs]

theorem lineOf_setLine {cfg : Cfg} {x : Instr} {t : Int} (h : lineOf cfg x = some t) (w : Int) :
    lineOf cfg (setLine cfg x w) = some w := by
  obtain ⟨info, hi, hb, hv⟩ := lineOf_some h
  have hlt := (List.getElem?_eq_some_iff.1 hv).1
  simp [lineOf, setLine, hi, hb, List.getElem?_set_self hlt]

theorem setLine_cls (cfg : Cfg) (i : Instr) (w : Int) : (setLine cfg i w).cls = i.cls := by
  unfold setLine; cases infoOf cfg i.cls <;> rfl

theorem patchOne_cls (cfg : Cfg) (n idx e) (i : Instr) : (patchOne cfg n idx e i).cls = i.cls := by
  unfold patchOne
  split
  · rename_i i' f h
    rcases retargetOne_ok h with ⟨_, rfl, _⟩ | ⟨_, rfl, _⟩ | ⟨_, _, _, _, _, _, rfl, _⟩
    · rfl
    · exact setLine_cls _ _ _
    · exact setLine_cls _ _ _
  · rfl

theorem serialise_map_patch (cfg : Cfg) (n idx e) (l : List Instr) :
    serialise (l.map (patchOne cfg n idx e)) = (serialise l).map (patchOne cfg n idx e) := by
  induction l with
  | nil => rfl
  | cons x xs ih =>
    have hx : isDebug (patchOne cfg n idx e x) = isDebug x := by
      simp [isDebug, patchOne_cls]
    unfold serialise at *
    by_cases h : isDebug x <;> simp [hx, h, ih]

theorem slen_map_patch (cfg : Cfg) (n idx e) (l : List Instr) :
    slen (l.map (patchOne cfg n idx e)) = slen l := by
  simp [slen, serialise_map_patch]

theorem flatten_take_getElem_drop {α} (cs : List (List α)) (i : Nat) (h : i < cs.length) :
    cs.flatten = (cs.take i).flatten ++ cs[i] ++ (cs.drop (i + 1)).flatten := by
  have h1 : cs = cs.take i ++ cs[i] :: cs.drop (i + 1) := by simp
  have h2 := congrArg List.flatten h1
  rw [List.flatten_append, List.flatten_cons, ← List.append_assoc] at h2
  exact h2

def patchOf (cfg : Cfg) (S : List Instr) (cs : List (List Instr)) : Instr → Instr :=
  patchOne cfg S.length (starts 0 cs) (slen cs.flatten)

def endTargeted (cfg : Cfg) (S : List Instr) (cs : List (List Instr)) : Bool :=
  cs.flatten.any (fun i => lineOf cfg i == some (S.length : Int))

theorem patch_branch {cfg : Cfg} {S : List Instr} {cs : List (List Instr)} (hlen : cs.length = S.length)
    {x : Instr} {t : Int} (hl : lineOf cfg x = some t)
    (hok : ∃ i' fl, retargetOne cfg S.length (starts 0 cs) (slen cs.flatten) x = .ok (i', fl)) :
    0 ≤ t ∧ t.toNat ≤ S.length ∧ patchOf cfg S cs x = setLine cfg x (tposS cs t.toNat) := by
  obtain ⟨i', fl, h⟩ := hok
  have hp : patchOf cfg S cs x = i' := by simp [patchOf, patchOne, h]
  rw [hp]
  rcases retargetOne_ok h with ⟨hn, _⟩ | ⟨he, rfl, _⟩ | ⟨v, k, hv, _, h0, hk, rfl, _⟩
  · rw [hl] at hn; cases hn
  · cases hl.symm.trans he
    refine ⟨by omega, by omega, ?_⟩
    rw [Int.toNat_natCast, ← hlen, tposS_all]
  · cases hl.symm.trans hv
    have hlt : t.toNat < cs.length := by
      have := (List.getElem?_eq_some_iff.1 hk).1
      rwa [starts_length] at this
    rw [starts_getElem? 0 cs _ hlt, Nat.zero_add] at hk
    cases hk
    exact ⟨h0, by omega, rfl⟩

theorem transpile_structure {cfg : Cfg} {S out : List Instr} (h : transpile cfg S = .ok out) :
    ∃ cs, Chunks cfg [] [] S cs ∧ indexChanges cfg S = some (starts 0 cs) ∧
      out = cs.flatten.map (patchOf cfg S cs) ++ (if endTargeted cfg S cs then [cfg.pad] else []) ∧
      (∀ x ∈ cs.flatten, ∀ t, lineOf cfg x = some t →
        0 ≤ t ∧ t.toNat ≤ S.length ∧ patchOf cfg S cs x = setLine cfg x (tposS cs t.toNat)) := by
  unfold transpile at h
  cases hp : passLoop cfg PState.init S with
  | error e => rw [hp] at h; cases h
  | ok st =>
    rw [hp] at h
    simp only at h
    obtain ⟨cs, hc, hout, hidx, hnd⟩ := passLoop_chunks cfg S PState.init st hp rfl
    simp only [PState.init, List.nil_append, slen_nil] at hout hidx hc
    have hlen : st.out.length - st.nDebug = slen cs.flatten := by
      have := slen_add_debug st.out
      rw [← hout]; omega
    rw [hlen, hout, hidx] at h
    cases hr : retargetAll cfg S.length (starts 0 cs) (slen cs.flatten) cs.flatten with
    | error e => rw [hr] at h; cases h
    | ok q =>
      obtain ⟨out', f⟩ := q
      rw [hr] at h
      simp only [Except.ok.injEq] at h
      obtain ⟨h1, h2, h3⟩ := retargetAll_spec hr
      refine ⟨cs, hc, ?_, ?_, fun x hx t hl => patch_branch hc.length_eq hl (h3 x hx)⟩
      · simp [indexChanges, hp, hidx]
      · rw [← h, h1, h2]; unfold patchOf endTargeted; split <;> simp

theorem serialise_out_eq {cfg : Cfg} {S : List Instr} {cs : List (List Instr)} (hpad : isDebug cfg.pad = false) :
    serialise (cs.flatten.map (patchOf cfg S cs) ++ (if endTargeted cfg S cs then [cfg.pad] else []))
      = (serialise cs.flatten).map (patchOf cfg S cs) ++ (if endTargeted cfg S cs then [cfg.pad] else []) := by
  rw [serialise_append]
  unfold patchOf
  rw [serialise_map_patch]
  congr 1
  split
  · simp [serialise, hpad]
  · rfl

theorem code_at {cfg : Cfg} {S : List Instr} {cs : List (List Instr)} (hpad : isDebug cfg.pad = false)
    (i : Nat) (hi : i < cs.length) :
    ∃ pre post, serialise (cs.flatten.map (patchOf cfg S cs) ++ (if endTargeted cfg S cs then [cfg.pad] else []))
        = pre ++ serialise (cs[i].map (patchOf cfg S cs)) ++ post ∧ pre.length = tposS cs i := by
  rw [serialise_out_eq hpad]
  refine ⟨(serialise (cs.take i).flatten).map (patchOf cfg S cs),
    (serialise (cs.drop (i + 1)).flatten).map (patchOf cfg S cs) ++ (if endTargeted cfg S cs then [cfg.pad] else []),
    ?_, by simp [tposS, slen]⟩
  conv => lhs; rw [flatten_take_getElem_drop cs i hi]
  unfold patchOf
  rw [serialise_map_patch]
  simp [serialise_append, List.append_assoc]

theorem pad_at {cfg : Cfg} {S : List Instr} {cs : List (List Instr)} (hpad : isDebug cfg.pad = false)
    (he : endTargeted cfg S cs = true) :
    ∃ pre, serialise (cs.flatten.map (patchOf cfg S cs) ++ (if endTargeted cfg S cs then [cfg.pad] else []))
        = pre ++ [cfg.pad] ∧ pre.length = tposS cs cs.length := by
  rw [serialise_out_eq hpad, he]
  exact ⟨_, rfl, by simp [tposS, slen]⟩

theorem getUnused_fresh {used : List Reg} {s : Reg} (h : getUnused used = .ok s) :
    s ∉ used ∧ s.bank = bankQ := by
  unfold getUnused at h
  split at h
  · rename_i k hk
    have := List.find?_some hk
    simp only [Except.ok.injEq] at h
    subst h
    simp at this
    exact ⟨this, rfl⟩
  · cases h

end NQ.Tr
