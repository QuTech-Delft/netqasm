/-
Semantic side of C08: an abstract small-step semantics of subroutines (`Sem`, `SemLocal`, `Step`,
`Steps`, `RunStraight`), the hypothesis about gate expansions (`ExpandSound`), and the window
invariant `K` that makes the pass's flow-insensitive register knowledge exact on `QStatic` programs
(`qstatic_at`, `win_lookup`).
-/
import NetqasmVerif.Lemmas.TranspileStruct
namespace NQ.Tr
open NQ

/-- machine state: the register file and "everything else" (arrays, shared memory, the quantum
state up to global phase, the measurement-outcome stream …) -/
structure St (μ : Type) where
  regs : Reg → Option Int
  mem : μ

/-- instruction semantics, abstract: `exec` for non-control instructions (`none` = fault),
`cond` for branch/jump instructions -/
structure Sem (μ : Type) where
  exec : Instr → St μ → Option (St μ)
  cond : Instr → St μ → Option Bool

/-- what C08 needs of the instruction semantics — a HYPOTHESIS of the simulation theorems (the
intended instance is the executor model of C04; no instance for it is proved, Props/C08.lean only
shows the hypothesis is satisfiable): an instruction writes only `writes_to()`, `set` is `set`, and
behaviour depends only on the memory and on the registers the instruction names; a branch condition
does not depend on its target. -/
structure SemLocal {μ : Type} (M : Sem μ) (cfg : Cfg) : Prop where
  frame : ∀ i s s' r, M.exec i s = some s' → r ∉ writesOf cfg i → s'.regs r = s.regs r
  setSem : ∀ i r v s, setOf cfg i = some (r, v) →
    ∃ s', M.exec i s = some s' ∧ s'.mem = s.mem ∧ ∀ r', s'.regs r' = if r' = r then some v else s.regs r'
  loc : ∀ i s u s', s.mem = u.mem → (∀ r ∈ regsOf i, s.regs r = u.regs r) → M.exec i s = some s' →
    ∃ u', M.exec i u = some u' ∧ s'.mem = u'.mem ∧ ∀ r ∈ writesOf cfg i, s'.regs r = u'.regs r
  condLoc : ∀ i s u, s.mem = u.mem → (∀ r ∈ regsOf i, s.regs r = u.regs r) → M.cond i s = M.cond i u
  condLine : ∀ i v s, M.cond (setLine cfg i v) s = M.cond i s

/-- a non-branch instruction executes and falls through; a branch is taken — to a non-negative target
only, a negative one is stuck — or skipped -/
inductive Step {μ : Type} (M : Sem μ) (cfg : Cfg) (P : List Instr) : Nat × St μ → Nat × St μ → Prop
  | exec {pc i s s'} : P[pc]? = some i → lineOf cfg i = none → M.exec i s = some s' →
      Step M cfg P (pc, s) (pc + 1, s')
  | taken {pc i s} {t : Int} : P[pc]? = some i → lineOf cfg i = some t → M.cond i s = some true → 0 ≤ t →
      Step M cfg P (pc, s) (t.toNat, s)
  | skip {pc i s} {t : Int} : P[pc]? = some i → lineOf cfg i = some t → M.cond i s = some false →
      Step M cfg P (pc, s) (pc + 1, s)

inductive Steps {μ : Type} (M : Sem μ) (cfg : Cfg) (P : List Instr) : Nat × St μ → Nat × St μ → Prop
  | refl (a) : Steps M cfg P a a
  | step {a b c} : Step M cfg P a b → Steps M cfg P b c → Steps M cfg P a c

theorem Steps.trans {μ : Type} {M : Sem μ} {cfg P} {a b c : Nat × St μ}
    (h1 : Steps M cfg P a b) (h2 : Steps M cfg P b c) : Steps M cfg P a c := by
  induction h1 with
  | refl => exact h2
  | step hs _ ih => exact Steps.step hs (ih h2)

def RunStraight {μ : Type} (M : Sem μ) : List Instr → St μ → St μ → Prop
  | [], u, u' => u' = u
  | i :: rest, u, u' => ∃ u1, M.exec i u = some u1 ∧ RunStraight M rest u1 u'

theorem steps_of_straight {μ : Type} {M : Sem μ} {cfg : Cfg} :
    ∀ (mid pre post : List Instr) (u u' : St μ), (∀ x ∈ mid, lineOf cfg x = none) →
    RunStraight M mid u u' →
    Steps M cfg (pre ++ mid ++ post) (pre.length, u) (pre.length + mid.length, u') := by
  intro mid
  induction mid with
  | nil => intro pre post u u' _ h; simp [RunStraight] at h; subst h; exact Steps.refl _
  | cons x xs ih =>
    intro pre post u u' hl h
    obtain ⟨u1, h1, h2⟩ := h
    have hx : (pre ++ (x :: xs) ++ post)[pre.length]? = some x := by
      simp
    have hstep := Step.exec (cfg := cfg) (P := pre ++ (x :: xs) ++ post) hx (hl x List.mem_cons_self) h1
    have ih' := ih (pre ++ [x]) post u1 u' (fun y hy => hl y (List.mem_cons_of_mem _ hy)) h2
    have e1 : pre ++ [x] ++ xs ++ post = pre ++ (x :: xs) ++ post := by simp
    have e2 : (pre ++ [x]).length = pre.length + 1 := by simp
    rw [e1, e2] at ih'
    have e3 : pre.length + 1 + xs.length = pre.length + (x :: xs).length := by simp; omega
    rw [e3] at ih'
    exact Steps.step hstep ih'

/-- **The C07 hypothesis**: every expansion the pass can emit for a gate `g` acts on the memory
(which includes the quantum state, up to global phase) as `g` itself does, provided the pass's
knowledge `rv` of the operand registers is what they hold and `used` contains the gate's own operand
registers (as it does when the pass reaches the gate), and it changes no register at all — except, for a
two-qubit gate, the one `get_unused_register` would hand out. -/
def ExpandSound {μ : Type} (M : Sem μ) (cfg : Cfg) : Prop :=
  ∀ (g : Instr) (info : ClsInfo) (rv : List (Reg × Int)) (used : List Reg) (ex : List Instr)
    (s u s' : St μ),
    infoOf cfg g.cls = some info → infoGate info = true →
    expandInstr cfg info rv used g = .ok ex →
    (∀ r ∈ topRegs g, r ∈ used) →
    (∀ r ∈ topRegs g, ∀ v, rv.lookup r = some v → s.regs r = some v) →
    (info.gate2 = true → (∀ r ∈ topRegs g, (rv.lookup r).isSome = true) ∨
      (info.tag = "mov" ∧ ∃ r0 rest, g.ops = .reg r0 :: rest ∧ s.regs r0 = some 0)) →
    s.mem = u.mem → (∀ r ∈ topRegs g, s.regs r = u.regs r) →
    M.exec g s = some s' →
    ∃ u', RunStraight M (serialise ex) u u' ∧ s'.mem = u'.mem ∧
      ∀ r, (info.gate2 = true → ∀ s0, getUnused used = .ok s0 → r ≠ s0) → u'.regs r = u.regs r

/-- `K cfg S pc r = some v`: every execution of `S` that is at `pc` came straight from a `set r v`
(no write to `r`, no branch target in between) -/
def K (cfg : Cfg) (S : List Instr) (pc : Nat) (r : Reg) : Option Int :=
  win cfg (targets cfg S) r (S.take pc).reverse

theorem K_zero (cfg : Cfg) (S : List Instr) (r : Reg) : K cfg S 0 r = none := by
  simp [K, win]

theorem take_succ_of_get {α} {S : List α} {pc : Nat} {x : α} (hx : S[pc]? = some x) :
    S.take (pc + 1) = S.take pc ++ [x] := by
  rw [List.take_add_one, hx]; rfl

theorem win_cons_some {cfg : Cfg} {tg : List Int} {r : Reg} {x : Instr} {pre : List Instr} {v : Int}
    (h : win cfg tg r (x :: pre) = some v) :
    tg.contains ((pre.length + 1 : Nat) : Int) = false ∧
    (setOf cfg x = some (r, v) ∨
      (win cfg tg r pre = some v ∧ (∀ v', setOf cfg x ≠ some (r, v')) ∧
        (setOf cfg x = none → r ∉ writesOf cfg x))) := by
  unfold win at h
  split at h
  · cases h
  rename_i hnt
  refine ⟨Bool.eq_false_iff.2 hnt, ?_⟩
  split at h
  · rename_i r' v' hs
    by_cases he : r' = r
    · rw [if_pos he] at h
      cases h
      exact .inl (he ▸ hs)
    · rw [if_neg he] at h
      refine .inr ⟨h, fun v'' h' => ?_, fun h' => ?_⟩ <;> rw [hs] at h' <;> cases h'
      exact he rfl
  · rename_i hs
    split at h
    · cases h
    · rename_i hnw
      exact .inr ⟨h, fun v' h' => (by rw [hs] at h'; cases h'), fun _ hm => hnw (List.contains_iff_mem.2 hm)⟩

theorem K_succ {cfg : Cfg} {S : List Instr} {pc : Nat} {x : Instr} (hx : S[pc]? = some x) (r : Reg) :
    K cfg S (pc + 1) r = win cfg (targets cfg S) r (x :: (S.take pc).reverse) := by
  unfold K
  rw [take_succ_of_get hx, List.reverse_append]
  rfl

theorem K_succ_some {cfg : Cfg} {S : List Instr} {pc : Nat} {x : Instr} (hx : S[pc]? = some x) {r : Reg}
    {v : Int} (hk : K cfg S (pc + 1) r = some v) :
    setOf cfg x = some (r, v) ∨
      (K cfg S pc r = some v ∧ (∀ v', setOf cfg x ≠ some (r, v')) ∧ (setOf cfg x = none → r ∉ writesOf cfg x)) := by
  rw [K_succ hx] at hk
  exact (win_cons_some hk).2

theorem K_target {cfg : Cfg} {S : List Instr} {t : Int} (ht : t ∈ targets cfg S) (h0 : 0 ≤ t)
    (hle : t.toNat ≤ S.length) (r : Reg) : K cfg S t.toNat r = none := by
  cases hk : t.toNat with
  | zero => exact K_zero cfg S r
  | succ k =>
    have hx : S[k]? = some S[k] := List.getElem?_eq_getElem (by omega)
    cases hv : K cfg S (k + 1) r with
    | none => rfl
    | some v =>
      rw [K_succ hx] at hv
      have hnt := (win_cons_some hv).1
      have hl : (S.take k).reverse.length = k := by simp; omega
      rw [hl, show ((k + 1 : Nat) : Int) = t by omega, List.contains_iff_mem.2 ht] at hnt
      cases hnt

theorem qstaticFrom_at {cfg : Cfg} {tg : List Int} {sc : List Reg} : ∀ (post pre : List Instr),
    qstaticFrom cfg tg sc pre post = true → ∀ k x, post[k]? = some x →
    qstaticAt cfg tg sc ((post.take k).reverse ++ pre) x = true := by
  intro post
  induction post with
  | nil => intro pre _ k x hx; simp at hx
  | cons y ys ih =>
    intro pre h k x hx
    unfold qstaticFrom at h
    simp only [Bool.and_eq_true] at h
    cases k with
    | zero => simp at hx; subst hx; simpa using h.1
    | succ k =>
      simp only [List.getElem?_cons_succ] at hx
      have := ih (y :: pre) h.2 k x hx
      simpa [List.take_succ_cons, List.reverse_cons, List.append_assoc] using this

/-- what the check `qstaticAt` grants for an instruction that is no `set`, against any prefix -/
theorem qstaticAt_spec {cfg : Cfg} {tg : List Int} {sc : List Reg} {pre : List Instr} {x : Instr}
    (hq : qstaticAt cfg tg sc pre x = true) (hs : setOf cfg x = none) :
    (∀ r ∈ regsOf x, r.bank = bankQ →
      (∃ v, win cfg tg r pre = some v) ∨ (isGate cfg x = false ∧ r ∉ sc)) ∧
    (isGate2 cfg x = true → (∀ r ∈ topRegs x, r.bank = bankQ) ∨
      (isMovTag cfg x = true ∧ ∃ r0 rest, x.ops = .reg r0 :: rest ∧ win cfg tg r0 pre = some 0)) := by
  unfold qstaticAt at hq
  simp only [hs, Option.isSome_none, Bool.false_or, Bool.and_eq_true, List.all_eq_true] at hq
  refine ⟨fun r hr hb => ?_, fun hg2 => ?_⟩
  · have := hq.1 r hr
    simp only [hb, bne_self_eq_false, Bool.false_or, Bool.or_eq_true, Bool.and_eq_true,
      Bool.not_eq_eq_eq_not, Bool.not_true] at this
    rcases this with hw | ⟨hng, hsc⟩
    · exact .inl (Option.isSome_iff_exists.1 hw)
    · exact .inr ⟨hng, fun hm => by rw [List.contains_iff_mem.2 hm] at hsc; cases hsc⟩
  · have := hq.2
    simp only [hg2, Bool.not_true, Bool.false_or, Bool.or_eq_true] at this
    rcases this with hallQ | hmv
    · exact .inl fun r hr => by simpa using List.all_eq_true.1 hallQ r hr
    · obtain ⟨ht, hw⟩ := Bool.and_eq_true_iff.1 hmv
      split at hw
      · rename_i r0 rest hops
        exact .inr ⟨ht, r0, rest, hops, by simpa using hw⟩
      · cases hw

theorem qstatic_at {cfg : Cfg} {S : List Instr} (h : QStatic cfg S = true) {p : Nat} {x : Instr}
    (hx : S[p]? = some x) (hs : setOf cfg x = none) :
    (∀ r ∈ regsOf x, r.bank = bankQ →
      (∃ v, K cfg S p r = some v) ∨ (isGate cfg x = false ∧ r ∉ scratchRegs cfg S)) ∧
    (isGate2 cfg x = true → (∀ r ∈ topRegs x, r.bank = bankQ) ∨
      (isMovTag cfg x = true ∧ ∃ r0 rest, x.ops = .reg r0 :: rest ∧ K cfg S p r0 = some 0)) := by
  have hq := qstaticFrom_at S [] h p x hx
  rw [List.append_nil] at hq
  exact qstaticAt_spec hq hs

theorem rvAfter_lookup_bank {cfg : Cfg} {l : List Instr} {r : Reg} {v : Int}
    (h : (rvAfter cfg [] l).lookup r = some v) : r.bank = bankQ := by
  obtain ⟨l₁, l₂, hl, _⟩ := List.lookup_eq_some_iff.1 h
  have hm : (r, v) ∈ rvAfter cfg [] l := by rw [hl]; simp
  rw [rvAfter_eq, List.append_nil, List.mem_reverse, List.mem_filterMap] at hm
  obtain ⟨x, _, hx⟩ := hm
  exact eq_of_beq (Option.filter_eq_some_iff.1 hx).2

/-- inside a window, the pass's flow-insensitive knowledge is the window's value -/
theorem win_lookup {cfg : Cfg} {tg : List Int} {r : Reg} (hr : r.bank = bankQ) : ∀ (pre : List Instr) (v : Int),
    win cfg tg r pre = some v → (rvAfter cfg [] pre.reverse).lookup r = some v
  | x :: pre, v, h => by
    rw [List.reverse_cons, rvAfter_snoc]
    rcases (win_cons_some h).2 with hs | ⟨h', hne, _⟩
    · simp [qsetOf, hs, Option.filter, hr]
    · cases hq : qsetOf cfg x with
      | none => exact win_lookup hr pre v h'
      | some q =>
        have : (r == q.1) = false :=
          beq_eq_false_iff_ne.2 fun e => hne q.2 (e ▸ (Option.filter_eq_some_iff.1 hq).1)
        rw [Option.toList_some, List.singleton_append, List.lookup_cons, this]
        exact win_lookup hr pre v h'

end NQ.Tr
