/-
Lemmas about the EPR bookkeeping model (`Model/Epr.lean`): `TrySpec`, the one case analysis of `tryHandle`;
`StepShape`, the one case analysis of `step` (what it does to the book, i.e. the fields `Ctl.Book.ofEpr` keeps, and
to the unit modules); `Micro`, the loop of `handlePending` as single consumptions.
-/
import NetqasmVerif.Model.Controller
import NetqasmVerif.Lemmas.Exec
namespace NQ.Epr

/-- the two models index Python lists the same way -/
theorem pyIdx_eq (n : Nat) (v : Int) : pyIdx n v = Exec.pyIdx n v := by
  unfold pyIdx Exec.pyIdx
  split
  · rfl
  · split
    · congr 2; omega
    · rfl

theorem getQ_setQ_same (qs : List (Key × List Req)) (κ : Key) (q : List Req) :
    getQ (setQ qs κ q) κ = q := by
  induction qs with
  | nil => simp [setQ, getQ]
  | cons p rest ih =>
    obtain ⟨κ', q'⟩ := p
    by_cases h : κ' = κ
    · simp [setQ, getQ, h]
    · simp [setQ, getQ, h, ih]

theorem getQ_setQ_ne (qs : List (Key × List Req)) (κ κ₂ : Key) (q : List Req) (h : κ₂ ≠ κ) :
    getQ (setQ qs κ q) κ₂ = getQ qs κ₂ := by
  induction qs with
  | nil => simp [setQ, getQ, Ne.symm h]
  | cons p rest ih =>
    obtain ⟨κ', q'⟩ := p
    by_cases h' : κ' = κ
    · subst h'
      simp [setQ, getQ, Ne.symm h]
    · by_cases h'' : κ' = κ₂
      · subst h''
        simp [setQ, getQ, h']
      · simp [setQ, getQ, h', h'', ih]

theorem getApp_setApp_same (apps : List (Nat × AppMem)) (a : Nat) (m : AppMem) :
    getApp (setApp apps a m) a = some m := by
  induction apps with
  | nil => simp [setApp, getApp]
  | cons p rest ih =>
    obtain ⟨a', m'⟩ := p
    by_cases h : a' = a
    · simp [setApp, getApp, h]
    · simp [setApp, getApp, h, ih]

theorem getApp_setApp_ne (apps : List (Nat × AppMem)) (a b : Nat) (m : AppMem) (h : b ≠ a) :
    getApp (setApp apps a m) b = getApp apps b := by
  induction apps with
  | nil => simp [setApp, getApp, Ne.symm h]
  | cons p rest ih =>
    obtain ⟨a', m'⟩ := p
    by_cases h' : a' = a
    · subst h'
      simp [setApp, getApp, Ne.symm h]
    · by_cases h'' : a' = b
      · subst h''
        simp [setApp, getApp, h']
      · simp [setApp, getApp, h', h'', ih]

theorem getApp_delApp_same (apps : List (Nat × AppMem)) (a : Nat) : getApp (delApp apps a) a = none := by
  induction apps with
  | nil => simp [delApp, getApp]
  | cons p rest ih =>
    obtain ⟨a', m'⟩ := p
    by_cases h : a' = a
    · simp [delApp, h, ih]
    · simp [delApp, h, getApp, ih]

theorem getApp_delApp_ne (apps : List (Nat × AppMem)) (a b : Nat) (h : b ≠ a) :
    getApp (delApp apps a) b = getApp apps b := by
  induction apps with
  | nil => simp [delApp, getApp]
  | cons p rest ih =>
    obtain ⟨a', m'⟩ := p
    by_cases h' : a' = a
    · subst h'
      simp [delApp, getApp, ih, Ne.symm h]
    · by_cases h'' : a' = b
      · subst h''
        simp [delApp, h, getApp]
      · simp [delApp, h', getApp, h'', ih]

theorem getArr_setArr_same (arrs : List (Int × Arr)) (a : Int) (v : Arr) :
    getArr (setArr arrs a v) a = some v := by
  induction arrs with
  | nil => simp [setArr, getArr]
  | cons p rest ih =>
    obtain ⟨a', v'⟩ := p
    by_cases h : a' = a
    · simp [setArr, getArr, h]
    · simp [setArr, getArr, h, ih]

theorem getArr_setArr_ne (arrs : List (Int × Arr)) (a b : Int) (v : Arr) (h : b ≠ a) :
    getArr (setArr arrs a v) b = getArr arrs b := by
  induction arrs with
  | nil => simp [setArr, getArr, Ne.symm h]
  | cons p rest ih =>
    obtain ⟨a', v'⟩ := p
    by_cases h' : a' = a
    · subst h'
      simp [setArr, getArr, Ne.symm h]
    · by_cases h'' : a' = b
      · subst h''
        simp [setArr, getArr, h']
      · simp [setArr, getArr, h', h'', ih]

/-- everything `tryHandle … = .yes s'` tells: the head request of the response's queue consumed it. -/
structure Consumed (okf : Nat) (s : State) (r : Resp) (s' : State) : Prop where
  ex : ∃ (h : Req) (rest : List Req) (app : Nat) (m m1 : AppMem) (used1 : List Int)
      (vq : Option Nat) (prev : Option Int) (arr arr' : Arr),
    getQ s.queues (keyOf s.nodeId r) = h :: rest ∧
    0 ≤ h.tot - h.left ∧
    getSub s.subs h.sub = some app ∧
    getApp s.apps app = some m ∧
    (r.ty = .M → m1 = m ∧ used1 = s.used ∧ vq = none ∧ prev = none) ∧
    (r.ty = .K → ∃ qa qarr v i, h.qAddr = some qa ∧ getArr m.arrays qa = some qarr ∧
        qarr[(h.tot - h.left).toNat]? = some (some v) ∧ hasVirtual m v = false ∧ allocPos m v = some i ∧
        m1 = { m with unit := m.unit.set i (some r.phys) } ∧ used1 = addUsed s.used r.phys ∧
        vq = some i ∧ prev = m.unit.getD i none) ∧
    r.ty ≠ .other ∧
    getArr m1.arrays h.resAddr = some arr ∧
    storeSlice okf arr (h.tot - h.left).toNat r.fields = some arr' ∧
    s' = { s with
      apps := setApp s.apps app { m1 with arrays := setArr m1.arrays h.resAddr arr' },
      used := used1,
      queues := setQ s.queues (keyOf s.nodeId r)
        (if h.left - 1 = 0 then rest else { h with left := h.left - 1 } :: rest),
      log := s.log ++ [⟨r, keyOf s.nodeId r, h.id, (h.tot - h.left).toNat, app, h.resAddr, vq, prev⟩] }

/-- the conjuncts of `Consumed.ex` by name, for given witnesses: `h :: rest` the queue of the response's key,
`app`/`m` the application of the issuing subroutine and its memory, `m1`/`used1`/`vq`/`prev` what the handler of
the response type made of them, `arr`/`arr'` the result array before and after the slice was stored -/
structure ConsumedBy (okf : Nat) (s : State) (r : Resp) (s' : State) (h : Req) (rest : List Req) (app : Nat)
    (m m1 : AppMem) (used1 : List Int) (vq : Option Nat) (prev : Option Int) (arr arr' : Arr) : Prop where
  queue : getQ s.queues (keyOf s.nodeId r) = h :: rest
  idx : 0 ≤ h.tot - h.left
  sub : getSub s.subs h.sub = some app
  mem : getApp s.apps app = some m
  meas : r.ty = .M → m1 = m ∧ used1 = s.used ∧ vq = none ∧ prev = none
  keep : r.ty = .K → ∃ qa qarr v i, h.qAddr = some qa ∧ getArr m.arrays qa = some qarr ∧
    qarr[(h.tot - h.left).toNat]? = some (some v) ∧ hasVirtual m v = false ∧ allocPos m v = some i ∧
    m1 = { m with unit := m.unit.set i (some r.phys) } ∧ used1 = addUsed s.used r.phys ∧
    vq = some i ∧ prev = m.unit.getD i none
  ty : r.ty ≠ .other
  res : getArr m1.arrays h.resAddr = some arr
  store : storeSlice okf arr (h.tot - h.left).toNat r.fields = some arr'
  eq : s' = { s with
    apps := setApp s.apps app { m1 with arrays := setArr m1.arrays h.resAddr arr' },
    used := used1,
    queues := setQ s.queues (keyOf s.nodeId r)
      (if h.left - 1 = 0 then rest else { h with left := h.left - 1 } :: rest),
    log := s.log ++ [⟨r, keyOf s.nodeId r, h.id, (h.tot - h.left).toNat, app, h.resAddr, vq, prev⟩] }

theorem Consumed.parts {okf : Nat} {s s' : State} {r : Resp} (hc : Consumed okf s r s') :
    ∃ h rest app m m1 used1 vq prev arr arr', ConsumedBy okf s r s' h rest app m m1 used1 vq prev arr arr' := by
  obtain ⟨h, rest, app, m, m1, used1, vq, prev, arr, arr', h1, h2, h3, h4, h5, h6, h7, h8, h9, h10⟩ := hc.ex
  exact ⟨h, rest, app, m, m1, used1, vq, prev, arr, arr', h1, h2, h3, h4, h5, h6, h7, h8, h9, h10⟩

def TrySpec (okf : Nat) (s : State) (r : Resp) : Try → Prop
  | .yes s' => Consumed okf s r s'
  | .no => getQ s.queues (keyOf s.nodeId r) = [] ∨
      (r.ty = .K ∧ ∃ hd rest app m qa qarr v, getQ s.queues (keyOf s.nodeId r) = hd :: rest ∧
        getSub s.subs hd.sub = some app ∧ getApp s.apps app = some m ∧ hd.qAddr = some qa ∧
        getArr m.arrays qa = some qarr ∧ qarr[(hd.tot - hd.left).toNat]? = some (some v) ∧
        hasVirtual m v = true)
  | .err => True

theorem tryHandle_spec (okf : Nat) (s : State) (r : Resp) : TrySpec okf s r (tryHandle okf s r) := by
  unfold tryHandle
  simp only
  split
  · exact .inl ‹_›
  · rename_i hd rest hq
    split
    · trivial
    · rename_i hk
      split
      · trivial
      · rename_i app hsub
        split
        · trivial
        · rename_i m happ
          cases hty : r.ty with
          | other => trivial
          | M =>
            simp only
            split
            · trivial
            · rename_i arr harr
              split
              · trivial
              · rename_i arr' hst
                exact ⟨⟨hd, rest, app, m, m, s.used, none, none, arr, arr', hq, Int.not_lt.mp hk, hsub, happ,
                  fun _ => ⟨rfl, rfl, rfl, rfl⟩, fun h => (by rw [hty] at h; cases h), (by rw [hty]; decide),
                  harr, hst, rfl⟩⟩
          | K =>
            simp only
            cases hqa : hd.qAddr with
            | none => trivial
            | some qa =>
              simp only
              cases hqarr : getArr m.arrays qa with
              | none => trivial
              | some qarr =>
                simp only
                rcases hv : qarr[(hd.tot - hd.left).toNat]? with _ | _ | v
                · trivial
                · trivial
                · simp only
                  cases hhv : hasVirtual m v with
                  | true => exact .inr ⟨hty, hd, rest, app, m, qa, qarr, v, hq, hsub, happ, hqa, hqarr, hv, hhv⟩
                  | false =>
                    simp only [Bool.false_eq_true, if_false]
                    cases hi : allocPos m v with
                    | none => trivial
                    | some i =>
                      simp only
                      split
                      · trivial
                      · rename_i arr harr
                        split
                        · trivial
                        · rename_i arr' hst
                          exact ⟨⟨hd, rest, app, m, _, _, _, _, arr, arr', hq, Int.not_lt.mp hk, hsub, happ,
                            fun h => (by rw [hty] at h; cases h),
                            fun _ => ⟨qa, qarr, v, i, hqa, hqarr, hv, hhv, hi, rfl, rfl, rfl, rfl⟩,
                            (by rw [hty]; decide), harr, hst, by rw [hqa]⟩⟩

theorem tryHandle_yes {okf : Nat} {s s' : State} {r : Resp} (h : tryHandle okf s r = .yes s') :
    Consumed okf s r s' := by
  have := tryHandle_spec okf s r
  rwa [h] at this

theorem tryHandle_no {okf : Nat} {s : State} {r : Resp} (h : tryHandle okf s r = .no) : TrySpec okf s r .no := by
  have := tryHandle_spec okf s r
  rwa [h] at this

theorem scan_did {okf : Nat} {s s'' : State} : ∀ (l pre : List Resp), scan okf s pre l = .did s'' →
    ∃ pre' r rest s', l = pre' ++ r :: rest ∧ tryHandle okf s r = .yes s' ∧
      (∀ x ∈ pre', tryHandle okf s x = .no) ∧
      s'' = { s' with pending := pre ++ pre' ++ rest } := by
  intro l
  induction l with
  | nil => intro pre h; simp [scan] at h
  | cons r rest ih =>
    intro pre h
    unfold scan at h
    split at h
    · cases h
    · rename_i hno
      obtain ⟨pre', r', rest', s', hl, hy, hn, hs⟩ := ih (pre ++ [r]) h
      refine ⟨r :: pre', r', rest', s', by simp [hl], hy, ?_, by simpa using hs⟩
      intro x hx
      cases hx with
      | head => exact hno
      | tail _ hx => exact hn x hx
    · rename_i s' hy
      injection h with h
      exact ⟨[], r, rest, s', rfl, hy, by simp, by simpa using h.symm⟩

theorem scan_idle {okf : Nat} {s : State} : ∀ (l pre : List Resp), scan okf s pre l = .idle →
    ∀ x ∈ l, tryHandle okf s x = .no := by
  intro l
  induction l with
  | nil => intro pre _ x hx; cases hx
  | cons r rest ih =>
    intro pre h x hx
    unfold scan at h
    split at h
    · cases h
    · rename_i hno
      cases hx with
      | head => exact hno
      | tail _ hx => exact ih _ h x hx
    · cases h

/-- one consumption as a relation on states -/
def Micro (okf : Nat) (s s'' : State) : Prop :=
  ∃ pre r rest s', s.pending = pre ++ r :: rest ∧ Consumed okf s r s' ∧
    (∀ x ∈ pre, tryHandle okf s x = .no) ∧ s'' = { s' with pending := pre ++ rest }

theorem handleOne_did {okf : Nat} {s s'' : State} (h : handleOne okf s = .did s'') : Micro okf s s'' := by
  obtain ⟨pre', r, rest, s', hl, hy, hn, hs⟩ := scan_did _ _ h
  exact ⟨pre', r, rest, s', hl, tryHandle_yes hy, hn, by simpa using hs⟩

theorem Micro.pending_length {okf : Nat} {s s'' : State} (h : Micro okf s s'') :
    s''.pending.length + 1 = s.pending.length := by
  obtain ⟨pre, r, rest, s', hp, _, _, hs⟩ := h
  subst hs
  simp [hp]
  omega

inductive Micros (okf : Nat) : State → State → Prop
  | refl (s) : Micros okf s s
  | cons {s s' s''} : Micro okf s s' → Micros okf s' s'' → Micros okf s s''

theorem handlePendingFuel_micros {okf : Nat} : ∀ (n : Nat) (s s' : State),
    handlePendingFuel okf n s = some s' → Micros okf s s' := by
  intro n
  induction n with
  | zero => intro s s' h; simp [handlePendingFuel] at h; subst h; exact .refl _
  | succ n ih =>
    intro s s' h
    unfold handlePendingFuel at h
    split at h
    · cases h
    · injection h with h; subst h; exact .refl _
    · rename_i s1 h1
      exact .cons (handleOne_did h1) (ih _ _ h)

/-- with enough fuel the loop ends because nothing is handleable any more -/
theorem handlePendingFuel_idle {okf : Nat} : ∀ (n : Nat) (s s' : State), s.pending.length < n →
    handlePendingFuel okf n s = some s' → handleOne okf s' = .idle := by
  intro n
  induction n with
  | zero => intro s s' hl; omega
  | succ n ih =>
    intro s s' hl h
    unfold handlePendingFuel at h
    split at h
    · cases h
    · rename_i hidle
      injection h with h; subst h; exact hidle
    · rename_i s1 h1
      have := (handleOne_did h1).pending_length
      exact ih _ _ (by omega) h

/-- the unit-module entry of an application (`none` = free / no such position) -/
def mapped (s : State) (app i : Nat) : Option Int :=
  match getApp s.apps app with
  | none => none
  | some m => m.unit.getD i none

theorem allocPos_some {m : AppMem} {v : Int} {i : Nat} (h : allocPos m v = some i) :
    ¬ v ≥ m.unit.length ∧ pyIdx m.unit.length v = some i ∧ m.unit.getD i none = none := by
  unfold allocPos at h
  split at h
  · cases h
  · split at h
    · cases h
    · split at h
      · cases h
      · rename_i hfree
        cases h; exact ⟨‹_›, ‹_›, by simpa using hfree⟩

theorem allocPos_free {m : AppMem} {v : Int} {i : Nat} (h : allocPos m v = some i) :
    m.unit.getD i none = none ∧ i < m.unit.length :=
  ⟨(allocPos_some h).2.2, Exec.pyIdx_lt (pyIdx_eq _ _ ▸ (allocPos_some h).2.1)⟩

theorem mapped_setApp {s s' : State} {a : Nat} {m' : AppMem} (hs : s'.apps = setApp s.apps a m') (app i : Nat) :
    mapped s' app i = if app = a then m'.unit.getD i none else mapped s app i := by
  unfold mapped
  rw [hs]
  by_cases ha : app = a
  · subst ha; simp [getApp_setApp_same]
  · simp [getApp_setApp_ne _ _ _ _ ha, ha]

def Keeps (s s' : State) : Prop := ∀ app i p, mapped s app i = some p → mapped s' app i = some p

/-- an allocated entry is never replaced by another qubit: it stays, or it is freed -/
def NoOverwrite (s s' : State) : Prop :=
  ∀ app i p, mapped s app i = some p → mapped s' app i = some p ∨ mapped s' app i = none

theorem Keeps.noOverwrite {s s' : State} (h : Keeps s s') : NoOverwrite s s' :=
  fun app i p hp => Or.inl (h app i p hp)

theorem keeps_of_apps_eq {s s' : State} (h : s'.apps = s.apps) : Keeps s s' := by
  intro app i p hp; unfold mapped at *; rw [h]; exact hp

theorem getD_set_ne {l : List (Option Int)} {i j : Nat} {v : Option Int} (h : j ≠ i) :
    (l.set i v).getD j none = l.getD j none := by
  simp [List.getD_eq_getElem?_getD, Ne.symm h]

theorem getD_set_self {l : List (Option Int)} {i : Nat} {v : Option Int} (h : i < l.length) :
    (l.set i v).getD i none = v := by
  simp [List.getD_eq_getElem?_getD, h]

theorem noOverwrite_setApp {s s' : State} {app : Nat} {m m' : AppMem} (happ : getApp s.apps app = some m)
    (hs : s'.apps = setApp s.apps app m')
    (hu : ∀ i p, m.unit.getD i none = some p → m'.unit.getD i none = some p ∨ m'.unit.getD i none = none) :
    NoOverwrite s s' := by
  intro a i p hp
  rw [mapped_setApp hs a i]
  by_cases ha : a = app
  · subst ha
    unfold mapped at hp
    rw [happ] at hp
    simpa using hu i p hp
  · simp [ha, hp]

theorem withApp_some {s : State} {sub : Nat} {f : Nat → AppMem → Option State} {s' : State}
    (h : withApp s sub f = some s') : ∃ app m, getSub s.subs sub = some app ∧ getApp s.apps app = some m ∧
      f app m = some s' := by
  unfold withApp at h
  split at h
  · cases h
  · rename_i app hs
    split at h
    · cases h
    · rename_i m hm
      exact ⟨app, m, hs, hm, h⟩

/-- What one action does to the bookkeeping. `mem`: the book (`Ctl.Book.ofEpr`) is as it was, and no unit-module
entry is overwritten; `enq`: a request is queued; `deliver` / `poll`: a response is made pending (`deliver`), then any
number of consumptions. -/
inductive StepShape (okf : Nat) (s s' : State) : Prop
  | mem (h : Ctl.Book.ofEpr s' = Ctl.Book.ofEpr s) (hno : NoOverwrite s s')
  | enq (κ : Key) (sub : Nat) (res : Int) (q : Option Int) (n : Int) (h : s' = enqueue s κ sub res q n)
  | deliver (r : Resp) (hid : r.id = s.nextResp)
      (h : Micros okf { s with pending := s.pending ++ [r], nextResp := s.nextResp + 1,
                               delivered := s.delivered ++ [r] } s')
  | poll (h : Micros okf s s')

theorem step_shape {okf : Nat} {s s' : State} {a : Action} (h : step okf s a = some s') :
    StepShape okf s s' := by
  have same : ∀ {subs used}, StepShape okf s { s with subs := subs, used := used } :=
    .mem rfl (keeps_of_apps_eq rfl).noOverwrite
  cases a with
  | initApp app n =>
    cases h
    refine .mem rfl fun a i p hp => ?_
    rw [mapped_setApp rfl a i]
    by_cases ha : a = app
    · right; simp [ha, List.getD_eq_getElem?_getD, List.getElem?_replicate]
      split <;> rfl
    · left; simp [ha, hp]
  | startSub sub app => cases h; exact same
  | endSub sub => cases h; exact same
  | nop => cases h; exact same
  | array sub addr len =>
    simp only [step] at h
    obtain ⟨app, m, _, happ, hf⟩ := withApp_some h
    injection hf with hf; subst hf
    exact .mem rfl (noOverwrite_setApp happ rfl fun _ _ h => .inl h)
  | store sub addr idx val =>
    simp only [step] at h
    obtain ⟨app, m, _, happ, hf⟩ := withApp_some h
    split at hf
    · cases hf
    · split at hf
      · injection hf with hf; subst hf
        exact .mem rfl (noOverwrite_setApp happ rfl fun _ _ h => .inl h)
      · cases hf
  | qalloc sub v =>
    simp only [step] at h
    obtain ⟨app, m, _, happ, hf⟩ := withApp_some h
    split at hf
    · cases hf
    · rename_i j hj
      split at hf
      · cases hf
      · injection hf with hf; subst hf
        refine .mem rfl (noOverwrite_setApp happ rfl fun i p hp => .inl ?_)
        -- the position `allocPos` found is free
        have : i ≠ j := by intro hij; subst hij; rw [(allocPos_free hj).1] at hp; cases hp
        rw [getD_set_ne this]; exact hp
  | qfree sub v =>
    simp only [step] at h
    obtain ⟨app, m, _, happ, hf⟩ := withApp_some h
    split at hf
    · cases hf
    · rename_i j hj
      split at hf
      · cases hf
      · split at hf
        · injection hf with hf; subst hf
          refine .mem rfl (noOverwrite_setApp happ rfl fun i p hp => ?_)
          by_cases hij : i = j
          · subst hij
            right
            simp [List.getD_eq_getElem?_getD, List.getElem?_set]
            split <;> rfl
          · left; rw [getD_set_ne hij]; exact hp
        · cases hf
  | create sub remote purpose isK number qAddr resAddr =>
    simp only [step] at h
    obtain ⟨app, m, _, _, hf⟩ := withApp_some h
    split at hf
    · simp only [Option.some.injEq] at hf; exact .enq _ _ _ _ _ hf.symm
    · cases hf
  | recv sub remote purpose qAddr resAddr =>
    simp only [step] at h
    obtain ⟨app, m, _, _, hf⟩ := withApp_some h
    split at hf
    · cases hf
    · injection hf with hf; exact .enq _ _ _ _ _ hf.symm
  | deliver ty remote purpose dir phys fields =>
    simp only [step, handlePending] at h
    exact .deliver ⟨s.nextResp, ty, remote, purpose, dir, phys, fields⟩ rfl (handlePendingFuel_micros _ _ _ h)
  | poll =>
    simp only [step, handlePending] at h
    exact .poll (handlePendingFuel_micros _ _ _ h)
  | wait sub kind addr lo hi =>
    simp only [step] at h
    split at h
    · cases h
    · injection h with h; subst h; exact same
  | rejected sub =>
    simp only [step] at h
    obtain ⟨app, m, _, _, hf⟩ := withApp_some h
    injection hf with hf; subst hf; exact same
  | stopApp app =>
    simp only [step] at h
    split at h
    · cases h
    · split at h
      · injection h with h; subst h
        refine .mem rfl fun a i p hp => ?_
        by_cases ha : a = app
        · subst ha; right; unfold mapped; simp only [getApp_delApp_same]
        · left; unfold mapped at hp ⊢; simp only [getApp_delApp_ne _ _ _ ha]; exact hp
      · cases h

inductive Reach (okf : Nat) (node : Int) : State → Prop
  | init : Reach okf node (Epr.init node)
  | step {s s' : State} {a : Action} : Reach okf node s → step okf s a = some s' → Reach okf node s'

end NQ.Epr
