/-
Lemmas for C09, SDK side (model `Model/QubitMgr.lean`; the controller side, `Takes m es A B` = what an
event list does to the set of allocated ids, is Lemmas/QubitRun.lean).

Every host operation replaces the handle list and appends events to the pending ones.
`Inv.extend` turns the `Takes` fact of the appended events, with the new handles' ids (`Fits`), into
the invariant of the new state; each operation is one call of it.

The vocabulary of the statements of Props/C09.lean comes first: the budget `limit`, the invariant
`Inv`, and the hypothesis on histories `good` (per operation: `opOk`).
-/
import NetqasmVerif.Lemmas.QubitRun
namespace NQ.QM

/-- the budget of the statement: `maxq` live qubits, one fewer on NV, where relocating the qubit
that sits on id 0 needs a free id to move it to -/
def limit (c : Cfg) : Nat := if c.nv then c.maxq - 1 else c.maxq

/-- Joint invariant of SDK bookkeeping and controller, *including* the not-yet-flushed
commands: the pending events run without fault from the controller's current unit module and
end in exactly the SDK's set of active ids. -/
structure Inv (c : Cfg) (st : St) : Prop where
  nodup : (activeIds st.hs).Nodup
  bound : ∀ v ∈ activeIds st.hs, v < c.maxq
  count : (activeIds st.hs).length ≤ limit c
  runs : ∃ u, run c.maxq st.unit st.evs = .ok u ∧ ∀ v, v ∈ u ↔ v ∈ activeIds st.hs
  peep : ∀ v, st.lastAlloc = some v → ∃ pre u0, st.evs = pre ++ [.alloc v, .use v] ∧
    run c.maxq st.unit pre = .ok u0 ∧ v ∉ u0

/-- handle `h` exists and is live (`false` for an index that is no handle) -/
def activeAt (st : St) (h : Nat) : Bool :=
  match st.hs[h]? with
  | some q => q.active
  | none => false

/-- the virtual id of handle `h` (0 for an index that is no handle; only used next to `activeAt`) -/
def idAt (st : St) (h : Nat) : Nat :=
  match st.hs[h]? with
  | some q => q.id
  | none => 0

/-- the F28 hypothesis: after freeing up id 0, the ids 1..n-1 the pairs will be moved to are
unused -/
def nvKeepOk (c : Cfg) (st : St) (n : Nat) : Bool :=
  (List.range n).all (fun k => k == 0 || !(activeIds (freeUp c st).hs).contains k)

/-- The operation is a host-program step inside the statement of C09 *and* outside the open
findings: budget (`limit`), gates on live handles; no carbon–carbon gate under the NV transpiler
while id 0 is free (F30); an NV keep of several pairs only while ids 1..n-1 are free (F28); a loop
construct that handles all pairs in one id keeps at most one pair alive; the retry forms end
with a successful attempt. -/
def opOk (c : Cfg) (st : St) : Op → Bool
  | .new => decide ((activeIds st.hs).length + 1 ≤ limit c)
  | .gate h => activeAt st h
  | .gate2 h1 h2 => activeAt st h1 && activeAt st h2 && (h1 != h2) &&
      (!c.transp || idAt st h1 == 0 || idAt st h2 == 0 || (activeIds st.hs).contains 0)
  | .meas h _ => decide (h < st.hs.length)
  | .free h => decide (h < st.hs.length)
  | .keep _ n => decide (1 ≤ n) && (decide (c.maxq < n) ||
      (decide ((activeIds st.hs).length + n ≤ limit c) && (!c.nv || nvKeepOk c st n)))
  | .seq _ n b => decide ((activeIds st.hs).length + 1 ≤ limit c) &&
      (b.consume.consumes || decide (n ≤ 1))
  | .postk _ n b => decide (c.maxq < n) ||
      (if c.single then decide ((activeIds st.hs).length + 1 ≤ limit c) &&
          (b.consume.consumes || decide (n ≤ 1))
       else decide ((activeIds st.hs).length + n ≤ limit c))
  | .ctx _ n sequential b => (!sequential && decide (c.maxq < n)) ||
      (if sequential || c.single then decide ((activeIds st.hs).length + 1 ≤ limit c) &&
          (b.consume.consumes || decide (n ≤ 1))
       else decide ((activeIds st.hs).length + n ≤ limit c))
  | .keepr _ n fails tries => decide (1 ≤ n) && decide (n ≤ c.maxq) && decide (fails < tries) &&
      decide ((activeIds st.hs).length + n ≤ limit c) && (!c.nv || nvKeepOk c st n)
  | .seqr _ _ b fails tries => decide (fails < tries) && b.consume.consumes &&
      decide ((activeIds st.hs).length + 1 ≤ limit c)
  | .flush => true
  | .close => true

def good (c : Cfg) : St → List Op → Bool
  | _, [] => true
  | st, op :: ops => opOk c st op && good c (apply c st op).1 ops

theorem firstFree_spec (ids : List Nat) (f a : Nat) (h : ∀ x ∈ ids, x < a + f) :
    firstFree ids f a ∉ ids ∧ a ≤ firstFree ids f a ∧
      ∀ w, a ≤ w → w < firstFree ids f a → w ∈ ids := by
  induction f generalizing a with
  | zero =>
    exact ⟨fun hm => Nat.lt_irrefl a (h a hm), Nat.le_refl a, fun w h1 h2 => absurd h1 (Nat.not_le_of_lt h2)⟩
  | succ f ih =>
    unfold firstFree
    split
    · next ha =>
      obtain ⟨i1, i2, i3⟩ := ih (a + 1) (fun x hx => Nat.lt_of_lt_of_eq (h x hx) (Nat.add_right_comm a f 1))
      exact ⟨i1, Nat.le_of_succ_le i2,
        fun w h1 h2 => (Nat.eq_or_lt_of_le h1).elim (fun e => e ▸ ha) (fun h1 => i3 w h1 h2)⟩
    · next ha => exact ⟨ha, Nat.le_refl a, fun w h1 h2 => absurd h1 (Nat.not_le_of_lt h2)⟩

theorem le_sum_of_mem (ids : List Nat) (x : Nat) (h : x ∈ ids) : x ≤ ids.sum := by
  induction ids with
  | nil => cases h
  | cons a t ih =>
    rw [List.sum_cons]
    rcases List.mem_cons.mp h with h | h
    · exact h ▸ Nat.le_add_right _ _
    · exact Nat.le_trans (ih h) (Nat.le_add_left _ _)

theorem lowestUnused_spec (ids : List Nat) :
    lowestUnused ids ∉ ids ∧ ∀ w, w < lowestUnused ids → w ∈ ids :=
  let h := firstFree_spec ids (ids.sum + 1) 0 fun x hx =>
    (Nat.zero_add _).symm ▸ Nat.lt_succ_of_le (le_sum_of_mem ids x hx)
  ⟨h.1, fun w hw => h.2.2 w (Nat.zero_le w) hw⟩

theorem lowestUnused_not_mem (ids : List Nat) : lowestUnused ids ∉ ids := (lowestUnused_spec ids).1

theorem lowestUnused_le (ids : List Nat) (v : Nat) (h : v ∉ ids) : lowestUnused ids ≤ v :=
  Nat.le_of_not_lt fun h1 => h ((lowestUnused_spec ids).2 v h1)

/-- pigeonhole: all of `0 … lowestUnused ids - 1` are in `ids` -/
theorem lowestUnused_le_length (ids : List Nat) : lowestUnused ids ≤ ids.length := by
  have := List.nodup_range.length_le_of_subset
    (fun w hw => (lowestUnused_spec ids).2 w (List.mem_range.mp hw))
  rwa [List.length_range] at this

theorem lowestUnused_nil : lowestUnused [] = 0 := rfl

theorem activeIds_append (a b : List Handle) : activeIds (a ++ b) = activeIds a ++ activeIds b := by
  simp [activeIds]

theorem activeIds_cons_active (q : Handle) (l : List Handle) (h : q.active = true) :
    activeIds (q :: l) = q.id :: activeIds l := by
  simp [activeIds, h]

theorem activeIds_cons_inactive (q : Handle) (l : List Handle) (h : q.active = false) :
    activeIds (q :: l) = activeIds l := by
  simp [activeIds, h]

theorem activeIds_new (ids : List Nat) : activeIds (ids.map fun k => (⟨k, true⟩ : Handle)) = ids := by
  induction ids with
  | nil => rfl
  | cons a t ih => rw [List.map_cons, activeIds_cons_active _ _ rfl, ih]

theorem activeIds_append_new (hs : List Handle) (ids : List Nat) :
    activeIds (hs ++ ids.map fun k => ⟨k, true⟩) = activeIds hs ++ ids := by
  rw [activeIds_append, activeIds_new]

theorem activeIds_snoc (hs : List Handle) (v : Nat) :
    activeIds (hs ++ [⟨v, true⟩]) = activeIds hs ++ [v] := activeIds_append_new hs [v]

theorem activeIds_all_inactive (hs : List Handle) :
    activeIds (hs.map (fun h => (⟨h.id, false⟩ : Handle))) = [] := by
  induction hs with
  | nil => rfl
  | cons a t ih => rw [List.map_cons, activeIds_cons_inactive _ _ rfl, ih]

theorem split_at (hs : List Handle) (h : Nat) (q : Handle) (hq : hs[h]? = some q) :
    ∃ l1 l2, hs = l1 ++ q :: l2 ∧ l1.length = h := by
  obtain ⟨hlt, rfl⟩ := List.getElem?_eq_some_iff.mp hq
  exact ⟨hs.take h, hs.drop (h + 1), by rw [← List.drop_eq_getElem_cons hlt, List.take_append_drop],
    List.length_take_of_le (Nat.le_of_lt hlt)⟩

theorem set_split (l1 l2 : List Handle) (q q' : Handle) :
    (l1 ++ q :: l2).set l1.length q' = l1 ++ q' :: l2 := by
  induction l1 with
  | nil => rfl
  | cons a t ih => simp [ih]

theorem getElem?_split (l1 l2 : List Handle) (q : Handle) : (l1 ++ q :: l2)[l1.length]? = some q := by
  simp

theorem deactivate_split (l1 l2 : List Handle) (q : Handle) :
    deactivate (l1 ++ q :: l2) l1.length = l1 ++ ⟨q.id, false⟩ :: l2 := by
  unfold deactivate
  rw [getElem?_split]
  exact set_split l1 l2 q _

theorem activeIds_at {hs : List Handle} {h : Nat} {q : Handle} (hq : hs[h]? = some q)
    (ha : q.active = true) : ∃ A1 A2, activeIds hs = A1 ++ q.id :: A2 ∧
      activeIds (deactivate hs h) = A1 ++ A2 := by
  obtain ⟨l1, l2, e, hl⟩ := split_at hs h q hq
  refine ⟨activeIds l1, activeIds l2, ?_, ?_⟩
  · rw [e, activeIds_append, activeIds_cons_active q l2 ha]
  · rw [e, ← hl, deactivate_split, activeIds_append, activeIds_cons_inactive _ _ rfl]

theorem mem_activeIds_of_get {hs : List Handle} {h : Nat} {q : Handle}
    (hq : hs[h]? = some q) (ha : q.active = true) : q.id ∈ activeIds hs := by
  obtain ⟨A1, A2, e, _⟩ := activeIds_at hq ha
  rw [e]; exact List.mem_append_right _ List.mem_cons_self

theorem mem_remove_mid {A1 A2 : List Nat} {v : Nat} (h : (A1 ++ v :: A2).Nodup) :
    v ∉ A1 ++ A2 ∧ ∀ w, w ∈ A1 ++ v :: A2 ∧ w ≠ v ↔ w ∈ A1 ++ A2 := by
  have hv : v ∉ A1 ++ A2 := (List.nodup_cons.mp (List.perm_middle.nodup h)).1
  refine ⟨hv, fun w => ?_⟩
  rw [List.perm_middle.mem_iff, List.mem_cons]
  exact ⟨fun ⟨h1, h2⟩ => h1.resolve_left h2, fun h1 => ⟨Or.inr h1, fun e => hv (e ▸ h1)⟩⟩

theorem limit_le (c : Cfg) : limit c ≤ c.maxq := by
  unfold limit
  split
  · exact Nat.sub_le _ _
  · exact Nat.le_refl _

theorem lowestUnused_lt {c : Cfg} {A : List Nat} (hb : A.length + 1 ≤ limit c) :
    lowestUnused A < c.maxq :=
  Nat.lt_of_le_of_lt (lowestUnused_le_length A) (Nat.lt_of_lt_of_le (Nat.lt_of_succ_le hb) (limit_le c))

/-- on NV one qubit is kept back, so whatever fits a non-empty budget leaves room in the unit module -/
theorem limit_lt {c : Cfg} (hnv : c.nv = true) {k : Nat} (h1 : 0 < k) (h2 : k ≤ limit c) :
    k < c.maxq := by
  rw [limit, if_pos hnv] at h2; omega

/-- generic hardware with one qubit in all: room for one more means no qubit is live -/
theorem nil_of_single {c : Cfg} {st : St} (hnv : c.nv = false) (hs : c.single = true)
    (hb : (activeIds st.hs).length + 1 ≤ limit c) : activeIds st.hs = [] ∧ limit c = 1 := by
  simp only [Cfg.single, hnv, Bool.false_or, beq_iff_eq] at hs
  have hl : limit c = 1 := by rw [limit, if_neg (by rw [hnv]; nofun), hs]
  rw [hl] at hb
  exact ⟨List.eq_nil_of_length_eq_zero (Nat.eq_zero_of_le_zero (Nat.le_of_succ_le_succ hb)), hl⟩

theorem inv_init (c : Cfg) : Inv c St.init :=
  ⟨List.nodup_nil, nofun, Nat.zero_le _, ⟨[], rfl, fun _ => Iff.rfl⟩, nofun⟩

def Fits (c : Cfg) (ids : List Nat) : Prop :=
  ids.Nodup ∧ (∀ v ∈ ids, v < c.maxq) ∧ ids.length ≤ limit c

theorem Inv.fits {c : Cfg} {st : St} (hi : Inv c st) : Fits c (activeIds st.hs) :=
  ⟨hi.nodup, hi.bound, hi.count⟩

theorem Fits.sublist {c : Cfg} {l l' : List Nat} (h : Fits c l) (hs : l'.Sublist l) : Fits c l' :=
  ⟨h.1.sublist hs, fun v hv => h.2.1 v (hs.subset hv), Nat.le_trans hs.length_le h.2.2⟩

theorem Fits.append {c : Cfg} {A ids : List Nat} (h : Fits c A) (hn : ids.Nodup)
    (hf : ∀ v ∈ ids, v ∉ A ∧ v < c.maxq) (hc : A.length + ids.length ≤ limit c) :
    Fits c (A ++ ids) :=
  ⟨List.nodup_append.mpr ⟨h.1, hn, fun a ha b hb e => (hf b hb).1 (e ▸ ha)⟩,
   fun v hv => (List.mem_append.mp hv).elim (h.2.1 v) (fun hv => (hf v hv).2),
   by rw [List.length_append]; exact hc⟩

theorem Fits.replace {c : Cfg} {A1 A2 : List Nat} {v w : Nat} (h : Fits c (A1 ++ v :: A2))
    (hw : w ∉ A1 ++ v :: A2) (hm : w < c.maxq) : Fits c (A1 ++ w :: A2) := by
  have hp : ∀ x, List.Perm (A1 ++ x :: A2) (x :: (A1 ++ A2)) := fun x => List.perm_middle
  have hsub : ∀ x, x ∈ A1 ++ A2 → x ∈ A1 ++ v :: A2 := fun x hx =>
    (hp v).mem_iff.mpr (List.mem_cons_of_mem _ hx)
  refine ⟨(hp w).symm.nodup (List.nodup_cons.mpr
    ⟨fun hx => hw (hsub w hx), (List.nodup_cons.mp ((hp v).nodup h.1)).2⟩), fun x hx => ?_, ?_⟩
  · rcases List.mem_cons.mp ((hp w).mem_iff.mp hx) with e | hx'
    · exact e ▸ hm
    · exact h.2.1 x (hsub x hx')
  · exact Nat.le_trans (Nat.le_of_eq ((hp w).length_eq.trans (hp v).length_eq.symm)) h.2.2

theorem Inv.extend {c : Cfg} {st : St} (hi : Inv c st) {hs' : List Handle} {es : List Ev}
    {ids' : List Nat} (ea : activeIds hs' = ids')
    (ht : Takes c.maxq es (· ∈ activeIds st.hs) (· ∈ ids')) (hf : Fits c ids') :
    Inv c ⟨hs', st.evs ++ es, none, st.unit⟩ := by
  subst ea
  obtain ⟨u, hu, hm⟩ := hi.runs
  obtain ⟨u', hu', hm'⟩ := ht u hm
  exact ⟨hf.1, hf.2.1, hf.2.2, ⟨u', by rw [run_append, hu]; exact hu', hm'⟩, nofun⟩

/-- with a fresh allocation of `v` pending, the ids are `v` and those the controller holds before it
(`run` is a function, so the run that `peep` splits is the one `runs` speaks of) -/
theorem Inv.peep_ids {c : Cfg} {st : St} (hi : Inv c st) {v : Nat} (hla : st.lastAlloc = some v)
    (hv : v < c.maxq) :
    ∃ pre u0, st.evs = pre ++ [.alloc v, .use v] ∧ run c.maxq st.unit pre = .ok u0 ∧ v ∉ u0 ∧
      ∀ w, w ∈ v :: u0 ↔ w ∈ activeIds st.hs := by
  obtain ⟨pre, u0, epre, hpre, hvu0⟩ := hi.peep v hla
  obtain ⟨u, hu, hm⟩ := hi.runs
  rw [epre, run_append, hpre] at hu
  simp only [run, step_alloc hv hvu0, step_use hv List.mem_cons_self] at hu
  cases hu
  exact ⟨pre, u0, epre, hpre, hvu0, hm⟩

theorem Inv.extend_same {c : Cfg} {st : St} (hi : Inv c st) {es : List Ev}
    (ht : Takes c.maxq es (· ∈ activeIds st.hs) (· ∈ activeIds st.hs)) :
    Inv c { st with evs := st.evs ++ es, lastAlloc := none } := hi.extend rfl ht hi.fits

/-- a state whose pending commands end with the allocation of a free id `v` (a new qubit, or the
relocation through the peephole): `v` joins the ids of `u0`, and the peephole witness is `pre` -/
theorem inv_alloc_last {c : Cfg} {unit u0 : List Nat} {pre : List Ev} {hs' : List Handle} {v : Nat}
    (hpre : run c.maxq unit pre = .ok u0) (hv : v ∉ u0) (hlt : v < c.maxq)
    (hf : Fits c (activeIds hs')) (hm : ∀ w, w ∈ v :: u0 ↔ w ∈ activeIds hs') :
    Inv c ⟨hs', pre ++ [.alloc v, .use v], some v, unit⟩ := by
  refine ⟨hf.1, hf.2.1, hf.2.2, ⟨v :: u0, ?_, hm⟩, fun w hw => ?_⟩
  · rw [run_append, hpre]
    simp only [run, step_alloc hlt hv, step_use hlt List.mem_cons_self]
  · cases hw; exact ⟨pre, u0, rfl, hpre, hv⟩

theorem inv_new {c : Cfg} {st : St} (hi : Inv c st) (hb : (activeIds st.hs).length + 1 ≤ limit c) :
    Inv c (apply c st .new).1 := by
  obtain ⟨u, hu, hm⟩ := hi.runs
  have hv := lowestUnused_not_mem (activeIds st.hs)
  have hlt := lowestUnused_lt hb
  have ea := activeIds_snoc st.hs (lowestUnused (activeIds st.hs))
  refine inv_alloc_last hu (fun h => hv ((hm _).mp h)) hlt ?_ fun w => ?_
  · rw [ea]
    exact hi.fits.append (List.pairwise_singleton _ _)
      (fun v hv' => by rw [List.mem_singleton.mp hv']; exact ⟨hv, hlt⟩) hb
  · rw [ea, List.mem_cons, List.mem_append, List.mem_singleton, hm w, Or.comm]

theorem activeAt_get {st : St} {h : Nat} (ha : activeAt st h = true) :
    ∃ q, st.hs[h]? = some q ∧ q.active = true ∧ idAt st h = q.id := by
  unfold activeAt at ha
  unfold idAt
  cases hq : st.hs[h]? with
  | none => rw [hq] at ha; cases ha
  | some q => rw [hq] at ha; exact ⟨q, rfl, ha, rfl⟩

/-- the operation keeps the invariant and does not end the host program -/
def Safe (c : Cfg) (st : St) (op : Op) : Prop :=
  Inv c (apply c st op).1 ∧ (apply c st op).2.fatal = false

theorem inv_gate {c : Cfg} {st : St} (hi : Inv c st) {h : Nat} (ha : activeAt st h = true) :
    Inv c (apply c st (.gate h)).1 ∧ (apply c st (.gate h)).2 = .ok := by
  obtain ⟨q, hq, hact, _⟩ := activeAt_get ha
  simp only [apply, hq]
  have hmem := mem_activeIds_of_get hq hact
  exact ⟨hi.extend_same (takes_use (hi.bound _ hmem) hmem), trivial⟩

theorem inv_gate2 {c : Cfg} {st : St} (hi : Inv c st) {h1 h2 : Nat}
    (hok : opOk c st (.gate2 h1 h2) = true) :
    Inv c (apply c st (.gate2 h1 h2)).1 ∧ (apply c st (.gate2 h1 h2)).2 = .ok := by
  simp only [opOk, Bool.and_eq_true] at hok
  obtain ⟨⟨⟨ha1, ha2⟩, _⟩, h30⟩ := hok
  obtain ⟨q1, hq1, hact1, hid1⟩ := activeAt_get ha1
  obtain ⟨q2, hq2, hact2, hid2⟩ := activeAt_get ha2
  simp only [apply, hq1, hq2]
  refine ⟨?_, trivial⟩
  have hm1 := mem_activeIds_of_get hq1 hact1
  have hm2 := mem_activeIds_of_get hq2 hact2
  have s2 := takes_use2 (A := (· ∈ activeIds st.hs)) (hi.bound _ hm1) hm1 (hi.bound _ hm2) hm2
  unfold gate2Evs
  split
  · next hcc =>
    -- the transpiler's swap through id 0: `opOk` asks for id 0 to be live
    simp only [Bool.and_eq_true, bne_iff_ne, ne_eq] at hcc
    rw [hid1, hid2] at h30
    simp only [Bool.or_eq_true, Bool.not_eq_true', beq_iff_eq, List.contains_eq_mem,
      decide_eq_true_eq, hcc.1.1, hcc.1.2, hcc.2, false_or, Bool.true_eq_false] at h30
    exact hi.extend_same ((takes_use (hi.bound _ h30) h30).cons s2)
  · exact hi.extend_same s2

theorem inv_flush {c : Cfg} {st : St} (hi : Inv c st) :
    Inv c (flushSt c st).1 ∧ (flushSt c st).2 = .ok ∧
      (∀ v, v ∈ (flushSt c st).1.unit ↔ v ∈ activeIds (flushSt c st).1.hs) ∧
      (flushSt c st).1.evs = [] ∧ (flushSt c st).1.hs = st.hs := by
  obtain ⟨u, hu, hm⟩ := hi.runs
  simp only [flushSt, hu]
  exact ⟨⟨hi.nodup, hi.bound, hi.count, ⟨u, rfl, hm⟩, nofun⟩, trivial, hm, trivial, trivial⟩

theorem inv_close {c : Cfg} {st : St} (hi : Inv c st) :
    Inv c (apply c st .close).1 ∧ (apply c st .close).2 = .ok := by
  obtain ⟨u, hu, _⟩ := hi.runs
  simp only [apply, flushSt, hu]
  refine ⟨⟨?_, ?_, ?_, ⟨[], rfl, fun v => ?_⟩, nofun⟩, trivial⟩
  all_goals rw [activeIds_all_inactive]
  · exact List.nodup_nil
  · nofun
  · exact Nat.zero_le _

theorem inv_release {c : Cfg} {st : St} (hi : Inv c st) {h : Nat} {q : Handle}
    (hq : st.hs[h]? = some q) (hact : q.active = true) {es : List Ev}
    (hes : Takes c.maxq es (· ∈ activeIds st.hs) (fun w => w ∈ activeIds st.hs ∧ w ≠ q.id)) :
    Inv c { st with evs := st.evs ++ es, lastAlloc := none, hs := deactivate st.hs h } ∧
      q.id ∉ activeIds (deactivate st.hs h) := by
  obtain ⟨A1, A2, e, e'⟩ := activeIds_at hq hact
  have hf := hi.fits
  rw [e] at hf
  obtain ⟨hv, hmem⟩ := mem_remove_mid hf.1
  exact ⟨hi.extend e' (hes.post fun w => by rw [e]; exact hmem w)
    (hf.sublist ((List.Sublist.refl A1).append (List.sublist_cons_self _ _))), by rw [e']; exact hv⟩

theorem free_spec {c : Cfg} {st : St} (hi : Inv c st) {h : Nat} {q : Handle}
    (hq : st.hs[h]? = some q) :
    Inv c (apply c st (.free h)).1 ∧ (apply c st (.free h)).2.fatal = false ∧
      (q.active = true → q.id ∉ activeIds (apply c st (.free h)).1.hs) := by
  simp only [apply, hq]
  by_cases hact : q.active = true
  · rw [if_pos hact]
    have hmem := mem_activeIds_of_get hq hact
    have := inv_release hi hq hact (takes_free (hi.bound _ hmem) hmem)
    exact ⟨this.1, rfl, fun _ => this.2⟩
  · rw [if_neg hact]; exact ⟨hi, rfl, fun h => absurd h hact⟩

theorem mem_activeIds_cons (v : Nat) (h : Handle) (t : List Handle) :
    v ∈ activeIds (h :: t) ↔ (h.active && h.id == v) = true ∨ v ∈ activeIds t := by
  cases ha : h.active with
  | false => rw [activeIds_cons_inactive h t ha]; simp
  | true => rw [activeIds_cons_active h t ha, List.mem_cons, Bool.true_and, beq_iff_eq, eq_comm]

theorem freeUpGo_noop (t pre : List Handle) (s : List Ev × Option Nat) (h0 : 0 ∉ activeIds t) :
    freeUpGo pre t s = (pre ++ t, s) := by
  induction t generalizing pre with
  | nil => simp [freeUpGo]
  | cons h t ih =>
    rw [mem_activeIds_cons, not_or] at h0
    rw [freeUpGo, if_neg h0.1, ih _ h0.2, List.append_assoc]; rfl

theorem freeUpGo_hit (l1 pre : List Handle) (q : Handle) (l2 : List Handle)
    (s : List Ev × Option Nat) (h1 : 0 ∉ activeIds l1) (ha : q.active = true) (hid : q.id = 0)
    (h2 : 0 ∉ activeIds l2) :
    freeUpGo pre (l1 ++ q :: l2) s =
      (pre ++ l1 ++ ⟨lowestUnused (activeIds (pre ++ l1 ++ q :: l2)), true⟩ :: l2,
       relocateEvs s.1 s.2 (lowestUnused (activeIds (pre ++ l1 ++ q :: l2)))) := by
  induction l1 generalizing pre with
  | nil =>
    rw [List.nil_append, freeUpGo, if_pos (by rw [ha, hid]; rfl), freeUpGo_noop l2 _ _ h2]
    simp only [List.append_assoc, List.cons_append, List.nil_append, List.append_nil]
  | cons h t ih =>
    rw [mem_activeIds_cons, not_or] at h1
    rw [List.cons_append, freeUpGo, if_neg h1.1, ih _ h1.2]
    simp only [List.append_assoc, List.cons_append, List.nil_append]

/-- the first live handle with id `v` -/
theorem exists_first (hs : List Handle) (v : Nat) (h : v ∈ activeIds hs) :
    ∃ l1 q l2, hs = l1 ++ q :: l2 ∧ q.active = true ∧ q.id = v ∧ v ∉ activeIds l1 := by
  induction hs with
  | nil => cases h
  | cons a t ih =>
    by_cases hc : (a.active && a.id == v) = true
    · rw [Bool.and_eq_true, beq_iff_eq] at hc
      exact ⟨[], a, t, rfl, hc.1, hc.2, nofun⟩
    · obtain ⟨l1, q, l2, e, h1, h2, h3⟩ := ih (((mem_activeIds_cons v a t).mp h).resolve_left hc)
      exact ⟨a :: l1, q, l2, by rw [e]; rfl, h1, h2,
        fun h' => (((mem_activeIds_cons v a l1).mp h').elim hc h3)⟩

theorem rewriteLast_spec (pre : List Ev) (a b : Ev) (new : Nat) :
    rewriteLast (pre ++ [a, b]) new = pre ++ [.alloc new, .use new] := by
  have : pre ++ [a, b] = (pre ++ [a]) ++ [b] := by simp
  unfold rewriteLast
  rw [this, List.dropLast_concat, List.dropLast_concat]

theorem freeUp_generic {c : Cfg} (st : St) (h : c.nv = false) : freeUp c st = st := by
  unfold freeUp; rw [if_neg (by simp [h])]

/-- what `freeUp` does on NV, given that at most one live handle has id 0 -/
theorem freeUp_cases {c : Cfg} {st : St} (hn : (activeIds st.hs).Nodup) (hnv : c.nv = true) :
    (0 ∉ activeIds st.hs ∧ freeUp c st = st) ∨
    (∃ l1 q l2, st.hs = l1 ++ q :: l2 ∧ q.id = 0 ∧
      activeIds st.hs = activeIds l1 ++ 0 :: activeIds l2 ∧
      freeUp c st = { st with
        hs := l1 ++ ⟨lowestUnused (activeIds st.hs), true⟩ :: l2,
        evs := (relocateEvs st.evs st.lastAlloc (lowestUnused (activeIds st.hs))).1,
        lastAlloc := (relocateEvs st.evs st.lastAlloc (lowestUnused (activeIds st.hs))).2 }) := by
  by_cases h0 : 0 ∈ activeIds st.hs
  · right
    obtain ⟨l1, q, l2, e, ha, hid, h1⟩ := exists_first st.hs 0 h0
    have ea : activeIds st.hs = activeIds l1 ++ 0 :: activeIds l2 := by
      rw [e, activeIds_append, activeIds_cons_active q l2 ha, hid]
    rw [ea] at hn
    have h2 : 0 ∉ activeIds l2 := fun h => (mem_remove_mid hn).1 (List.mem_append_right _ h)
    refine ⟨l1, q, l2, e, hid, ea, ?_⟩
    unfold freeUp
    have := freeUpGo_hit l1 [] q l2 (st.evs, st.lastAlloc) h1 ha hid h2
    simp only [List.nil_append] at this
    rw [if_pos hnv, e, this]
  · left
    refine ⟨h0, ?_⟩
    unfold freeUp
    rw [if_pos hnv, freeUpGo_noop st.hs [] _ h0]
    rfl

theorem relocateEvs_move {evs : List Ev} {la : Option Nat} (new : Nat) (h : la ≠ some 0) :
    relocateEvs evs la new = (evs ++ [.alloc new, .use new, .use2 0 new, .free 0], none) := by
  unfold relocateEvs
  split
  · exact absurd rfl h
  · rfl

theorem inv_freeUp {c : Cfg} {st : St} (hi : Inv c st) :
    Inv c (freeUp c st) ∧ (c.nv = true → 0 ∉ activeIds (freeUp c st).hs) ∧
    (activeIds (freeUp c st).hs).length = (activeIds st.hs).length ∧
    (∀ (h : Nat) (q : Handle), st.hs[h]? = some q → q.id ≠ 0 → (freeUp c st).hs[h]? = some q) := by
  cases hnv : c.nv with
  | false => rw [freeUp_generic st hnv]; exact ⟨hi, nofun, rfl, fun _ _ h _ => h⟩
  | true =>
  rcases freeUp_cases hi.nodup hnv with ⟨h0, e⟩ | ⟨l1, q, l2, e, hid, ea, ef⟩
  · rw [e]; exact ⟨hi, fun _ => h0, rfl, fun _ _ h _ => h⟩
  · have hf := hi.fits
    generalize hnew : lowestUnused (activeIds st.hs) = new at ef
    have hnm : new ∉ activeIds st.hs := hnew ▸ lowestUnused_not_mem _
    have hnl : new ≤ (activeIds st.hs).length := hnew ▸ lowestUnused_le_length _
    rw [ea] at hf hnm hnl
    obtain ⟨h0, hmem⟩ := mem_remove_mid hf.1
    have hn0 : new ≠ 0 := fun h => hnm (List.mem_append_right _ (h ▸ List.mem_cons_self))
    have hlt : new < c.maxq := Nat.lt_of_le_of_lt hnl
      (limit_lt hnv (List.length_pos_of_mem (List.mem_append_right _ List.mem_cons_self)) hf.2.2)
    have h0lt : 0 < c.maxq := Nat.lt_of_le_of_lt (Nat.zero_le _) hlt
    have ea' : activeIds (l1 ++ ⟨new, true⟩ :: l2) = activeIds l1 ++ new :: activeIds l2 := by
      rw [activeIds_append, activeIds_cons_active _ l2 rfl]
    have hf' := hf.replace hnm hlt
    -- the new ids are `new` and the old ones except 0
    have hnew' : ∀ w, w ∈ activeIds l1 ++ new :: activeIds l2 ↔
        w = new ∨ w ∈ activeIds l1 ++ activeIds l2 := fun w => by
      rw [List.perm_middle.mem_iff, List.mem_cons]
    rw [ef]
    refine ⟨?_, fun _ => ?_, ?_, ?_⟩
    · by_cases hla : st.lastAlloc = some 0
      · -- peephole: the pending `alloc 0; use 0` is re-addressed to `new`
        obtain ⟨pre, u0, epre, hpre, h0u0, hm⟩ := hi.peep_ids hla h0lt
        rw [ea] at hm
        have hnu0 : new ∉ u0 := fun h => hnm ((hm new).mp (List.mem_cons_of_mem _ h))
        rw [hla, epre]
        simp only [relocateEvs, rewriteLast_spec]
        refine inv_alloc_last hpre hnu0 hlt (ea' ▸ hf') fun w => ?_
        rw [ea', hnew' w, ← hmem w, ← hm w, List.mem_cons, List.mem_cons]
        exact or_congr_right ⟨fun h => ⟨Or.inr h, fun e => h0u0 (e ▸ h)⟩, fun h => h.1.resolve_left h.2⟩
      · rw [relocateEvs_move new hla]
        have hA0 : (fun w => w ∈ activeIds l1 ++ 0 :: activeIds l2 ∨ w = new) 0 :=
          Or.inl (List.mem_append_right _ List.mem_cons_self)
        refine hi.extend ea' (((takes_alloc hlt (by rw [ea]; exact hnm)).cons
          ((takes_use hlt (Or.inr rfl)).cons ((takes_use2 h0lt (ea ▸ hA0) hlt (Or.inr rfl)).cons
            (takes_free h0lt (ea ▸ hA0))))).post fun w => ?_) hf'
        rw [hnew' w, ← hmem w, ea]
        exact ⟨fun ⟨h, hne⟩ => h.elim (fun h => Or.inr ⟨h, hne⟩) Or.inl,
          fun h => h.elim (fun e => ⟨Or.inr e, e ▸ hn0⟩) (fun h => ⟨Or.inl h.1, h.2⟩)⟩
    · rw [ea']
      exact fun h => ((hnew' 0).mp h).elim (fun e => hn0 e.symm) h0
    · rw [ea', ea, List.length_append, List.length_append, List.length_cons, List.length_cons]
    · intro h q' hq' hne
      rw [← set_split l1 l2 q ⟨new, true⟩, ← e, List.getElem?_set_ne]
      · exact hq'
      · intro hh
        rw [e, ← hh, getElem?_split] at hq'
        exact hne ((Option.some.inj hq') ▸ hid)

theorem freeUp_idem {c : Cfg} {st : St} (hi : Inv c st) : freeUp c (freeUp c st) = freeUp c st := by
  cases hnv : c.nv with
  | false => rw [freeUp_generic _ hnv]
  | true =>
    obtain ⟨j1, j2, _⟩ := inv_freeUp hi
    rcases freeUp_cases j1.nodup hnv with ⟨_, e⟩ | ⟨l1, q, l2, _, _, ea, _⟩
    · exact e
    · exact absurd (ea ▸ List.mem_append_right _ List.mem_cons_self) (j2 hnv)

theorem meas_spec {c : Cfg} {st : St} (hi : Inv c st) {h : Nat} {q : Handle} {ip : Bool}
    (hq : st.hs[h]? = some q) :
    Inv c (apply c st (.meas h ip)).1 ∧ (apply c st (.meas h ip)).2.fatal = false ∧
      (q.active = true → ip = false → q.id ∉ activeIds (apply c st (.meas h ip)).1.hs) := by
  simp only [apply, hq]
  by_cases hact : q.active = true
  · rw [if_pos hact]
    -- the state after the (possible) relocation
    obtain ⟨st1, e1, hi1, hq1⟩ : ∃ st1, (if (q.id != 0) = true then freeUp c st else st) = st1 ∧
        Inv c st1 ∧ st1.hs[h]? = some q := by
      split
      · next hid =>
        exact ⟨_, rfl, (inv_freeUp hi).1, (inv_freeUp hi).2.2.2 h q hq (by simpa using hid)⟩
      · exact ⟨st, rfl, hi, hq⟩
    rw [e1]
    have hmem := mem_activeIds_of_get hq1 hact
    have huse := takes_use (A := (· ∈ activeIds st1.hs)) (hi1.bound _ hmem) hmem
    cases ip with
    | true => exact ⟨hi1.extend_same huse, rfl, nofun⟩
    | false =>
      have := inv_release hi1 hq1 hact (huse.cons (takes_free (hi1.bound _ hmem) hmem))
      exact ⟨this.1, rfl, fun _ _ => this.2⟩
  · rw [if_neg hact]; exact ⟨hi, rfl, fun h => absurd h hact⟩

theorem genEnt_spec (n : Nat) (st : St) :
    (genEnt st n).1 = { st with hs := st.hs ++ (genEnt st n).2.map fun k => ⟨k, true⟩ } ∧
    (genEnt st n).2.length = n ∧ (genEnt st n).2.Nodup ∧
    ∀ v ∈ (genEnt st n).2, v ∉ activeIds st.hs ∧ v < (activeIds st.hs).length + n := by
  induction n generalizing st with
  | zero => exact ⟨by simp [genEnt], rfl, List.nodup_nil, nofun⟩
  | succ k ih =>
    obtain ⟨i1, i2, i3, i4⟩ := ih { st with hs := st.hs ++ [⟨lowestUnused (activeIds st.hs), true⟩] }
    simp only [activeIds_snoc, List.mem_append, List.mem_singleton, List.length_append,
      List.length_singleton, not_or] at i4
    simp only [genEnt]
    refine ⟨by rw [i1]; simp, by rw [List.length_cons, i2],
      List.nodup_cons.mpr ⟨fun h => (i4 _ h).1.2 rfl, i3⟩, fun v hv => ?_⟩
    rcases List.mem_cons.mp hv with e | hv
    · rw [e]
      exact ⟨lowestUnused_not_mem _,
        Nat.lt_of_le_of_lt (lowestUnused_le_length _) (Nat.lt_add_of_pos_right (Nat.succ_pos k))⟩
    · exact ⟨(i4 v hv).1.1, Nat.lt_of_lt_of_eq (i4 v hv).2 (Nat.add_right_comm _ 1 k)⟩

theorem nvEnt_zero (st : St) : nvEnt st 0 = .ok (st, []) := rfl

/-- `nvEnt` for `n + 1` pairs while the memory ids are unused: handles `n, …, 1, 0`, and the memory
qubits are allocated and initialised -/
theorem nvEnt_spec (n : Nat) (st : St) (h : ∀ k ∈ down n, k ∉ activeIds st.hs) :
    ∃ la, nvEnt st (n + 1) =
      .ok (⟨st.hs ++ (down n ++ [0]).map (fun k => ⟨k, true⟩),
            st.evs ++ (down n).flatMap (fun k => [.alloc k, .use k]), la, st.unit⟩, down n ++ [0]) := by
  induction n generalizing st with
  | zero => exact ⟨st.lastAlloc, by rw [nvEnt, if_pos rfl]; simp [down]⟩
  | succ k ih =>
    obtain ⟨la, e⟩ := ih ⟨st.hs ++ [⟨k + 1, true⟩], st.evs ++ [.alloc (k + 1), .use (k + 1)], some (k + 1), st.unit⟩
      fun j hj hm => by
        rw [activeIds_snoc, List.mem_append, List.mem_singleton] at hm
        exact hm.elim (h j (List.mem_cons_of_mem _ hj))
          fun e => Nat.not_succ_le_self k (e ▸ (mem_down.mp hj).2 : k + 1 ≤ k)
    refine ⟨la, ?_⟩
    rw [nvEnt, if_neg (Nat.succ_ne_zero k), if_neg (h _ List.mem_cons_self), e]
    simp only [down, List.append_assoc, List.cons_append, List.nil_append, List.map_cons, List.flatMap_cons]

theorem nvKeepOk_spec {c : Cfg} {st : St} {n : Nat} (h : nvKeepOk c st n = true) :
    ∀ k, 1 ≤ k → k < n → k ∉ activeIds (freeUp c st).hs := by
  intro k hk1 hk2 hm
  simp only [nvKeepOk, List.all_eq_true, List.mem_range] at h
  have := h k hk2
  simp only [Bool.or_eq_true, beq_iff_eq, Bool.not_eq_true', List.contains_eq_mem,
    decide_eq_false_iff_not] at this
  rcases this with h0 | h0
  · exact absurd (h0 ▸ hk1 : 1 ≤ 0) (Nat.not_succ_le_zero 0)
  · exact h0 hm

theorem createEnt_generic {c : Cfg} (st : St) (n : Nat) (hnv : c.nv = false) :
    createEnt c st n false = .ok (genEnt st n) := by
  simp [createEnt, hnv]

theorem createEnt_generic_seq {c : Cfg} (st : St) (n : Nat) (hnv : c.nv = false) :
    createEnt c st n true =
      .ok ({ st with hs := st.hs ++ List.replicate n ⟨lowestUnused (activeIds st.hs), true⟩ },
        List.replicate n (lowestUnused (activeIds st.hs))) := by
  simp [createEnt, hnv]

theorem createEnt_nv {c : Cfg} (st : St) (n : Nat) (hnv : c.nv = true) :
    createEnt c st n false = nvEnt (freeUp c st) n := by
  simp [createEnt, hnv]

theorem createEnt_nv_seq {c : Cfg} (st : St) (n : Nat) (hnv : c.nv = true) :
    createEnt c st n true =
      .ok ({ freeUp c st with hs := (freeUp c st).hs ++ List.replicate n ⟨0, true⟩ },
        List.replicate n 0) := by
  simp [createEnt, hnv]

theorem createEnt_freeUp {c : Cfg} {st : St} (hi : Inv c st) (n : Nat) (sq : Bool) :
    createEnt c (freeUp c st) n sq = createEnt c st n sq := by
  cases hnv : c.nv with
  | false => rw [freeUp_generic st hnv]
  | true => cases sq <;> simp only [createEnt_nv, createEnt_nv_seq, hnv, freeUp_idem hi]

/-- generic hardware waits for the pairs in their own ids; with a single communication qubit
(one qubit in all) the SDK emits the wait-and-move loop, which for the one pair there can be is
the same -/
theorem waitLoop_generic {c : Cfg} {st : St} {n : Nat} (hnv : c.nv = false) (h1 : 1 ≤ n)
    (hb : (activeIds st.hs).length + n ≤ limit c) :
    (if c.single = true then moveLoop n n else (genEnt st n).2.map Ev.deliver)
      = (genEnt st n).2.map Ev.deliver := by
  split
  · next hs =>
    obtain ⟨he, hl1⟩ := nil_of_single hnv hs (Nat.le_trans (Nat.add_le_add_left h1 _) hb)
    rw [he, hl1, List.length_nil, Nat.zero_add] at hb
    obtain rfl := Nat.le_antisymm hb h1
    simp [moveLoop, genEnt, he, lowestUnused_nil]
  · rfl

/-- `_create_ent_qubits` for a keep request: the new handles and ids, the commands emitted with
them (`pre`: NV memory qubits), relative to the state after the relocation; `pre` followed by the
wait loop delivers exactly the new ids -/
theorem keep_spec {c : Cfg} {st : St} (hi : Inv c st) {n : Nat} (h1 : 1 ≤ n)
    (hb : (activeIds st.hs).length + n ≤ limit c) (hk : c.nv = false ∨ nvKeepOk c st n = true) :
    ∃ st1 ids pre, createEnt c st n false = .ok (st1, ids) ∧
      st1.hs = (freeUp c st).hs ++ ids.map (fun k => ⟨k, true⟩) ∧
      st1.evs = (freeUp c st).evs ++ pre ∧ st1.unit = (freeUp c st).unit ∧
      ids.Nodup ∧ (∀ v ∈ ids, v ∉ activeIds (freeUp c st).hs ∧ v < c.maxq) ∧
      Fits c (activeIds (freeUp c st).hs ++ ids) ∧
      Takes c.maxq (pre ++ if c.single then moveLoop n n else ids.map .deliver)
        (· ∈ activeIds (freeUp c st).hs) (· ∈ activeIds (freeUp c st).hs ++ ids) := by
  have hlim := limit_le c
  cases hnv : c.nv with
  | false =>
    obtain ⟨i1, i2, i3, i4⟩ := genEnt_spec n st
    have hfresh : ∀ v ∈ (genEnt st n).2, v ∉ activeIds st.hs ∧ v < c.maxq := fun v hv =>
      ⟨(i4 v hv).1, Nat.lt_of_lt_of_le (i4 v hv).2 (Nat.le_trans hb hlim)⟩
    rw [freeUp_generic st hnv]
    refine ⟨(genEnt st n).1, (genEnt st n).2, [], createEnt_generic st n hnv, congrArg St.hs i1,
      by rw [i1, List.append_nil], by rw [i1], i3, hfresh,
      hi.fits.append i3 hfresh (by rw [i2]; exact hb), ?_⟩
    rw [waitLoop_generic hnv h1 hb]
    exact (takes_delivers i3 (fun d hd => (hfresh d hd).2) (fun d hd => (hfresh d hd).1)).post
      fun w => List.mem_append.symm
  | true =>
    have hok := hk.resolve_left (by rw [hnv]; nofun)
    obtain ⟨j1, j2, j3, _⟩ := inv_freeUp hi
    have hnm : n < c.maxq := limit_lt hnv h1 (Nat.le_trans (Nat.le_add_left n _) hb)
    obtain ⟨k, rfl⟩ := Nat.exists_eq_succ_of_ne_zero (Nat.ne_of_gt h1)
    have hmem : ∀ v ∈ down k, v ∉ activeIds (freeUp c st).hs ∧ v < c.maxq := fun v hv =>
      ⟨nvKeepOk_spec hok v (mem_down.mp hv).1 (Nat.lt_succ_of_le (mem_down.mp hv).2),
        Nat.lt_of_le_of_lt (mem_down.mp hv).2 (Nat.lt_of_succ_lt hnm)⟩
    obtain ⟨la, e1⟩ := nvEnt_spec k (freeUp c st) fun v hv => (hmem v hv).1
    have h0m : 0 < c.maxq := Nat.lt_of_le_of_lt (Nat.zero_le _) hnm
    have h0d : 0 ∉ down k := fun h => Nat.not_succ_le_zero 0 (mem_down.mp h).1
    have hfresh : ∀ v ∈ down k ++ [0], v ∉ activeIds (freeUp c st).hs ∧ v < c.maxq := fun v hv =>
      (List.mem_append.mp hv).elim (hmem v) fun hv => by
        rw [List.mem_singleton.mp hv]; exact ⟨j2 hnv, h0m⟩
    have hn0 : (down k ++ [0]).Nodup := List.nodup_append.mpr
      ⟨nodup_down k, List.pairwise_singleton _ _, fun a ha b hb e =>
        h0d (List.mem_singleton.mp hb ▸ e ▸ ha)⟩
    refine ⟨_, _, _, (createEnt_nv st _ hnv).trans e1, rfl, rfl, rfl, hn0, hfresh,
      j1.fits.append hn0 hfresh (by rw [List.length_append, length_down, j3]; exact hb), ?_⟩
    rw [show c.single = true by simp [Cfg.single, hnv], if_pos rfl]
    exact ((takes_allocs (nodup_down k) (fun d hd => (hmem d hd).2) fun d hd => (hmem d hd).1).append
      (takes_moveLoop (fun h => h.elim (j2 hnv) h0d) h0m
        fun j hj => ⟨Or.inr hj, (hmem j hj).2⟩)).post
      fun w => by rw [List.mem_append, List.mem_append, List.mem_singleton, or_assoc]

theorem inv_keep {c : Cfg} {st : St} (hi : Inv c st) {r : Bool} {n : Nat}
    (hok : opOk c st (.keep r n) = true) : Safe c st (.keep r n) := by
  simp only [opOk, Bool.and_eq_true, Bool.or_eq_true, decide_eq_true_eq, Bool.not_eq_true'] at hok
  obtain ⟨h1, hk⟩ := hok
  simp only [Safe, apply]
  by_cases hmax : c.maxq < n
  · rw [if_pos hmax]; exact ⟨hi, rfl⟩
  · rw [if_neg hmax]
    obtain ⟨hb, hk⟩ := hk.resolve_left hmax
    obtain ⟨st1, ids, pre, e1, ehs, eevs, eunit, _, _, hf, ht⟩ := keep_spec hi h1 hb hk
    simp only [e1]
    rw [eevs, eunit, List.append_assoc]
    exact ⟨(inv_freeUp hi).1.extend (by rw [ehs, activeIds_append_new]) ht hf, rfl⟩

theorem releaseLast_append (a b : List Handle) (n : Nat) (h : b.length = n) :
    releaseLast n (a ++ b) = a ++ b.map (fun q => (⟨q.id, false⟩ : Handle)) := by
  unfold releaseLast
  have : (a ++ b).length - n = a.length := by simp [h]
  rw [this, List.take_left', List.drop_left']
  · rfl
  · rfl

theorem activeIds_release (a b : List Handle) :
    activeIds (a ++ b.map (fun q => (⟨q.id, false⟩ : Handle))) = activeIds a := by
  rw [activeIds_append, activeIds_all_inactive, List.append_nil]

/-- A loop over the pairs delivered into the unused ids `ids`, for which handles have been
appended.  A body that consumes its pair leaves the ids as they were, so any `ids` will do (all
pairs in one id, for instance); a body that keeps its pair needs distinct ids within the budget. -/
theorem inv_loop {c : Cfg} {st : St} (hi : Inv c st) (b : Body) {ids : List Nat} {n : Nat}
    (hlen : ids.length = n) (hfresh : ∀ v ∈ ids, v ∉ activeIds st.hs ∧ v < c.maxq)
    (hk : b.consume.consumes = true ∨ (ids.Nodup ∧ (activeIds st.hs).length + n ≤ limit c)) :
    Inv c ⟨if b.consume.consumes then releaseLast n (st.hs ++ ids.map fun k => ⟨k, true⟩)
             else st.hs ++ ids.map fun k => ⟨k, true⟩,
           st.evs ++ ids.flatMap (fun d => Ev.deliver d :: bodyEvs d b), none, st.unit⟩ := by
  cases hc : b.consume.consumes with
  | true =>
    simp only [if_true]
    rw [releaseLast_append _ _ n (by rw [List.length_map, hlen])]
    exact hi.extend (activeIds_release _ _) (takes_pairs_consume b hc hfresh) hi.fits
  | false =>
    obtain ⟨hn, hb⟩ := hk.resolve_left (by rw [hc]; nofun)
    simp only [Bool.false_eq_true, if_false]
    exact hi.extend (activeIds_append_new _ _)
      ((Takes.flatMap_add hn (fun d hd _ hA => takes_pair_keep b hc (hfresh d hd).2 hA)
        fun d hd => (hfresh d hd).1).post fun w => List.mem_append.symm)
      (hi.fits.append hn hfresh (by rw [hlen]; exact hb))

/-- `_create_ent_qubits` with one shared id (sequential request, or single-communication-qubit
hardware), relative to the state after the relocation -/
theorem createEnt_seq_spec {c : Cfg} {st : St} (hi : Inv c st) (n : Nat)
    (hb : (activeIds st.hs).length + 1 ≤ limit c) :
    ∃ d, createEnt c st n true =
        .ok ({ freeUp c st with hs := (freeUp c st).hs ++ List.replicate n ⟨d, true⟩ }, List.replicate n d) ∧
      (if c.single = true then List.replicate n 0 else List.replicate n d) = List.replicate n d ∧
      d ∉ activeIds (freeUp c st).hs ∧ d < c.maxq := by
  have hlim := limit_le c
  cases hnv : c.nv with
  | true =>
    exact ⟨0, createEnt_nv_seq st n hnv, ite_self _, (inv_freeUp hi).2.1 hnv,
      Nat.lt_of_lt_of_le (Nat.succ_pos _) (Nat.le_trans hb hlim)⟩
  | false =>
    rw [freeUp_generic st hnv]
    refine ⟨lowestUnused (activeIds st.hs), createEnt_generic_seq st n hnv, ?_, lowestUnused_not_mem _,
      lowestUnused_lt hb⟩
    split
    · next hs =>
      -- one qubit in all, none of them live: the lowest unused id is 0
      rw [(nil_of_single hnv hs hb).1, lowestUnused_nil]
    · rfl

/-- The handles and events of a loop over `n` pairs (post routine or context body).  With `sq`
all pairs are handled in one id: any number of them if the body consumes its pair, at most one if
it keeps it (a second one could never be delivered into the same id).  Otherwise (generic
hardware) each pair has its own id. -/
theorem inv_pairs {c : Cfg} {st : St} (hi : Inv c st) (n : Nat) (b : Body) (sq : Bool)
    (hs : c.single = true → sq = true)
    (hk : if sq = true then (activeIds st.hs).length + 1 ≤ limit c ∧ (b.consume.consumes = true ∨ n ≤ 1)
          else (activeIds st.hs).length + n ≤ limit c) :
    ∃ st1 ids, createEnt c st n sq = .ok (st1, ids) ∧
      (if c.single = true then List.replicate n 0 else ids) = ids ∧
      Inv c { st1 with hs := if b.consume.consumes then releaseLast n st1.hs else st1.hs,
                       evs := st1.evs ++ ids.flatMap (fun d => Ev.deliver d :: bodyEvs d b),
                       lastAlloc := none } := by
  cases sq with
  | true =>
    obtain ⟨hb, hk⟩ := (if_pos rfl).mp hk
    obtain ⟨d, hce, harr, hdn, hdm⟩ := createEnt_seq_spec hi n hb
    obtain ⟨j1, _, j3, _⟩ := inv_freeUp hi
    have := inv_loop j1 b (List.length_replicate (n := n) (a := d))
      (fun v hv => by rw [(List.mem_replicate.mp hv).2]; exact ⟨hdn, hdm⟩)
      (hk.imp_right fun h => ⟨List.nodup_replicate.mpr h, by
        rw [j3]; exact Nat.le_trans (Nat.add_le_add_left h _) hb⟩)
    rw [List.map_replicate] at this
    exact ⟨_, _, hce, harr, this⟩
  | false =>
    have hsingle : c.single = false := Bool.eq_false_iff.mpr fun h => nomatch hs h
    have hnv : c.nv = false := by
      simp only [Cfg.single, Bool.or_eq_false_iff] at hsingle
      exact hsingle.1
    obtain ⟨i1, i2, i3, i4⟩ := genEnt_spec n st
    refine ⟨_, _, createEnt_generic st n hnv, by rw [hsingle]; rfl, ?_⟩
    rw [i1]
    exact inv_loop hi b i2
      (fun v hv => ⟨(i4 v hv).1, Nat.lt_of_lt_of_le (i4 v hv).2 (Nat.le_trans hk (limit_le c))⟩)
      (Or.inr ⟨i3, hk⟩)

/-- the budget of a loop over `n` pairs as `opOk` writes it -/
theorem pairsOk_iff {c : Cfg} {st : St} {n : Nat} {b : Body} {sq : Bool} :
    (if sq then decide ((activeIds st.hs).length + 1 ≤ limit c) && (b.consume.consumes || decide (n ≤ 1))
      else decide ((activeIds st.hs).length + n ≤ limit c)) = true ↔
    if sq = true then (activeIds st.hs).length + 1 ≤ limit c ∧ (b.consume.consumes = true ∨ n ≤ 1)
      else (activeIds st.hs).length + n ≤ limit c := by
  cases sq <;> simp

theorem inv_seq {c : Cfg} {st : St} (hi : Inv c st) {r : Bool} {n : Nat} {b : Body}
    (hok : opOk c st (.seq r n b) = true) : Safe c st (.seq r n b) := by
  obtain ⟨st1, ids, e1, harr, i1⟩ := inv_pairs hi n b true (fun _ => rfl) (pairsOk_iff.mp hok)
  simp only [Safe, apply, e1, harr]
  exact ⟨i1, rfl⟩

theorem inv_ctx {c : Cfg} {st : St} (hi : Inv c st) {r : Bool} {n : Nat} {sq : Bool} {b : Body}
    (hok : opOk c st (.ctx r n sq b) = true) : Safe c st (.ctx r n sq b) := by
  simp only [Safe, apply]
  by_cases hv : (!sq && decide (c.maxq < n)) = true
  · rw [if_pos hv]; exact ⟨hi, rfl⟩
  · rw [if_neg hv]
    obtain ⟨st1, ids, e1, _, i1⟩ := inv_pairs hi n b (sq || c.single)
      (fun h => by rw [h, Bool.or_true]) (pairsOk_iff.mp ((Bool.or_eq_true _ _).mp hok |>.resolve_left hv))
    simp only [e1]
    exact ⟨i1, rfl⟩

theorem inv_postk {c : Cfg} {st : St} (hi : Inv c st) {r : Bool} {n : Nat} {b : Body}
    (hok : opOk c st (.postk r n b) = true) : Safe c st (.postk r n b) := by
  simp only [Safe, apply]
  by_cases hv : c.maxq < n
  · rw [if_pos hv]; exact ⟨hi, rfl⟩
  · rw [if_neg hv]
    obtain ⟨st1, ids, e1, harr, i1⟩ := inv_pairs hi n b c.single id
      (pairsOk_iff.mp ((Bool.or_eq_true _ _).mp hok |>.resolve_left fun h => hv (of_decide_eq_true h)))
    simp only [e1, harr]
    exact ⟨i1, rfl⟩

theorem inv_seqr {c : Cfg} {st : St} (hi : Inv c st) {r : Bool} {n : Nat} {b : Body} {fails tries : Nat}
    (hok : opOk c st (.seqr r n b fails tries) = true) : Safe c st (.seqr r n b fails tries) := by
  simp only [opOk, Bool.and_eq_true, decide_eq_true_eq] at hok
  obtain ⟨⟨hf, hcb⟩, hb⟩ := hok
  obtain ⟨d, e1, harr, hdn, hdm⟩ := createEnt_seq_spec hi n hb
  have j1 := (inv_freeUp hi).1
  simp only [Safe, apply, createEnt_freeUp hi, e1, harr, hcb, if_true]
  rw [releaseLast_append _ _ n List.length_replicate]
  -- an attempt leaves the ids as they were, so there is nothing to clean up
  exact ⟨j1.extend (activeIds_release _ _)
    ((takes_pairs_consume b hcb fun x hx => by
      rw [(List.mem_replicate.mp hx).2]; exact ⟨hdn, hdm⟩).retry Takes.nil hf) j1.fits, rfl⟩

theorem inv_keepr {c : Cfg} {st : St} (hi : Inv c st) {r : Bool} {n fails tries : Nat}
    (hok : opOk c st (.keepr r n fails tries) = true) : Safe c st (.keepr r n fails tries) := by
  simp only [opOk, Bool.and_eq_true, Bool.or_eq_true, decide_eq_true_eq, Bool.not_eq_true'] at hok
  obtain ⟨⟨⟨⟨h1, _⟩, hf⟩, hb⟩, hk⟩ := hok
  obtain ⟨st1, ids, pre, e1, ehs, eevs, eunit, hn, hfresh, hfit, ht⟩ := keep_spec hi h1 hb hk
  have hmax : ¬ c.maxq < n :=
    Nat.not_lt_of_le (Nat.le_trans (Nat.le_add_left n _) (Nat.le_trans hb (limit_le c)))
  simp only [Safe, apply, if_neg hmax, createEnt_freeUp hi, e1]
  rw [eevs, ehs, eunit, List.drop_left, List.drop_left, List.map_map]
  -- everything the request emitted is the attempt; the clean-up frees every new pair
  have hclean := (takes_frees hn (fun d hd => (hfresh d hd).2) fun d hd => (hfresh d hd).1).mono
    (fun _ => List.mem_append) fun _ => Iff.rfl
  exact ⟨(inv_freeUp hi).1.extend (activeIds_append_new _ _) (ht.retry hclean hf) hfit, rfl⟩

theorem inv_apply {c : Cfg} {st : St} {op : Op} (hi : Inv c st) (hok : opOk c st op = true) :
    Safe c st op := by
  cases op with
  | new => exact ⟨inv_new hi (of_decide_eq_true hok), rfl⟩
  | gate h => exact (inv_gate hi hok).imp id (congrArg Res.fatal)
  | gate2 h1 h2 => exact (inv_gate2 hi hok).imp id (congrArg Res.fatal)
  | meas h ip =>
    have := meas_spec (ip := ip) hi (List.getElem?_eq_getElem (of_decide_eq_true hok))
    exact ⟨this.1, this.2.1⟩
  | free h =>
    have := free_spec hi (List.getElem?_eq_getElem (of_decide_eq_true hok))
    exact ⟨this.1, this.2.1⟩
  | keep r n => exact inv_keep hi hok
  | seq r n b => exact inv_seq hi hok
  | postk r n b => exact inv_postk hi hok
  | ctx r n sq b => exact inv_ctx hi hok
  | keepr r n fails tries => exact inv_keepr hi hok
  | seqr r n b fails tries => exact inv_seqr hi hok
  | flush => exact ⟨(inv_flush hi).1, (congrArg Res.fatal (inv_flush hi).2.1 :)⟩
  | close => exact (inv_close hi).imp id (congrArg Res.fatal)

theorem inv_runOps {c : Cfg} : ∀ (ops : List Op) (st : St), Inv c st → good c st ops = true →
    Inv c (runOps c st ops).1 ∧ (runOps c st ops).2.fatal = false := by
  intro ops
  induction ops with
  | nil => intro st hi _; exact ⟨hi, rfl⟩
  | cons op ops ih =>
    intro st hi hg
    simp only [good, Bool.and_eq_true] at hg
    obtain ⟨i1, i2⟩ := inv_apply hi hg.1
    simp only [runOps]
    generalize ha : apply c st op = r at i1 i2 hg
    obtain ⟨st', res⟩ := r
    simp only at i1 i2 hg ⊢
    rw [i2]
    simp only [Bool.false_eq_true, if_false]
    exact ih st' i1 hg.2

theorem freeUp_unit (c : Cfg) (st : St) : (freeUp c st).unit = st.unit := by
  unfold freeUp; split <;> rfl

/-- the unit module in the state a handle creation ends in, whether or not its assertion fails -/
def endUnit : Except St (St × List Nat) → List Nat
  | .ok r => r.1.unit
  | .error e => e.unit

theorem nvEnt_unit (n : Nat) (st : St) : endUnit (nvEnt st n) = st.unit := by
  induction n generalizing st with
  | zero => rfl
  | succ k ih =>
    unfold nvEnt
    by_cases hk : k = 0
    · rw [if_pos hk]; rfl
    · by_cases hm : k ∈ activeIds st.hs
      · rw [if_neg hk, if_pos hm]; rfl
      · rw [if_neg hk, if_neg hm]
        have := ih { st with hs := st.hs ++ [⟨k, true⟩], evs := st.evs ++ [.alloc k, .use k],
                             lastAlloc := some k }
        cases hr : nvEnt _ k with
        | ok r => rw [hr] at this; exact this
        | error e => rw [hr] at this; exact this

theorem createEnt_unit (c : Cfg) (st : St) (n : Nat) (sq : Bool) :
    endUnit (createEnt c st n sq) = st.unit := by
  unfold createEnt
  cases c.nv with
  | true =>
    cases sq with
    | true => exact freeUp_unit c st
    | false => exact (nvEnt_unit n _).trans (freeUp_unit c st)
  | false =>
    cases sq with
    | true => rfl
    | false => exact (congrArg St.unit (genEnt_spec n st).1 :)

theorem unit_ite {p : Prop} [Decidable p] {a b : St × Res} {u : List Nat} (ha : a.1.unit = u)
    (hb : b.1.unit = u) : (if p then a else b).1.unit = u := by
  split
  · exact ha
  · exact hb

/-- Every EPR operation takes its state from `createEnt` and then only edits handles and events,
so `createEnt_unit` decides each case once the result of `createEnt` is a variable. -/
theorem apply_unit (c : Cfg) (st : St) (op : Op) (h1 : op ≠ .flush) (h2 : op ≠ .close) :
    (apply c st op).1.unit = st.unit := by
  have hfu := freeUp_unit c st
  cases op with
  | flush => exact absurd rfl h1
  | close => exact absurd rfl h2
  | new => rfl
  | gate h => cases hq : st.hs[h]? <;> simp only [apply, hq]
  | gate2 x y => cases hx : st.hs[x]? <;> cases hy : st.hs[y]? <;> simp only [apply, hx, hy]
  | meas h ip =>
    have hfu' : ∀ b : Bool, (if b = true then freeUp c st else st).unit = st.unit := fun b => by
      cases b
      · rfl
      · exact hfu
    cases hq : st.hs[h]? with
    | none => simp only [apply, hq]
    | some q => simp only [apply, hq]; exact unit_ite (hfu' _) rfl
  | free h =>
    cases hq : st.hs[h]? with
    | none => simp only [apply, hq]
    | some q => simp only [apply, hq]; exact unit_ite rfl rfl
  | keep r n =>
    have := createEnt_unit c st n false
    simp only [apply]
    generalize createEnt c st n false = r at this ⊢
    rcases r with e | ⟨st1, ids⟩ <;> exact unit_ite rfl this
  | seq r n b =>
    have := createEnt_unit c st n true
    simp only [apply]
    generalize createEnt c st n true = r at this ⊢
    rcases r with e | ⟨st1, ids⟩ <;> exact this
  | postk r n b =>
    have := createEnt_unit c st n c.single
    simp only [apply]
    generalize createEnt c st n c.single = r at this ⊢
    rcases r with e | ⟨st1, ids⟩ <;> exact unit_ite rfl this
  | ctx r n sq b =>
    have := createEnt_unit c st n (sq || c.single)
    simp only [apply]
    generalize createEnt c st n (sq || c.single) = r at this ⊢
    rcases r with e | ⟨st1, ids⟩ <;> exact unit_ite rfl this
  | keepr r n f t =>
    have := (createEnt_unit c (freeUp c st) n false).trans hfu
    simp only [apply]
    generalize createEnt c (freeUp c st) n false = r at this ⊢
    rcases r with e | ⟨st1, ids⟩ <;> exact unit_ite rfl this
  | seqr r n b f t =>
    have := (createEnt_unit c (freeUp c st) n true).trans hfu
    simp only [apply]
    generalize createEnt c (freeUp c st) n true = r at this ⊢
    rcases r with e | ⟨st1, ids⟩ <;> exact this

theorem inv_foldOps {c : Cfg} : ∀ (ops : List Op) (st : St), Inv c st → good c st ops = true →
    Inv c (foldOps c st ops) := by
  intro ops
  induction ops with
  | nil => intro st hi _; exact hi
  | cons op ops ih =>
    intro st hi hg
    simp only [good, Bool.and_eq_true] at hg
    exact ih _ (inv_apply hi hg.1).1 hg.2

end NQ.QM
