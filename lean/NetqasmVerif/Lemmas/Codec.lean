/-
The wire codec of `Model/Codec.lean` from operand to row: round trip with trailing bytes
(`decodeOp_encodeOp`, `decodeOps_encodeOps`), encoding succeeds exactly on `InRangeOps`
(`encodeOps_isSome`), which asks for the right number of operands, each in the range of its slot
(`inRangeOps_iff`), what the seven bytes of a row are (`encodeRow_some`).  `encodeOp_elim` is the
case analysis of a successful `encodeOp` that the other files go through.
-/
import NetqasmVerif.Model.Codec
namespace NQ

theorem digits32 (u : Nat) (h : u < 4294967296) :
    u % 256 + 256 * (u / 256 % 256) + 65536 * (u / 65536 % 256) + 16777216 * (u / 16777216 % 256)
      = u := by
  omega

theorem u32_lt (v : Int) : (v % 4294967296).toNat < 4294967296 := by omega

/-- `unle32` takes the four bytes as separate arguments, hence the shape: use with `_ _ _ _ rfl` -/
theorem unle32_le32 (v : Int) (h : inI32 v = true) :
    ∀ b0 b1 b2 b3, le32 v = [b0, b1, b2, b3] → unle32 b0 b1 b2 b3 = v := by
  intro b0 b1 b2 b3 hb
  simp only [inI32, Bool.and_eq_true, decide_eq_true_eq] at h
  simp only [le32, List.cons.injEq, and_true] at hb
  obtain ⟨rfl, rfl, rfl, rfl⟩ := hb
  rw [unle32]
  simp only [digits32 _ (u32_lt v)]
  split <;> omega

theorem le32_length (v : Int) : (le32 v).length = 4 := by simp [le32]

theorem unregByte_regByte (r : Reg) (h : okReg r = true) : unregByte (regByte r) = r := by
  obtain ⟨b, i⟩ := r
  simp [okReg] at h
  simp only [unregByte, regByte]
  have hi : ((i.toNat : Nat) : Int) = i := Int.toNat_of_nonneg (by omega)
  have : i.toNat < 16 := by omega
  congr 1
  · omega
  · have : (b + 4 * i.toNat) / 4 % 16 = i.toNat := by omega
    rw [this]; exact hi

theorem regByte_lt (r : Reg) (h : okReg r = true) : regByte r < 64 := by
  obtain ⟨b, i⟩ := r
  simp [okReg] at h
  simp only [regByte]; omega

theorem encodeOp_elim {P : FieldKind → Operand → List Nat → Prop}
    (reg : ∀ r, okReg r = true → P .reg (.reg r) [regByte r])
    (imm8 : ∀ v, inU8 v = true → P .imm8 (.imm v) [v.toNat])
    (int32 : ∀ v, inI32 v = true → P .int32 (.imm v) (le32 v))
    (addr : ∀ a, inI32 a = true → P .addr (.addr a) (le32 a))
    (entry : ∀ a i, inI32 a = true → okReg i = true → P .entry (.entry a i) (le32 a ++ [regByte i]))
    (slice : ∀ a s e, inI32 a = true → okReg s = true → okReg e = true →
      P .slice (.slice a s e) (le32 a ++ [regByte s, regByte e]))
    {k : FieldKind} {o : Operand} {bs : List Nat} (h : encodeOp k o = some bs) : P k o bs := by
  unfold encodeOp at h
  split at h
  · rename_i hr
    unfold InRangeOp at hr
    split at hr
    all_goals simp only [Bool.and_eq_true, beq_self_eq_true, if_true, Option.some.injEq,
      show (FieldKind.int32 == FieldKind.imm8) = false from rfl, Bool.false_eq_true, if_false] at hr h
    all_goals subst h
    · exact reg _ hr
    · exact imm8 _ hr
    · exact int32 _ hr
    · exact addr _ hr
    · exact entry _ _ hr.1 hr.2
    · exact slice _ _ _ hr.1.1 hr.1.2 hr.2
  · cases h

theorem encodeOp_length (k : FieldKind) (o : Operand) (bs : List Nat)
    (h : encodeOp k o = some bs) : bs.length = kindSize k := by
  refine encodeOp_elim (P := fun k _ bs => bs.length = kindSize k) ?_ ?_ ?_ ?_ ?_ ?_ h
  all_goals intros; rfl

theorem decodeOp_encodeOp (k : FieldKind) (o : Operand) (bs rest : List Nat)
    (h : encodeOp k o = some bs) : decodeOp k (bs ++ rest) = some (o, rest) := by
  refine encodeOp_elim (P := fun k o bs => decodeOp k (bs ++ rest) = some (o, rest))
    ?_ ?_ ?_ ?_ ?_ ?_ h
  all_goals intros
  all_goals simp only [le32, List.cons_append, List.nil_append, decodeOp]
  · rw [unregByte_regByte _ ‹_›]
  · rename_i hr
    simp only [inU8, Bool.and_eq_true, decide_eq_true_eq] at hr
    rw [Int.toNat_of_nonneg hr.1]
  · rw [unle32_le32 _ ‹_› _ _ _ _ rfl]
  · rw [unle32_le32 _ ‹_› _ _ _ _ rfl]
  · rw [unle32_le32 _ ‹_› _ _ _ _ rfl, unregByte_regByte _ ‹_›]
  · rename_i hs he
    rw [unle32_le32 _ ‹_› _ _ _ _ rfl, unregByte_regByte _ hs, unregByte_regByte _ he]

theorem shapeSize_cons (k : FieldKind) (ks : List FieldKind) :
    shapeSize (k :: ks) = kindSize k + shapeSize ks := by simp [shapeSize]

theorem encodeOps_cons {k : FieldKind} {ks : List FieldKind} {o : Operand} {os : List Operand}
    {b bs : List Nat} (h : encodeOp k o = some b) (hs : encodeOps ks os = some bs) :
    encodeOps (k :: ks) (o :: os) = some (b ++ bs) := by
  simp only [encodeOps, h, hs]

theorem encodeOps_cons_some {k ks o os bs} (h : encodeOps (k :: ks) (o :: os) = some bs) :
    ∃ b bs', encodeOp k o = some b ∧ encodeOps ks os = some bs' ∧ bs = b ++ bs' := by
  simp only [encodeOps] at h
  split at h
  · rename_i b bs' hb hbs'
    simp at h
    exact ⟨b, bs', hb, hbs', h.symm⟩
  · simp at h

theorem decodeOps_cons {k : FieldKind} {ks : List FieldKind} {bs rest : List Nat} {o : Operand}
    (h : decodeOp k bs = some (o, rest)) :
    decodeOps (k :: ks) bs = (decodeOps ks rest).map (o :: ·) := by
  simp only [decodeOps, h]; cases decodeOps ks rest <;> rfl

theorem decodeOp_append {k : FieldKind} {bs r : List Nat} {o : Operand} (rest : List Nat)
    (h : decodeOp k bs = some (o, r)) : decodeOp k (bs ++ rest) = some (o, r ++ rest) := by
  unfold decodeOp at h
  split at h <;> cases h <;> rfl

theorem decodeOps_encodeOps (ks : List FieldKind) (os : List Operand) (bs rest : List Nat)
    (h : encodeOps ks os = some bs) : decodeOps ks (bs ++ rest) = some os := by
  induction ks generalizing os bs with
  | nil => cases os <;> simp [encodeOps] at h; simp [decodeOps]
  | cons k ks ih =>
    cases os with
    | nil => simp [encodeOps] at h
    | cons o os =>
      obtain ⟨b, bs', hb, hbs', rfl⟩ := encodeOps_cons_some h
      rw [List.append_assoc, decodeOps_cons (decodeOp_encodeOp k o b _ hb), ih os bs' hbs']; rfl

theorem encodeOps_length (ks : List FieldKind) (os : List Operand) (bs : List Nat)
    (h : encodeOps ks os = some bs) : bs.length = shapeSize ks := by
  induction ks generalizing os bs with
  | nil => cases os <;> simp [encodeOps] at h; simp [h, shapeSize]
  | cons k ks ih =>
    cases os with
    | nil => simp [encodeOps] at h
    | cons o os =>
      obtain ⟨b, bs', hb, hbs', rfl⟩ := encodeOps_cons_some h
      rw [List.length_append, encodeOp_length k o b hb, ih os bs' hbs', shapeSize_cons]

theorem encodeOp_isSome (k : FieldKind) (o : Operand) :
    (encodeOp k o).isSome = InRangeOp k o := by
  unfold encodeOp
  by_cases hr : InRangeOp k o = true
  · simp only [hr, if_true]; cases o <;> simp only [] <;> (try split) <;> rfl
  · simp at hr; simp [hr]

theorem encodeOps_isSome (ks : List FieldKind) (os : List Operand) :
    (encodeOps ks os).isSome = InRangeOps ks os := by
  induction ks generalizing os with
  | nil => cases os <;> simp [encodeOps, InRangeOps]
  | cons k ks ih =>
    cases os with
    | nil => simp [encodeOps, InRangeOps]
    | cons o os =>
      simp only [encodeOps, InRangeOps]
      rw [← ih os, ← encodeOp_isSome]
      cases encodeOp k o <;> cases encodeOps ks os <;> simp

theorem inRangeOps_iff {ks : List FieldKind} {os : List Operand} :
    InRangeOps ks os = true ↔ os.length = ks.length ∧
      ∀ (j : Nat) k o, ks[j]? = some k → os[j]? = some o → InRangeOp k o = true := by
  induction ks generalizing os with
  | nil => cases os <;> simp [InRangeOps]
  | cons k ks ih => cases os with
    | nil => simp [InRangeOps]
    | cons o os =>
      rw [InRangeOps, Bool.and_eq_true, ih]
      refine ⟨fun ⟨h0, hl, h⟩ => ⟨congrArg (· + 1) hl, fun j => ?_⟩,
        fun ⟨hl, h⟩ => ⟨h 0 k o rfl rfl, Nat.succ.inj hl, fun j => h (j + 1)⟩⟩
      cases j with
      | zero => rintro _ _ ⟨⟩ ⟨⟩; exact h0
      | succ j => exact h j

theorem encodeOps_none_of_false (ks : List FieldKind) (os : List Operand)
    (h : InRangeOps ks os = false) : encodeOps ks os = none := by
  simpa [h] using encodeOps_isSome ks os

theorem encodeRow_some {row ops bs} (h : encodeRow row ops = some bs) :
    ∃ body, encodeOps row.shape ops = some body ∧ row.opcode < 256 ∧ body.length ≤ 6 ∧
      bs = row.opcode :: (body ++ List.replicate (6 - body.length) 0) := by
  unfold encodeRow at h
  split at h
  · rename_i body hb
    split at h
    · rename_i hc
      simp at h
      exact ⟨body, hb, hc.1, hc.2, h.symm⟩
    · simp at h
  · simp at h

theorem encodeRow_length (row : Row) (ops : List Operand) (bs : List Nat)
    (h : encodeRow row ops = some bs) : bs.length = 7 := by
  obtain ⟨body, _, _, hl, rfl⟩ := encodeRow_some h
  simp; omega

end NQ
