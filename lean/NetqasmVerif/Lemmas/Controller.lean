/-
Lemmas about the composed controller model (`Model/Controller.lean`): shape of the EPR instructions and
of one consumption, the induction over the response loop, what a consumption does to the reserved set (through
`Exec.keepResp`). That controller runs move the book only by `Book.Step` is in `Lemmas/ControllerBook.lean`.
-/
import NetqasmVerif.Model.Controller
import NetqasmVerif.Lemmas.EprExecBridge
namespace NQ.Ctl
open NQ NQ.Exec

theorem ofCond_ok {c c' : CState} {pc pc' : Int} {r : Except CFault Bool} (h : ofCond c pc r = .ok c' pc') :
    pc' = pc + 1 ∧ c' = c := by
  unfold ofCond at h
  split at h
  · cases h
  · cases h; exact ⟨rfl, rfl⟩
  · cases h

/-- what a successful EPR / wait instruction does: the `Exec` state and the subroutine table are
untouched; the book is untouched (waits) or gains exactly one request at the back of one queue -/
theorem eprStep_ok {cfg : Cfg} {c c' : CState} {sub a : Nat} {pc pc' : Int} {ei : CInstr}
    (h : eprStep cfg c sub a pc ei = .ok c' pc') :
    pc' = pc + 1 ∧ (c' = c ∨ ∃ κ res q n, c' = enqueue c κ sub res q n) := by
  cases ei with
  | base i => simp [eprStep] at h
  | measBasis q cr i0 i1 i2 i3 => simp [eprStep] at h
  | createEpr r0 r1 r2 r3 r4 =>
    simp only [eprStep] at h
    split at h
    · cases h
    · rename_i ap _
      unfold createEpr at h
      split at h
      all_goals try dsimp only at h
      · split at h
        · cases h
        · split at h
          · cases h
          · split at h
            · split at h
              · injection h with h1 h2
                exact ⟨h2.symm, Or.inr ⟨_, _, _, _, h1.symm⟩⟩
              · cases h
            · cases h
      · cases h
  | recvEpr r0 r1 r2 r4 =>
    simp only [eprStep] at h
    split at h
    · cases h
    · unfold recvEpr at h
      split at h
      · split at h
        · cases h
        · injection h with h1 h2
          exact ⟨h2.symm, Or.inr ⟨_, _, _, _, h1.symm⟩⟩
      · cases h
  | waitAll ad lo hi | waitAny ad lo hi =>
    simp only [eprStep] at h
    split at h
    · cases h
    · split at h
      · exact ⟨(ofCond_ok h).1, .inl (ofCond_ok h).2⟩
      · cases h
  | waitSingle ad ix =>
    simp only [eprStep] at h
    split at h
    · cases h
    · exact ⟨(ofCond_ok h).1, .inl (ofCond_ok h).2⟩

theorem enqueue_s (c : CState) (κ : Epr.Key) (sub : Nat) (res : Int) (q : Option Int) (n : Int) :
    (enqueue c κ sub res q n).s = c.s ∧ (enqueue c κ sub res q n).subs = c.subs := ⟨rfl, rfl⟩

theorem view_unitRel (c : CState) (hd : Epr.Req) {app : Nat} {ap : App} (hap : c.s.apps app = some ap) :
    Bridge.UnitRel (view c hd app ap) c.s := by
  constructor
  · intro a m hm
    simp only [view, Book.toEpr, Epr.getApp] at hm
    split at hm
    · rename_i ha
      injection hm with hm
      subst hm
      exact ⟨ap, by rw [← ha]; exact hap, rfl⟩
    · cases hm
  · intro q
    simp only [view, Book.toEpr, List.mem_map]
    constructor
    · rintro ⟨x, hx, hxe⟩
      have : x = q := Int.ofNat_inj.mp hxe
      rw [← this]; exact hx
    · intro hq; exact ⟨q, hq, rfl⟩

/-- What `tryHandle … = .yes c'` tells, by name: the response's queue has head `hd`; the issuing subroutine's
application `app` is live with memory `ap`; the EPR model consumes the response on the view (`epr`) and logs
`ev`; `s1` is the `Exec` state after the keep handler (if the event maps a qubit); `c'` commits all of it. -/
structure Handled (cfg : Cfg) (c c' : CState) (r : Epr.Resp) (hd : Epr.Req) (rest : List Epr.Req) (app : Nat)
    (ap : App) (e' : Epr.State) (arr' : Epr.Arr) (ev : Epr.Event) (s1 : Exec.State) (ap1 : App) : Prop where
  queue : Epr.getQ c.book.queues (Epr.keyOf c.book.nodeId r) = hd :: rest
  live : liveApp c hd.sub = some app
  mem : c.s.apps app = some ap
  phys : ¬ (r.ty = .K ∧ r.phys < 0)
  epr : Epr.tryHandle cfg.okf (view c hd app ap) r = .yes e'
  event : e'.log.getLast? = some ev
  exec : s1 = (match ev.vq with
            | some pos => (Exec.keepResp c.s app (pos : Int) r.phys.toNat).1
            | none => c.s)
  mem1 : s1.apps app = some ap1
  eq : c' = commit c s1 app ap1 hd.resAddr arr' e'

theorem tryHandle_yes {cfg : Cfg} {c c' : CState} {r : Epr.Resp} (h : tryHandle cfg c r = .yes c') :
    ∃ hd rest app ap e' arr' ev s1 ap1, Handled cfg c c' r hd rest app ap e' arr' ev s1 ap1 := by
  unfold tryHandle at h
  split at h
  · cases h
  · rename_i hd rest hq
    split at h
    · cases h
    · rename_i app hlive
      split at h
      · cases h
      · rename_i ap hap
        split at h
        · cases h
        · rename_i hneg
          split at h
          · cases h
          · cases h
          · rename_i e' hy
            split at h
            · rename_i arr' ev harr hev
              simp only at h
              split at h
              · cases h
              · rename_i ap1 hap1
                injection h with h
                exact ⟨hd, rest, app, ap, e', arr', ev, _, ap1, hq, hlive, hap, hneg, hy, hev, rfl, hap1, h.symm⟩
            · cases h

inductive Reach (cfg : Cfg) (node : Int) : CState → Prop
  | init : Reach cfg node (Ctl.init node)
  | step {c c' : CState} {a : CAction} : Reach cfg node c → Ctl.apply cfg c a = some c' → Reach cfg node c'

theorem scan_did {cfg : Cfg} {c c'' : CState} : ∀ (l pre : List Epr.Resp), scan cfg c pre l = .did c'' →
    ∃ pre' r rest c', l = pre' ++ r :: rest ∧ tryHandle cfg c r = .yes c' ∧
      c'' = { c' with book := { c'.book with pending := pre ++ pre' ++ rest } } := by
  intro l
  induction l with
  | nil => intro pre h; simp [scan] at h
  | cons r rest ih =>
    intro pre h
    unfold scan at h
    split at h
    · cases h
    · obtain ⟨pre', r', rest', c', hl, hy, hc⟩ := ih (pre ++ [r]) h
      exact ⟨r :: pre', r', rest', c', by simp [hl], hy, by simpa using hc⟩
    · rename_i c' hy
      injection h with h
      exact ⟨[], r, rest, c', rfl, hy, by simpa using h.symm⟩

theorem handlePendingFuel_induct {cfg : Cfg} (P : CState → Prop)
    (hstep : ∀ c c1, P c → handleOne cfg c = .did c1 → P c1) :
    ∀ (n : Nat) (c c' : CState), P c → handlePendingFuel cfg n c = some c' → P c' := by
  intro n
  induction n with
  | zero => intro c c' hP h; cases h; exact hP
  | succ n ih =>
    intro c c' hP h
    unfold handlePendingFuel at h
    split at h
    · cases h
    · cases h; exact hP
    · exact ih _ c' (hstep c _ hP ‹_›) h

/-- `Exec.keepResp` takes at most the delivered qubit out of the reserved set -/
theorem keepResp_reserved (s : Exec.State) (a : Nat) (v : Int) (p q : Nat) (hq : q ∈ s.reserved) (hne : q ≠ p) :
    q ∈ (Exec.keepResp s a v p).1.reserved := by
  rcases Exec.keepResp_spec s a v p with h | ⟨h, _⟩ | ⟨ap, k, _, _, _, h⟩ <;> rw [h]
  · exact hq
  · exact hq
  · exact List.mem_filter.2 ⟨hq, by simpa using hne⟩

/-- a unit-module position is recorded in the history only for keep responses -/
theorem vq_some_is_keep {okf : Nat} {e e' : Epr.State} {r : Epr.Resp} {ev : Epr.Event} {pos : Nat}
    (hc : Epr.Consumed okf e r e') (hev : e'.log.getLast? = some ev) (hvq : ev.vq = some pos) : r.ty = .K := by
  obtain ⟨hd2, rest2, app2, m2, m1, used1, vq, prev, arr, arr2, c⟩ := hc.parts
  have hs := c.eq
  subst hs
  simp only [List.getLast?_append, List.getLast?_singleton, Option.some_or, Option.some.injEq] at hev
  subst hev
  cases hty' : r.ty with
  | K => rfl
  | M => have := (c.meas hty').2.2.1; simp only at hvq; rw [this] at hvq; cases hvq
  | other => exact absurd hty' c.ty

theorem tryHandle_yes_reserved {cfg : Cfg} {c c' : CState} {r : Epr.Resp} (h : tryHandle cfg c r = .yes c')
    (q : Nat) (hq : q ∈ c.s.reserved) (hne : r.ty = .K → q ≠ r.phys.toNat) : q ∈ c'.s.reserved := by
  obtain ⟨hd, rest, app, ap, e', arr', ev, s1, ap1, hh⟩ := tryHandle_yes h
  rw [hh.eq]
  show q ∈ s1.reserved
  rw [hh.exec]
  cases hvq : ev.vq with
  | none => exact hq
  | some pos =>
    simp only
    exact keepResp_reserved c.s app pos r.phys.toNat q hq
      (hne (vq_some_is_keep (Epr.tryHandle_yes hh.epr) hh.event hvq))

end NQ.Ctl
