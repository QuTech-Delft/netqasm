/-
The notions in which C14 `temps_disjoint` is lifted from the allocation level to the EMITTED COMMANDS
(`writeOf`, `TmpIn`, `WritesTmp`, `WritesOK` and their rules): no command emitted for an operation writes an R
register that is active when the operation starts (i.e. a live loop / condition register of an enclosing
operation, or a `new_register()` register) — except a `RegFuture.add`, which writes the register of its handle on
purpose. The statement for `emit` is `emit_writes` (Lemmas/SdkSpec.lean).
-/
import NetqasmVerif.Lemmas.SdkInv
namespace NQ.Sdk

def writeOf : PCmd → Option Reg
  | .instr .set (.reg r :: _) => some r
  | .instr .load (.reg r :: _) => some r
  | .instr .add (.reg r :: _) => some r
  | .instr .addm (.reg r :: _) => some r
  | .instr .meas [_, .reg r] => some r
  | _ => none

def TmpIn (a : List Bool) (x : Reg) : Prop := x.bank = 0 ∧ a.getD x.idx true = false

theorem getD_of_set_true {a : List Bool} {t i : Nat} (h : (a.set t true).getD i true = false) :
    a.getD i true = false := by
  by_cases e : t = i
  · subst e
    by_cases hl : t < a.length
    · rw [getD_set_self hl] at h; cases h
    · have : (a.set t true).length ≤ t := by simpa using Nat.le_of_not_lt hl
      simp [List.getD, List.getElem?_eq_none this] at h
  · rwa [getD_set_ne e] at h

theorem TmpIn.of_set {a : List Bool} {t : Nat} {x : Reg} (h : TmpIn (a.set t true) x) : TmpIn a x :=
  ⟨h.1, getD_of_set_true h.2⟩

theorem TmpIn.not_active {a : List Bool} {x : Reg} (h : TmpIn a x) : ¬ a.getD x.idx false = true := by
  intro hc
  have hl := getD_false_true_lt hc
  have h2 := h.2
  simp [List.getD, List.getElem?_eq_getElem hl] at hc h2
  rw [hc] at h2; cases h2

def WritesTmp (a : List Bool) (dst : Option Reg) (cs : List PCmd) : Prop :=
  ∀ c ∈ cs, ∀ x, writeOf c = some x → some x = dst ∨ TmpIn a x

theorem WritesTmp.nil (a : List Bool) (d : Option Reg) : WritesTmp a d [] := by intro c hc; cases hc

theorem WritesTmp.append {a : List Bool} {d : Option Reg} {x y : List PCmd}
    (hx : WritesTmp a d x) (hy : WritesTmp a d y) : WritesTmp a d (x ++ y) := by
  intro c hc
  rcases List.mem_append.mp hc with h | h
  · exact hx c h
  · exact hy c h

theorem WritesTmp.weaken {a : List Bool} {d d' : Option Reg} {x : List PCmd}
    (hx : WritesTmp a d x) (hd : ∀ r, d = some r → d' = some r ∨ TmpIn a r) : WritesTmp a d' x := by
  intro c hc r hr
  rcases hx c hc r hr with h | h
  · rcases hd r h.symm with h2 | h2
    · exact Or.inl h2.symm
    · exact Or.inr h2
  · exact Or.inr h

theorem WritesTmp.of_set {a : List Bool} {t : Nat} {d : Option Reg} {x : List PCmd}
    (hx : WritesTmp (a.set t true) d x) : WritesTmp a d x := by
  intro c hc r hr
  rcases hx c hc r hr with h | h
  · exact Or.inl h
  · exact Or.inr h.of_set

theorem WritesTmp.of_eq_set {a b : List Bool} {t : Nat} {d : Option Reg} {x : List PCmd}
    (hb : b = a.set t true) (hx : WritesTmp b d x) : WritesTmp a d x := by
  subst hb; exact hx.of_set

theorem WritesTmp.single {a : List Bool} {d : Option Reg} {c : PCmd}
    (h : ∀ x, writeOf c = some x → some x = d ∨ TmpIn a x) : WritesTmp a d [c] := by
  intro c' hc; simp at hc; subst hc; exact h

/-- the handles that a `RegFuture.add` inside `op` is applied to -/
def addTargets : Host → List Nat
  | .seq a b => addTargets a ++ addTargets b
  | .addR h _ _ => [h]
  | .ifc _ _ _ _ body => addTargets body
  | .loop _ _ _ _ body => addTargets body
  | .loopBody _ _ _ _ body => addTargets body
  | .foreach _ _ body => addTargets body
  | .loopUntil _ body _ _ cl => addTargets body ++ addTargets cl
  | .tryUntil _ body => addTargets body
  | _ => []

/-- a write to an R register active in `a` goes to the register of a handle in `tg` (`H` = the handle
table), i.e. it is the `add` of a `RegFuture.add` on that handle -/
def WritesOK (a : List Bool) (H : List (Reg × Bool)) (tg : List Nat) (cs : List PCmd) : Prop :=
  ∀ c ∈ cs, ∀ x, writeOf c = some x → x.bank = 0 → a.getD x.idx false = true →
    ∃ h ∈ tg, ∃ b, H[h]? = some (x, b)

theorem WritesOK.of_tmp {a : List Bool} {H : List (Reg × Bool)} {tg : List Nat} {cs : List PCmd}
    (h : WritesTmp a none cs) : WritesOK a H tg cs := by
  intro c hc x hx _ hact
  rcases h c hc x hx with h1 | h1
  · cases h1
  · exact absurd hact h1.not_active

theorem WritesOK.of_tmp_dst {a : List Bool} {H : List (Reg × Bool)} {tg : List Nat} {cs : List PCmd}
    {d : Reg} (h : WritesTmp a (some d) cs) (hd : d.bank ≠ 0 ∨ TmpIn a d) : WritesOK a H tg cs := by
  intro c hc x hx hb hact
  rcases h c hc x hx with h1 | h1
  · simp at h1; subst h1
    rcases hd with h2 | h2
    · exact absurd hb h2
    · exact absurd hact h2.not_active
  · exact absurd hact h1.not_active

theorem WritesOK.append {a : List Bool} {H : List (Reg × Bool)} {tg : List Nat} {x y : List PCmd}
    (hx : WritesOK a H tg x) (hy : WritesOK a H tg y) : WritesOK a H tg (x ++ y) := by
  intro c hc
  rcases List.mem_append.mp hc with h | h
  · exact hx c h
  · exact hy c h

theorem WritesOK.nowrite {a : List Bool} {H : List (Reg × Bool)} {tg : List Nat} {cs : List PCmd}
    (h : ∀ c ∈ cs, writeOf c = none) : WritesOK a H tg cs := by
  intro c hc x hx
  rw [h c hc] at hx; cases hx

theorem WritesOK.mono {a a' : List Bool} {H H' : List (Reg × Bool)} {tg tg' : List Nat} {cs : List PCmd}
    (h : WritesOK a' H tg cs) (ha : Sub a a') (hH : Ext H H') (ht : ∀ k ∈ tg, k ∈ tg') : WritesOK a H' tg' cs := by
  intro c hc x hx hb hact
  obtain ⟨k, hk, b, hkb⟩ := h c hc x hx hb (ha _ hact)
  exact ⟨k, ht k hk, b, hH k _ hkb⟩

theorem WritesOK.of_bank {a : List Bool} {H : List (Reg × Bool)} {tg : List Nat} {cs : List PCmd}
    (h : ∀ c ∈ cs, ∀ x, writeOf c = some x → x.bank ≠ 0) : WritesOK a H tg cs := by
  intro c hc x hx hb
  exact absurd hb (h c hc x hx)

theorem WritesTmp.of_took {m m1 : Mem} {t : Option Nat} {d : Option Reg} {x : List PCmd}
    (ht : Took m m1 t) (hx : WritesTmp m1.active d x) : WritesTmp m.active d x := by
  cases t with
  | none => rw [← (ht : m1.active = m.active)]; exact hx
  | some t => exact hx.of_eq_set ht.2

theorem negBranch_write (c : Cond) (ops : List POp) : writeOf (.instr (negBranch c) ops) = none := by
  cases c <;> rfl

theorem addInstr_write (r : Reg) (o : POp) (md : Option Int) : writeOf (addInstr r o md) = some r := by
  cases md <;> rfl

theorem measHead_writes (g : List Nat) (k : Nat) :
    ∀ c ∈ measHead g k, ∀ x, writeOf c = some x → x.bank ≠ 0 := by
  have hg : ∀ gs, ∀ c ∈ gateCmds gs, ∀ x, writeOf c = some x → x.bank ≠ 0 := by
    intro gs
    induction gs with
    | nil => intro c hc; cases hc
    | cons g gs ih =>
      intro c hc x hx
      simp only [gateCmds, List.cons_append, List.nil_append, List.mem_cons] at hc
      rcases hc with rfl | rfl | hc
      · cases hx; simp [Q0]
      · cases hx
      · exact ih c hc x hx
  intro c hc x hx
  simp only [measHead, List.mem_append, List.mem_cons, List.not_mem_nil, or_false] at hc
  rcases hc with ((rfl | rfl | rfl) | hc) | rfl | rfl | rfl
  · cases hx; simp [Q0]
  · cases hx
  · cases hx
  · exact hg g c hc x hx
  · cases hx; simp [Q0]
  · cases hx; simp [M]
  · cases hx

theorem WritesOK.of_only {a : List Bool} {H : List (Reg × Bool)} {tg : List Nat} {cs : List PCmd} {r : Reg}
    (hr : TmpIn a r) (h : ∀ c ∈ cs, ∀ x, writeOf c = some x → x = r) : WritesOK a H tg cs := by
  intro c hc x hx _ hact
  obtain rfl := h c hc x hx
  exact absurd hact hr.not_active

theorem loopEntry_only (r : Reg) (s e : Int) (le lx : Lbl) :
    ∀ c ∈ [PCmd.instr .set [.reg r, .lit s], .label le, .instr .beq [.reg r, .lit e, .lab lx]],
      ∀ x, writeOf c = some x → x = r := by
  intro c hc x hx
  simp only [List.mem_cons, List.not_mem_nil, or_false] at hc
  rcases hc with rfl | rfl | rfl
  · cases hx; rfl
  · cases hx
  · cases hx

theorem loopExit_only (r : Reg) (d : Int) (le lx : Lbl) :
    ∀ c ∈ [PCmd.instr .add [.reg r, .reg r, .lit d], .instr .jmp [.lab le], .label lx],
      ∀ x, writeOf c = some x → x = r := by
  intro c hc x hx
  simp only [List.mem_cons, List.not_mem_nil, or_false] at hc
  rcases hc with rfl | rfl | rfl
  · cases hx; rfl
  · cases hx
  · cases hx

theorem buildLoop_writes {a : List Bool} {H : List (Reg × Bool)} {tg : List Nat}
    (m : Mem) (s e d : Int) (i : Nat) (body : List PCmd)
    (hi : TmpIn a (R i)) (hb : WritesOK a H tg body) :
    WritesOK a H tg (buildLoop m s e d (R i) body).2 := by
  unfold buildLoop
  split
  · intro c hc; cases hc
  · exact ((WritesOK.of_only hi (loopEntry_only _ _ _ _ _)).append hb).append (.of_only hi (loopExit_only _ _ _ _))

end NQ.Sdk
