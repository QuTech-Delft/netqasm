/-
C03 text level, body lines of `_create_subroutine`.  `renderCmd` writes one proto command per line:
`L:` for a label, `mn(a₁,…,aₖ) op₁ … opₙ` for an instruction (no brackets when there are no
arguments).  An instruction line is `joinWith ' '` of the head word `mn` / `mn(a₁,…,aₖ)` (`headWord`)
and the operand words, and `group_by_word` gives these words back (`groupByWord_words`), so lines
with and without arguments are one theorem, `parseBodyLine_instr`; with `parseBodyLine_label` every
rendered body is read back (`parseBody_render`).  The preamble and the whole text:
Lemmas/AsmFrontText.lean.
-/
import NetqasmVerif.Model.AsmFront
import NetqasmVerif.Lemmas.TextSourceLine
namespace NQ.AsmFront
open NQ NQ.AsmText NQ.Text

variable {S : Syms}

theorem ofTok_tokOfP (o : Asm.POperand) (ho : pOpOk S o) : ofTok (tokOfP o) = o := by
  cases o with
  | tmpl n => exact absurd ho (by simp [pOpOk])
  | lab l => simp [tokOfP, ofTok]
  | entry a i => cases i <;> rfl
  | slice a s e => cases s <;> cases e <;> rfl
  | _ => rfl

theorem map_ofTok_tokOfP (ops : List Asm.POperand) (ho : ∀ o ∈ ops, pOpOk S o) :
    (ops.map tokOfP).map ofTok = ops := by
  induction ops with
  | nil => rfl
  | cons o os ih =>
    simp only [List.map_cons, ofTok_tokOfP o (ho o (by simp)), ih (fun o' h => ho o' (by simp [h]))]

/-- a label name the code accepts: a variable name (so it contains no `:`) -/
def labelOk (l : String) : Prop := isVarName l.toList = true

theorem varName_no_branch (hX : SrcSyms S) {l : List Char} (h : isVarName l = true) :
    S.branchEnd ∉ l := by
  intro hin
  have hc := isVarName_chars h _ hin
  obtain ⟨_, _, hXb, _⟩ := srcSymsOk_iff.1 hX.src
  simp only [Bool.or_eq_true, decide_eq_true_eq] at hc
  rcases hc with (hc | hc) | hc
  · rw [hXb.1] at hc; cases hc
  · rw [hX.sok.branch.1] at hc; cases hc
  · exact hXb.2 hc

theorem dropWhile_rev_label {l : List Char} {b : Char} (h : b ∉ l) :
    ((l ++ [b]).reverse.dropWhile (· = b)).reverse = l :=
  (dropWhileEnd_concat_true (p := fun x => decide (x = b)) l (by simp)).trans
    (dropWhileEnd_all_false fun c hc => by simpa using fun e : c = b => h (e ▸ hc))

theorem parseBodyLine_label (hX : SrcSyms S) (generic : List String) (l : String)
    (hl : labelOk l) : parseBodyLine S generic (l.toList ++ [S.branchEnd]) = .ok (.label l) := by
  have hne : l.toList ≠ [] := by
    intro e; simp [labelOk, e, isVarName] at hl
  have hnb := varName_no_branch hX hl
  simp only [parseBodyLine, List.getLast?_concat, if_true, dropWhile_rev_label hnb]
  cases hll : l.toList with
  | nil => exact absurd hll hne
  | cons c cs =>
    have : isVarName (c :: cs) = true := by rw [← hll]; exact hl
    simp only [isVariableName, this]
    rw [← hll, String.ofList_toList]

/-- `a₁,a₂,…,aₖ` -/
def argsBody : List Int → List Char
  | [] => []
  | [a] => showInt a
  | a :: as => showInt a ++ ',' :: argsBody as

/-- `(a₁,…,aₖ)`, nothing for an empty argument list -/
def showArgs (ob cb : Char) (as : List Int) : List Char :=
  if as.isEmpty then [] else ob :: argsBody as ++ [cb]

theorem argsBody_chars (as : List Int) : ∀ c ∈ argsBody as, numChar c = true ∨ c = ',' := by
  induction as with
  | nil => simp [argsBody]
  | cons a rest ih =>
    cases rest with
    | nil => intro c hc; exact Or.inl (showInt_chars a c hc)
    | cons b bs =>
      intro c hc
      simp only [argsBody, List.mem_append, List.mem_cons] at hc
      rcases hc with hc | hc | hc
      · exact Or.inl (showInt_chars a c hc)
      · exact Or.inr hc
      · exact ih c hc

theorem comma_notin_showInt (v : Int) : ',' ∉ showInt v := notin_of_class (showInt_chars v) (by decide)

theorem splitOn_argsBody (a : Int) (as : List Int) :
    Text.splitOn ',' (argsBody (a :: as)) = (a :: as).map showInt := by
  induction as generalizing a with
  | nil => simp [argsBody, splitOn_notin (comma_notin_showInt a)]
  | cons b bs ih =>
    simp only [argsBody, List.map_cons]
    rw [splitOn_append (comma_notin_showInt a), ih b]
    rfl

theorem numChar_not_asmSpace {c : Char} (h : numChar c = true) : AsmText.isSpace c = false :=
  not_asmSpace_of_class (p := numChar) (by decide) h

theorem mnChar_not_asmSpace {c : Char} (h : mnCharOk c = true) : AsmText.isSpace c = false :=
  not_asmSpace_of_class (p := mnCharOk) (by decide) h

theorem asm_strip_showInt (v : Int) : AsmText.strip (showInt v) = showInt v :=
  trim_joinWith (sep := ' ') (ws := [showInt v]) (by simp) (List.forall_mem_singleton.2
    ⟨showInt_ne_nil v, fun c h => numChar_not_asmSpace (showInt_chars v c h)⟩)

theorem parseArgsList_show (as : List Int) : parseArgsList (as.map showInt) = .ok as := by
  induction as with
  | nil => rfl
  | cons a rest ih => simp [parseArgsList, asm_strip_showInt, parseConst_showInt, ih]

theorem stripChars_wrapped {p : Char → Bool} {ob cb : Char} {B : List Char} (hob : p ob = true)
    (hcb : p cb = true) (hB : ∀ c ∈ B, p c = false) (hne : B ≠ []) : stripChars p (ob :: B ++ [cb]) = B :=
  trim_wrapped hob hcb hB hne

theorem argsBody_ne_nil (a : Int) (as : List Int) : argsBody (a :: as) ≠ [] := by
  cases as with
  | nil => exact showInt_ne_nil a
  | cons b bs =>
    simp only [argsBody]
    cases h : showInt a with
    | nil => exact absurd h (showInt_ne_nil a)
    | cons c cs => simp

/-- `_parse_args` reads a written argument list back -/
theorem parseArgs_show (ob cb : Char) (hob : numChar ob = false ∧ ob ≠ ',') (hcb : numChar cb = false ∧ cb ≠ ',')
    (as : List Int) : parseArgs ob cb (showArgs ob cb as) = .ok as := by
  cases as with
  | nil => rfl
  | cons a rest =>
    have hB : ∀ c ∈ argsBody (a :: rest), (decide (c = ob) || decide (c = cb)) = false := by
      intro c hc
      rcases argsBody_chars _ c hc with h | h
      · simp only [Bool.or_eq_false_iff, decide_eq_false_iff_not]
        exact ⟨fun e => (by rw [e, hob.1] at h; cases h), fun e => (by rw [e, hcb.1] at h; cases h)⟩
      · subst h
        simp only [Bool.or_eq_false_iff, decide_eq_false_iff_not]
        exact ⟨fun e => hob.2 e.symm, fun e => hcb.2 e.symm⟩
    simp only [parseArgs, showArgs, List.isEmpty_cons, Bool.false_eq_true, if_false]
    rw [stripChars_wrapped (by simp) (by simp) hB (argsBody_ne_nil a rest), splitOn_argsBody,
      parseArgsList_show]
    simp

/-- what lines with argument brackets need from the symbols (decidable; generated obligation) -/
def argSymsOk (S : Syms) : Bool :=
  !numChar S.argOpen && !(S.argOpen == ',') && !(S.argOpen == ')') && !(S.branchEnd == ')')

/-- the commands the front end can read back: label names are variable names; mnemonics are
`GenericInstr` names; operands are source operands (`pOpOk`: no templates, label operands that are
not themselves numbers or register names) -/
def CmdOk (S : Syms) (generic : List String) : Asm.PCmd → Prop
  | .label l => labelOk l
  | .instr mn _ ops => HeadOk generic mn ∧ ∀ o ∈ ops, pOpOk S o

def renderCmd (S : Syms) : Asm.PCmd → List Char
  | .label l => l.toList ++ [S.branchEnd]
  | .instr mn args ops => mn.toList ++ showArgs S.argOpen ')' args ++ showSrcOps S ops

/-- the symbols of the live module satisfy what the line theorems need (decided on `Gen.syms`) -/
structure FrontSyms (S : Syms) : Prop extends SrcSyms S where
  arg : argSymsOk S = true

/-- the first word `mn` or `mn(a₁,…,aₖ)` of an instruction line -/
theorem headWord (hS : SOk S) (hA : argSymsOk S = true) {generic : List String} {mn : String}
    (hh : HeadOk generic mn) (as : List Int) :
    GWord S.argOpen ')' (mn.toList ++ showArgs S.argOpen ')' as) ∧
    splitOfBracket S.argOpen ')' (mn.toList ++ showArgs S.argOpen ')' as)
      = some (mn.toList, showArgs S.argOpen ')' as) ∧
    (∃ c cs, mn.toList ++ showArgs S.argOpen ')' as = c :: cs ∧ AsmText.isSpace c = false) ∧
    ∃ l d, mn.toList ++ showArgs S.argOpen ')' as = l ++ [d] ∧ AsmText.isSpace d = false ∧
      d ≠ S.branchEnd := by
  simp only [argSymsOk, Bool.and_eq_true, Bool.not_eq_true', beq_eq_false_iff_ne, ne_eq] at hA
  obtain ⟨⟨⟨hA1, hA2⟩, hA3⟩, hA5⟩ := hA
  have hm := mn_word hS hh
  obtain ⟨c, cs, hc, hcm⟩ := mn_head hh
  have hfirst : AsmText.isSpace c = false := mnChar_not_asmSpace hcm
  cases as with
  | nil =>
    simp only [showArgs, List.isEmpty_nil, if_true, List.append_nil]
    refine ⟨⟨space_notin hm.noSpace, Or.inl hm.noArg⟩, splitOfBracket_none _ _ _ hm.noArg,
      ⟨c, cs, hc, hfirst⟩, ?_⟩
    obtain ⟨l, d, h, hd⟩ := mn_last hh
    exact ⟨l, d, h, mnChar_not_asmSpace hd, (lastOk_facts hS (lastOk_of_mnChar hd)).2⟩
  | cons a as =>
    have hB : ∀ c ∈ argsBody (a :: as), numChar c = true ∨ c = ',' := argsBody_chars _
    have hcb_mn : ')' ∉ mn.toList := fun h => by have := hh.chars _ h; simp [mnCharOk, isDigit] at this
    have hcb_B : ')' ∉ argsBody (a :: as) := fun h => by
      rcases hB _ h with h | h <;> simp [numChar, isDigit] at h
    have hsp_B : ' ' ∉ argsBody (a :: as) := fun h => by
      rcases hB _ h with h | h <;> simp [numChar, isDigit] at h
    have hW : mn.toList ++ showArgs S.argOpen ')' (a :: as)
        = mn.toList ++ S.argOpen :: argsBody (a :: as) ++ [')'] := by simp [showArgs]
    have hW' : mn.toList ++ showArgs S.argOpen ')' (a :: as)
        = mn.toList ++ (S.argOpen :: argsBody (a :: as) ++ [')']) := by simp [showArgs]
    refine ⟨⟨?_, Or.inr ⟨mn.toList, argsBody (a :: as), hW, hm.noArg, ?_⟩⟩, ?_,
      ⟨c, cs ++ showArgs S.argOpen ')' (a :: as), by simp [hc], hfirst⟩,
      ⟨mn.toList ++ S.argOpen :: argsBody (a :: as), ')', hW, by decide, fun e => hA5 e.symm⟩⟩
    · rw [hW]
      simp only [List.mem_append, List.mem_cons, not_or, List.not_mem_nil, or_false]
      exact ⟨⟨space_notin hm.noSpace, fun e => argOpen_ne_space hS e.symm, hsp_B⟩, by decide⟩
    · simp only [List.mem_append, List.mem_cons, not_or]
      exact ⟨hcb_mn, fun e => hA3 e.symm, hcb_B⟩
    · have hfind : findSub [S.argOpen] (mn.toList ++ showArgs S.argOpen ')' (a :: as)) 0
          = some mn.toList.length := by
        rw [hW']; simpa using findSub_single_append S.argOpen mn.toList _ 0 hm.noArg
      have hlast : (mn.toList ++ showArgs S.argOpen ')' (a :: as)).getLast? = some ')' := by
        rw [hW]; exact List.getLast?_concat
      simp only [splitOfBracket, hfind, hlast, if_true, List.take_left' rfl, List.drop_left' rfl]

/-- `_create_subroutine` reads an instruction line back, with or without argument brackets -/
theorem parseBodyLine_instr (hF : FrontSyms S) (generic : List String) (mn : String)
    (hh : HeadOk generic mn) (as : List Int) (ops : List Asm.POperand) (ho : ∀ o ∈ ops, pOpOk S o) :
    parseBodyLine S generic (renderCmd S (.instr mn as ops)) = .ok (.instr mn as ops) := by
  have hS := hF.sok
  obtain ⟨hg, hsplit, hfirst, hlastW⟩ := headWord hS hF.arg hh as
  have hw := fun o h => showPOp_word hF.toSrcSyms o (ho o h)
  have hends : ∀ w ∈ (mn.toList ++ showArgs S.argOpen ')' as) :: ops.map (showPOp S),
      ∃ l d, w = l ++ [d] ∧ AsmText.isSpace d = false ∧ d ≠ S.branchEnd :=
    List.forall_mem_cons.2 ⟨hlastW, fun w h => by
      obtain ⟨o, ho', rfl⟩ := List.mem_map.1 h
      exact showPOp_end hF.toSrcSyms o (ho o ho')⟩
  obtain ⟨l, d, hl, hdsp, hdbr⟩ := joinWith_last ' ' _ (by simp) hends
  obtain ⟨c, cs, hc, hcsp⟩ := joinWith_head ' ' (ops.map (showPOp S)) hfirst
  have hbr : (joinWith ' ' ((mn.toList ++ showArgs S.argOpen ')' as) :: ops.map (showPOp S))).getLast?
      ≠ some S.branchEnd := by
    rw [hl, List.getLast?_concat]; exact fun e => hdbr (Option.some.inj e)
  have hgroup := groupByWord_words S.argOpen ')' _ (by simp)
    (List.forall_mem_cons.2 ⟨hg, fun w h => by
      obtain ⟨o, ho', rfl⟩ := List.mem_map.1 h
      exact ⟨space_notin (hw o ho').noSpace, Or.inl (hw o ho').noArg⟩⟩)
    (asm_strip_of_ends hcsp hdsp ⟨cs, hc⟩ ⟨l, hl⟩)
  have hargs : ∀ ob, numChar ob = false ∧ ob ≠ ',' → parseArgs ob ')' (showArgs ob ')' as) = .ok as :=
    fun ob hob => parseArgs_show ob ')' hob ⟨by decide, by decide⟩ as
  have hA := hF.arg
  simp only [argSymsOk, Bool.and_eq_true, Bool.not_eq_true', beq_eq_false_iff_ne, ne_eq] at hA
  rw [renderCmd, srcLine_join]
  simp only [parseBodyLine, hbr, if_false, hgroup, hsplit, String.ofList_toList, hh.known, if_true,
    hargs _ ⟨hA.1.1.1, hA.1.1.2⟩,
    parseOperandsF, parseOperands_src hS ops ho, map_ofTok_tokOfP ops ho]

theorem parseBodyLine_render (hF : FrontSyms S) (generic : List String) (c : Asm.PCmd) (hc : CmdOk S generic c) :
    parseBodyLine S generic (renderCmd S c) = .ok c := by
  cases c with
  | label l => exact parseBodyLine_label hF.toSrcSyms generic l hc
  | instr mn args ops => exact parseBodyLine_instr hF generic mn hc.1 args ops hc.2

theorem parseBody_render (hF : FrontSyms S) (generic : List String) (P : List Asm.PCmd)
    (hP : ∀ c ∈ P, CmdOk S generic c) : parseBody S generic (P.map (renderCmd S)) = .ok P := by
  induction P with
  | nil => rfl
  | cons c cs ih =>
    simp only [List.map_cons, parseBody, parseBodyLine_render hF generic c (hP c (by simp)),
      ih (fun c' h => hP c' (by simp [h]))]

end NQ.AsmFront
